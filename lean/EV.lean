-- Root of the `EV` library.  Imports by kind — generated constants, models, specifications, proofs,
-- property theorems — and by name within a kind; the order has no effect.
import EV.Gen.Consts
import EV.Model.Compact
import EV.Model.Crash
import EV.Model.Daemon
import EV.Model.HeaderCache
import EV.Model.HistFresh
import EV.Model.Index
import EV.Model.Mempool
import EV.Model.Merkle
import EV.Model.Notif
import EV.Model.Peers
import EV.Model.Reorg
import EV.Model.Rpc
import EV.Model.Shutdown
import EV.Model.ShutdownTask
import EV.Model.SyncLoop
import EV.Model.SyncLoopT
import EV.Model.System
import EV.Model.TxCache
import EV.Model.TxCodec
import EV.Model.Wire
import EV.Spec.Chain
import EV.Proofs.CompactFromRun
import EV.Proofs.CrashBackupRun
import EV.Proofs.CrashResume
import EV.Proofs.HistFresh
import EV.Proofs.IndexFlushUtxo
import EV.Proofs.IndexHist
import EV.Proofs.IndexMap
import EV.Proofs.IndexUndo
import EV.Proofs.Reorg
import EV.Proofs.ShutdownTaskFrom
import EV.Proofs.SystemFix
import EV.Proofs.SystemTip
import EV.Props.C01
import EV.Props.C01audit
import EV.Props.C01run
import EV.Props.C01sync
import EV.Props.C02
import EV.Props.C02audit
import EV.Props.C03
import EV.Props.C03audit
import EV.Props.C03run
import EV.Props.C04
import EV.Props.C04audit
import EV.Props.C04resume
import EV.Props.C05
import EV.Props.C05run
import EV.Props.C06
import EV.Props.C06audit
import EV.Props.C06task
import EV.Props.C07
import EV.Props.C07carrier
import EV.Props.C08
import EV.Props.C08audit
import EV.Props.C08lookup
import EV.Props.C09
import EV.Props.C10
import EV.Props.C10all
import EV.Props.C11
import EV.Props.C11all
import EV.Props.C11bind
import EV.Props.C11tx
import EV.Props.C12
import EV.Props.C12bind
import EV.Props.C13
import EV.Props.C13canon
import EV.Props.C14
import EV.Props.C14audit
import EV.Props.C14run
import EV.Props.C15
import EV.Props.C15audit
import EV.Props.C16
import EV.Props.C17
import EV.Props.C17audit
import EV.Props.C17fresh
import EV.Props.C17retry
import EV.Props.C18
import EV.Props.C18audit
import EV.Props.C19
import EV.Props.C19audit
import EV.Props.C20
import EV.Props.C20audit
import EV.Props.RxScenario
