import EV.Model.SyncLoop
import EV.Proofs.IndexRun

/-! Told-then-visible: helper lemmas (property statements are in `EV/Props/C01sync.lean`). -/
namespace EV.SyncLoop
open EV.Index

/-- every advanced block is a valid next block of the chain built so far -/
def ValidEvs (cfg : Cfg) : List Block → List Ev → Prop
  | _, [] => True
  | chain, .block b _ _ :: r => ValidNext cfg chain b ∧ ValidEvs cfg (chain ++ [b]) r
  | chain, .caughtUp :: r => ValidEvs cfg chain r

def ToldOK (cfg : Cfg) (all : List Block) (t : Int × Sys) : Prop :=
  ∃ chain, chain <+: all ∧ FullInv cfg chain t.2 ∧ Flushed t.2 ∧ t.1 = (chain.length : Int) - 1

theorem run_inv {cfg : Cfg} (evs : List Ev) {chain : List Block} {l : Loop}
    (inv : FullInv cfg chain l.s) (hv : ValidEvs cfg chain evs) :
    ∃ l' ts, run cfg l evs = .ok (l', ts) ∧ FullInv cfg (chain ++ blocksOf evs) l'.s ∧
      ∀ t ∈ ts, ToldOK cfg (chain ++ blocksOf evs) t := by
  induction evs generalizing chain l with
  | nil => exact ⟨l, [], rfl, by simpa [blocksOf] using inv, by simp⟩
  | cons e r ih =>
    cases e with
    | block b d arg =>
      obtain ⟨hb, hr⟩ := hv
      obtain ⟨s1, h1, inv1⟩ := fullInv_advance (daemonH := d) inv hb
      -- the state after the flush, if one was requested
      obtain ⟨s2, h2, inv2⟩ : ∃ s2, step cfg l (.block b d arg) = .ok ({ l with s := s2 }, none) ∧
          FullInv cfg (chain ++ [b]) s2 := by
        cases arg with
        | none => exact ⟨s1, by simp only [step, h1], inv1⟩
        | some a =>
          obtain ⟨s2, h2, inv2⟩ := fullInv_flush inv1 a
          exact ⟨s2, by simp only [step, h1, h2], inv2⟩
      obtain ⟨l', ts, h3, inv3, ht⟩ := ih (l := { l with s := s2 }) inv2 hr
      rw [List.append_assoc] at inv3 ht
      exact ⟨l', ts, by simp only [run, h2, h3, List.nil_append], inv3, ht⟩
    | caughtUp =>
      have inv0 : FullInv cfg chain (clearFirstSync l.s) :=
        fullInv_touched_firstSync inv l.s.m.touched false
      obtain ⟨s1, h1, inv1⟩ := fullInv_flush inv0 true
      have hfl : Flushed s1 := flush_full_flushed inv0 h1
      obtain ⟨l', ts, h2, inv2, ht⟩ := ih (l := { s := s1, caughtUp := true }) inv1 hv
      cases hc : l.caughtUp
      · exact ⟨l', ts, by simp [run, step, h1, hc, h2], inv2, ht⟩
      · refine ⟨l', (s1.m.st.height, s1) :: ts, ?_, inv2, List.forall_mem_cons.mpr ⟨?_, ht⟩⟩
        · simp only [run, step, h1, hc, if_true, h2, List.singleton_append]
        · exact ⟨chain, List.prefix_append _ _, inv1, hfl, inv1.files.height⟩

end EV.SyncLoop
