import EV.Proofs.IndexRunReorg

/-!
C15: the window of blocks that can be backed out.  Pure bookkeeping on `Track` first: over a stretch of
a run without back-outs the committed length only grows (`dbLen_mono`), so every restart prunes below
the final window, and a height above `H − reorgLimit` that is on the chain at the end is retained then
(`kept_window`; `H` bounds the daemon heights seen and the final height).  `backOuts chain k` on a fully
committed chain whose top `k` heights are retained is a valid operation list (`backOuts_valid`).  With
the run theorem: after such a stretch and a full flush, the top `k ≤ reorgLimit` blocks can be backed
out (`reorg_window_run`).
-/
namespace EV.Index
open EV.Spec

def NoBackup (ops : List IOp2) : Prop := ∀ b, IOp2.backup b ∉ ops

def DaemonLe (H : Int) (ops : List IOp2) : Prop := ∀ b d, IOp2.adv b d ∈ ops → d ≤ H

theorem NoBackup.tail {op : IOp2} {r : List IOp2} (h : NoBackup (op :: r)) : NoBackup r :=
  fun b hb => h b (List.mem_cons_of_mem _ hb)

theorem DaemonLe.tail {H : Int} {op : IOp2} {r : List IOp2} (h : DaemonLe H (op :: r)) :
    DaemonLe H r :=
  fun b d hb => h b d (List.mem_cons_of_mem _ hb)

theorem NoBackup.head {op : IOp2} {r : List IOp2} (h : NoBackup (op :: r)) (b : Block) :
    op ≠ .backup b :=
  fun e => h b (e ▸ List.mem_cons_self ..)

theorem Track.step_dbLen (cfg : Cfg) (t : Track) {op : IOp2} (hop : ∀ b, op ≠ .backup b)
    (hdb : t.dbLen ≤ t.chain.length) :
    t.dbLen ≤ (t.step cfg op).dbLen ∧ (t.step cfg op).dbLen ≤ (t.step cfg op).chain.length := by
  cases op with
  | adv b d =>
    refine ⟨Nat.le_refl _, ?_⟩
    show t.dbLen ≤ (t.chain ++ [b]).length
    rw [List.length_append]; exact Nat.le_add_right_of_le hdb
  | flush fu =>
    cases fu
    · exact ⟨Nat.le_refl _, hdb⟩
    · exact ⟨hdb, Nat.le_refl _⟩
  | backup b => exact absurd rfl (hop b)
  | reopen =>
    refine ⟨Nat.le_refl _, ?_⟩
    show t.dbLen ≤ (t.chain.take t.dbLen).length
    rw [List.length_take_of_le hdb]; exact Nat.le_refl _

theorem dbLen_mono (cfg : Cfg) (ops : List IOp2) (t : Track) (hnb : NoBackup ops)
    (hdb : t.dbLen ≤ t.chain.length) :
    t.dbLen ≤ (t.run cfg ops).dbLen ∧ (t.run cfg ops).dbLen ≤ (t.run cfg ops).chain.length := by
  induction ops generalizing t with
  | nil => exact ⟨Nat.le_refl _, hdb⟩
  | cons op r ih =>
    have hstep := t.step_dbLen cfg hnb.head hdb
    have := ih (t.step cfg op) hnb.tail hstep.2
    exact ⟨Nat.le_trans hstep.1 this.1, this.2⟩

/-- Restarts in between included, clean or not: they prune only below their own, lower, window, and
blocks they lose are indexed again during the stretch.  `hin`: `h` was retained at the start of the
stretch, or not yet indexed then. -/
theorem kept_window (cfg : Cfg) (H : Int) (ops : List IOp2) (t : Track) (hnb : NoBackup ops)
    (hd : DaemonLe H ops) (hdb : t.dbLen ≤ t.chain.length)
    (hH : ((t.run cfg ops).chain.length : Int) - 1 ≤ H) (h : Nat)
    (hw : H - cfg.reorgLimit < h) (hfin : h < (t.run cfg ops).chain.length)
    (hin : h < t.chain.length → h ∈ t.kept) :
    h ∈ (t.run cfg ops).kept := by
  induction ops generalizing t with
  | nil => exact hin hfin
  | cons op r ih =>
    rw [Track.run_cons] at hH hfin ⊢
    have hstep := t.step_dbLen cfg hnb.head hdb
    refine ih (t.step cfg op) hnb.tail hd.tail hstep.2 hH hfin ?_
    -- if `h` is on the chain after the step, it is retained after the step
    intro hlt
    cases op with
    | adv b d =>
      have hlt' : h < (t.chain ++ [b]).length := hlt
      rw [List.length_append, List.length_singleton] at hlt'
      apply mem_keptAfterAdv.mpr
      by_cases heq : h = t.chain.length
      · exact Or.inl
          ⟨undoKept_of_window cfg H d _ (hd b d (List.mem_cons_self ..)) (heq ▸ hw), heq⟩
      · exact Or.inr (hin (Nat.lt_of_le_of_ne (Nat.le_of_lt_succ hlt') heq))
    | flush fu => exact hin hlt
    | backup b => exact absurd rfl (hnb.head b)
    | reopen =>
      have hlt' : h < (t.chain.take t.dbLen).length := hlt
      rw [List.length_take_of_le hdb] at hlt'
      -- the restart's window lies below the final one: the committed length only grows
      have hfinal := dbLen_mono cfg r (t.step cfg .reopen) hnb.tail hstep.2
      have hdbH : (t.dbLen : Int) - 1 ≤ H := by
        have h1 : t.dbLen ≤ ((t.step cfg .reopen).run cfg r).dbLen := hfinal.1
        have h2 := hfinal.2
        omega
      exact mem_keptAfterReopen.mpr ⟨hin (Nat.lt_of_lt_of_le hlt' hdb), hlt', by omega⟩

/-- back out the last `k` blocks of `chain`, tip first -/
def backOuts : List Block → Nat → List IOp2
  | _, 0 => []
  | chain, k + 1 =>
    match chain.getLast? with
    | none => []
    | some b => .backup b :: backOuts chain.dropLast k

/-- `n` is positive: height 0 is never backed out -/
theorem backOuts_valid (cfg : Cfg) (k n : Nat) (c : List Block) (K : List Nat) (hn : 0 < n)
    (hlen : c.length = n + k) (hk : ∀ h, n ≤ h → h < c.length → h ∈ K) :
    ValidOps2 cfg ⟨c, K, c.length⟩ (backOuts c k) ∧
    ∃ K', Track.run cfg ⟨c, K, c.length⟩ (backOuts c k) = ⟨c.take n, K', n⟩ := by
  induction k generalizing c K with
  | zero =>
    have hlen' : n = c.length := hlen.symm
    exact ⟨trivial, K, by rw [hlen', List.take_length]; rfl⟩
  | succ k ih =>
    have hm : c.length - 1 = n + k := by rw [hlen]; rfl
    have hdl : c.dropLast.length = n + k := List.length_dropLast.trans hm
    have hne : c ≠ [] := List.ne_nil_of_length_pos (hlen ▸ Nat.succ_pos _)
    have hb := List.getLast?_eq_some_getLast hne
    have hbo : backOuts c (k + 1) = .backup (c.getLast hne) :: backOuts c.dropLast k := by
      simp only [backOuts, hb]
    have hok : BackupOk ⟨c, K, c.length⟩ (c.getLast hne) = true :=
      backupOk_iff.mpr ⟨rfl, hb, (by omega : 2 ≤ c.length),
        (show c.length - 1 ∈ K from hk _ (hm ▸ Nat.le_add_right n k) (by omega))⟩
    obtain ⟨h1, K', h2⟩ := ih c.dropLast (keptAfterBackup (c.length - 1) K) hdl (by
      intro h hlo hhi
      rw [hdl, ← hm] at hhi
      exact mem_keptAfterBackup.mpr ⟨hk h hlo (Nat.lt_of_lt_of_le hhi (Nat.sub_le _ _)), hhi⟩)
    have hstep : Track.step cfg ⟨c, K, c.length⟩ (.backup (c.getLast hne)) =
        ⟨c.dropLast, keptAfterBackup (c.length - 1) K, c.dropLast.length⟩ := by
      rw [hdl, ← hm]; rfl
    rw [hbo]
    refine ⟨⟨hok, hstep ▸ h1⟩, K', ?_⟩
    rw [Track.run_cons, hstep, h2, List.dropLast_eq_take, List.take_take, hm,
      Nat.min_eq_left (Nat.le_add_right n k)]

/-- `hold`: heights of the window that were already indexed before the stretch must have been retained
then (vacuous when the stretch starts from the empty index). -/
theorem reorg_window_run {cfg : Cfg} {t : Track} {s : Sys} (ti : TrackInv cfg t s)
    (ops : List IOp2) (hv : ValidOps2 cfg t ops) (hnb : NoBackup ops) (H : Nat)
    (hH : (chainOf2 t.chain t.dbLen ops).length = H + 1) (hd : DaemonLe H ops)
    (k : Nat) (hk1 : k ≤ cfg.reorgLimit) (hk2 : k ≤ H)
    (hold : ∀ h, H + 1 - k ≤ h → h < t.chain.length → h ∈ t.kept) :
    ValidOps2 cfg t (ops ++ [.flush true] ++ backOuts (chainOf2 t.chain t.dbLen ops) k) ∧
    ∃ s' K', runOps2 cfg s (ops ++ [.flush true] ++ backOuts (chainOf2 t.chain t.dbLen ops) k)
        = .ok s' ∧
      FullInv' cfg ((chainOf2 t.chain t.dbLen ops).take (H + 1 - k)) K' s' ∧
      s'.m.dbst.height = s'.m.st.height := by
  have hrc : (t.run cfg ops).chain = chainOf2 t.chain t.dbLen ops := Track.run_chain cfg t ops
  -- the bookkeeping after the stretch and the full flush: everything is committed
  have hrun1 : t.run cfg (ops ++ [.flush true]) =
      ⟨chainOf2 t.chain t.dbLen ops, (t.run cfg ops).kept, (chainOf2 t.chain t.dbLen ops).length⟩ := by
    rw [Track.run_flushTrue]
    show Track.mk (t.run cfg ops).chain (t.run cfg ops).kept (t.run cfg ops).chain.length = _
    rw [hrc]
  -- the window is retained, so the back-outs are admissible
  obtain ⟨hvb, K', hrun2⟩ := backOuts_valid cfg k (H + 1 - k) (chainOf2 t.chain t.dbLen ops)
    (t.run cfg ops).kept (by omega) (by rw [hH]; omega) (by
      intro h hlo hhi
      rw [hH] at hhi
      exact kept_window cfg (H : Int) ops t hnb hd ti.dbLen_le (by rw [hrc, hH]; omega) h
        (by omega) (by rw [hrc, hH]; exact hhi) (hold h hlo))
  have hvall : ValidOps2 cfg t (ops ++ [.flush true] ++ backOuts (chainOf2 t.chain t.dbLen ops) k) :=
    (validOps2_append cfg t _ _).mpr
      ⟨(validOps2_append cfg t ops [.flush true]).mpr ⟨hv, trivial, trivial⟩, hrun1 ▸ hvb⟩
  refine ⟨hvall, ?_⟩
  obtain ⟨s', hrun, ti'⟩ := trackInv_run _ ti hvall
  rw [Track.run_append, hrun1, hrun2] at ti'
  refine ⟨s', K', hrun, ti'.inv, ti'.flushed ?_⟩
  show H + 1 - k = ((chainOf2 t.chain t.dbLen ops).take (H + 1 - k)).length
  rw [List.length_take, hH, Nat.min_eq_left (Nat.sub_le _ _)]

end EV.Index
