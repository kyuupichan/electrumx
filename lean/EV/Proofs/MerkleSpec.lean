import EV.Proofs.MerkleBits

/-!
C12, part 1: the loop of `branch_and_root` computes the levels of the tree (`pairs`, `lvl`) and
the siblings along the path (`sib`, `specBranch`), and never hits a list subscript out of range.
-/
namespace EV.Merkle

variable {Node : Type} (H : Node → Node → Node)

theorem branchAndRoot_out_of_range {hs : List Node} {i : Int} (len : Option IntArg) (tsc : Bool)
    (h : ¬ (0 ≤ i ∧ i < hs.length)) : branchAndRoot H hs (.int i) len tsc = .error .valueError := by
  simp only [branchAndRoot, h, not_false_eq_true, if_true]

theorem branchAndRoot_ok_range {hs : List Node} {i : Int} {len : Option IntArg} {tsc : Bool}
    {x : List (Elt Node) × Node} (h : branchAndRoot H hs (.int i) len tsc = .ok x) :
    0 ≤ i ∧ i < hs.length := by
  by_contra hc
  rw [branchAndRoot_out_of_range H len tsc hc] at h
  cases h

theorem branchAndRoot_in_range (tsc : Bool) {hs : List Node} {idx : Nat} (h : idx < hs.length)
    (len : Option IntArg) :
    branchAndRoot H hs (.int idx) len tsc =
      match len with
      | none => barLoop H tsc (Nat.clog 2 hs.length) hs idx []
      | some .notInt => .error .typeError
      | some (.int l) =>
        if l < (Nat.clog 2 hs.length : Nat) then .error .valueError else barLoop H tsc l.toNat hs idx [] := by
  have hc : ¬ ¬ (0 ≤ (idx : Int) ∧ (idx : Int) < hs.length) := by omega
  simp only [branchAndRoot, hc, if_false, Int.toNat_natCast,
    branchLengthNat_eq_clog (by omega : 1 ≤ hs.length)]
  cases len with
  | none => rfl
  | some a => cases a <;> rfl

/-- `if len(hashes) & 1: hashes.append(hashes[-1])` -/
def pad : List Node → List Node
  | [] => []
  | [a] => [a, a]
  | a :: b :: rest => a :: b :: pad rest

theorem pairUp_pad (hs : List Node) : pairUp H (pad hs) = .ok (pairs H hs) := by
  fun_induction pairs H hs with
  | case1 => rfl
  | case2 a => rfl
  | case3 a b rest ih => simp only [pad, pairUp, ih]

theorem length_cons_cons_mod_two (a b : Node) (rest : List Node) :
    (a :: b :: rest).length % 2 = rest.length % 2 :=
  Nat.add_mod_right rest.length 2

theorem pad_even : ∀ (hs : List Node), hs.length % 2 = 0 → pad hs = hs
  | [], _ => rfl
  | [_], h => by cases h
  | a :: b :: rest, h => by
    rw [pad, pad_even rest (by rwa [length_cons_cons_mod_two] at h)]

theorem pad_odd : ∀ (hs : List Node), hs.length % 2 = 1 →
    ∃ l, hs.getLast? = some l ∧ pad hs = hs ++ [l]
  | [], h => by cases h
  | [a], _ => ⟨a, rfl, rfl⟩
  | a :: b :: rest, h => by
    obtain ⟨l, h1, h2⟩ := pad_odd rest (by rwa [length_cons_cons_mod_two] at h)
    refine ⟨l, ?_, by rw [pad, h2]; rfl⟩
    cases rest with
    | nil => cases h1
    | cons c rest => rw [List.getLast?_cons_cons, List.getLast?_cons_cons, h1]

/-- element appended to the branch for position `idx` of the level `hs` (junk `star` outside the
    range): the neighbour in the pair; for the last node of an odd level its own duplicate,
    written `*` in TSC format -/
def sib (tsc : Bool) : List Node → Nat → Elt Node
  | [], _ => .star
  | [a], 0 => if tsc then .star else .node a
  | [_], _ + 1 => .star
  | _ :: b :: _, 0 => .node b
  | a :: _ :: _, 1 => .node a
  | _ :: _ :: rest, j + 2 => sib tsc rest j

/-- `idx ^^^ 1 = hs.length` (odd length): the sibling is the copy `pad` appended, the code's test
    `index ^ 1 == len(hashes) - 1` after the `append` -/
theorem sib_eq (tsc : Bool) : ∀ (hs : List Node) (idx : Nat), idx < hs.length →
    ∃ x, (pad hs)[idx ^^^ 1]? = some x ∧
      sib tsc hs idx =
        if tsc = true ∧ hs.length % 2 = 1 ∧ idx ^^^ 1 = hs.length then .star else .node x
  | [], _, h => nomatch h
  | [a], 0, _ => ⟨a, rfl, by cases tsc <;> rfl⟩
  | [a], j + 1, h => nomatch Nat.le_of_succ_le_succ h
  | a :: b :: rest, 0, _ => ⟨b, rfl, by rw [if_neg (fun h => nomatch h.2.2)]; rfl⟩
  | a :: b :: rest, 1, _ => ⟨a, rfl, by rw [if_neg (fun h => nomatch h.2.2)]; rfl⟩
  | a :: b :: rest, j + 2, h => by
    obtain ⟨x, h1, h2⟩ := sib_eq tsc rest j (Nat.lt_of_add_lt_add_right h)
    refine ⟨x, ?_, ?_⟩
    · rw [xor_one_add_two, pad, List.getElem?_cons_succ, List.getElem?_cons_succ, h1]
    · rw [sib, h2, xor_one_add_two, length_cons_cons_mod_two]
      simp only [List.length_cons, Nat.add_right_cancel_iff]

theorem barStep_eq (tsc : Bool) (hs : List Node) (idx : Nat) (h : idx < hs.length) :
    barStep tsc hs idx = .ok (pad hs, sib tsc hs idx) := by
  obtain ⟨x, hx, hsib⟩ := sib_eq tsc hs idx h
  rw [hsib]
  unfold barStep
  by_cases hp : hs.length % 2 = 1
  · obtain ⟨l, h1, h2⟩ := pad_odd hs hp
    rw [h2] at hx ⊢
    simp only [hp, if_true, h1, hx, true_and, List.length_append, List.length_singleton,
      Nat.add_sub_cancel, Bool.and_eq_true, beq_iff_eq]
    by_cases hc : tsc = true ∧ idx ^^^ 1 = hs.length
    · rw [if_pos hc, if_pos hc]
    · rw [if_neg hc, if_neg hc]
  · rw [pad_even hs (by omega)] at hx ⊢
    simp only [hp, if_false, false_and, and_false, hx]

def specBranch (tsc : Bool) : Nat → List Node → Nat → List (Elt Node)
  | 0, _, _ => []
  | n + 1, hs, idx => sib tsc hs idx :: specBranch tsc n (pairs H hs) (idx / 2)

theorem specBranch_length (tsc : Bool) : ∀ (n : Nat) (hs : List Node) (idx : Nat),
    (specBranch H tsc n hs idx).length = n
  | 0, _, _ => rfl
  | n + 1, hs, idx => by rw [specBranch, List.length_cons, specBranch_length tsc n]

theorem half_lt_pairs {hs : List Node} {idx : Nat} (h : idx < hs.length) :
    idx / 2 < (pairs H hs).length := by
  rw [pairs_length]; omega

theorem barLoop_eq (tsc : Bool) : ∀ (n : Nat) (hs : List Node) (idx : Nat) (br : List (Elt Node)),
    idx < hs.length →
    ∃ r, (lvl H n hs).head? = some r ∧
      barLoop H tsc n hs idx br = .ok (br ++ specBranch H tsc n hs idx, r)
  | 0, a :: rest, idx, br, _ => ⟨a, rfl, by rw [specBranch, List.append_nil]; rfl⟩
  | n + 1, hs, idx, br, h => by
    obtain ⟨r, h1, h2⟩ := barLoop_eq tsc n (pairs H hs) (idx / 2) (br ++ [sib tsc hs idx])
      (half_lt_pairs H h)
    refine ⟨r, h1, ?_⟩
    simp only [barLoop, barStep_eq tsc hs idx h, pairUp_pad, Nat.shiftRight_one, h2, specBranch,
      List.append_assoc, List.singleton_append]

theorem lvl_singleton : ∀ (n : Nat) (a : Node), lvl H n [a] = [dupN H n a]
  | 0, _ => rfl
  | n + 1, a => by rw [lvl, pairs, dupN, lvl_singleton n]

theorem lvl_add : ∀ (m n : Nat) (hs : List Node), lvl H (m + n) hs = lvl H n (lvl H m hs)
  | 0, n, hs => by rw [Nat.zero_add]; rfl
  | m + 1, n, hs => by rw [Nat.add_right_comm, lvl, lvl, lvl_add m n]

theorem lvl_length : ∀ (n : Nat) (hs : List Node), (lvl H n hs).length = (hs.length + 2 ^ n - 1) / 2 ^ n
  | 0, hs => by rw [lvl, Nat.pow_zero, Nat.add_sub_cancel, Nat.div_one]
  | n + 1, hs => by
    have hp : 1 ≤ 2 ^ n := Nat.pow_pos (by omega)
    rw [lvl, lvl_length n, pairs_length, Nat.pow_succ, Nat.mul_comm (2 ^ n) 2, ← Nat.div_div_eq_div_mul]
    congr 1
    generalize 2 ^ n = p at hp
    have : hs.length + 2 * p - 1 = hs.length + 1 + 2 * (p - 1) := by omega
    rw [this, Nat.add_mul_div_left _ _ (by omega : 0 < 2), Nat.add_sub_assoc hp]

theorem lvl_root (hs : List Node) (hne : hs ≠ []) : ∀ (n : Nat), Nat.clog 2 hs.length ≤ n →
    lvl H n hs = [dupN H (n - Nat.clog 2 hs.length) (merkleRoot H hs hne)] := by
  fun_induction merkleRoot H hs hne with
  | case1 a _ _ =>
    intro n _
    rw [lvl_singleton, List.length_singleton, clog_one]; rfl
  | case2 a b rest _ _ ih =>
    intro n hn
    have hlen : 2 ≤ (a :: b :: rest).length := Nat.le_add_left 2 rest.length
    rw [clog_step hlen, ← pairs_length H] at hn ⊢
    obtain ⟨m, rfl⟩ : ∃ m, n = m + 1 := ⟨n - 1, by omega⟩
    rw [lvl, ih m (by omega), Nat.add_sub_add_right]

def Elt.get (h : Node) : Elt Node → Node
  | .star => h
  | .node x => x

def stepElt (h : Node) (e : Elt Node) (i : Int) : Node :=
  if i % 2 = 1 then H (e.get h) h else H h (e.get h)

theorem rfpTscLoop_cons (h : Node) (e : Elt Node) (rest : List (Elt Node)) (i : Int) :
    rfpTscLoop H h (e :: rest) i = rfpTscLoop H (stepElt H h e i) rest (i / 2) := by
  cases e with
  | star => rw [rfpTscLoop, stepElt, Elt.get, ite_self]
  | node x => rfl

theorem rfpLoop_cons (h e : Node) (rest : List Node) (i : Int) :
    rfpLoop H h (e :: rest) i = rfpLoop H (stepElt H h (.node e) i) rest (i / 2) := rfl

theorem stepElt_add_two (h : Node) (e : Elt Node) (j : Nat) :
    stepElt H h e ((j + 2 : Nat) : Int) = stepElt H h e j := by
  rw [stepElt, stepElt, Int.natCast_add, show ((2 : Nat) : Int) = 2 from rfl, Int.add_emod_right]

theorem pairs_getElem (tsc : Bool) : ∀ (hs : List Node) (idx : Nat) (h : Node), hs[idx]? = some h →
    (pairs H hs)[idx / 2]? = some (stepElt H h (sib tsc hs idx) idx)
  | [], _, _, hh => by cases hh
  | [a], 0, h, hh => by cases hh; cases tsc <;> rfl
  | [a], j + 1, h, hh => by cases hh
  | a :: b :: rest, 0, h, hh => by cases hh; rfl
  | a :: b :: rest, 1, h, hh => by cases hh; rfl
  | a :: b :: rest, j + 2, h, hh => by
    rw [Nat.add_div_right j (by omega : 0 < 2), pairs, List.getElem?_cons_succ,
      pairs_getElem tsc rest j h hh, sib, stepElt_add_two]

theorem fold_specBranch (tsc : Bool) : ∀ (n : Nat) (hs : List Node) (idx : Nat) (h : Node),
    hs[idx]? = some h →
    ∃ r, (lvl H n hs)[idx / 2 ^ n]? = some r ∧
      rfpTscLoop H h (specBranch H tsc n hs idx) (idx : Int) = (r, ((idx / 2 ^ n : Nat) : Int))
  | 0, hs, idx, h, hh => by
    rw [Nat.pow_zero, Nat.div_one]
    exact ⟨h, hh, rfl⟩
  | n + 1, hs, idx, h, hh => by
    obtain ⟨r, h1, h2⟩ := fold_specBranch tsc n (pairs H hs) (idx / 2) _ (pairs_getElem H tsc hs idx h hh)
    rw [Nat.div_div_eq_div_mul, ← Nat.pow_succ'] at h1 h2
    exact ⟨r, h1, by rw [specBranch, rfpTscLoop_cons]; exact h2⟩

def nodesOf : List (Elt Node) → List Node
  | [] => []
  | .node x :: rest => x :: nodesOf rest
  | .star :: rest => nodesOf rest

theorem specBranch_false : ∀ (n : Nat) (hs : List Node) (idx : Nat), idx < hs.length →
    specBranch H false n hs idx = (nodesOf (specBranch H false n hs idx)).map .node
  | 0, _, _, _ => rfl
  | n + 1, hs, idx, h => by
    obtain ⟨x, _, hx⟩ := sib_eq false hs idx h
    rw [specBranch, hx, if_neg (fun h => nomatch h.1), nodesOf, List.map_cons,
      ← specBranch_false n _ _ (half_lt_pairs H h)]

theorem nodesOf_specBranch_length (n : Nat) {hs : List Node} {idx : Nat} (h : idx < hs.length) :
    (nodesOf (specBranch H false n hs idx)).length = n := by
  rw [← List.length_map (f := Elt.node), ← specBranch_false H n hs idx h, specBranch_length]

theorem rfpTscLoop_nodes : ∀ (br : List Node) (h : Node) (i : Int),
    rfpTscLoop H h (br.map .node) i = rfpLoop H h br i
  | [], _, _ => rfl
  | e :: rest, h, i => by rw [List.map_cons, rfpTscLoop, rfpLoop, rfpTscLoop_nodes rest]

theorem sib_tsc (hs : List Node) (idx : Nat) (h : idx < hs.length) :
    sib true hs idx = if hs.length % 2 = 1 ∧ idx = hs.length - 1 then .star else sib false hs idx := by
  obtain ⟨x, hx, ht⟩ := sib_eq true hs idx h
  obtain ⟨y, hy, hf⟩ := sib_eq false hs idx h
  cases hx.symm.trans hy
  rw [ht, hf]
  by_cases hp : hs.length % 2 = 1
  · simp only [hp, true_and, Bool.false_eq_true, false_and, if_false, xor_one_eq_iff hp]
  · simp only [hp, false_and, and_false, if_false]

theorem isDup_succ (hs : List Node) (idx k : Nat) :
    isDup H hs idx (k + 1) ↔ isDup H (pairs H hs) (idx / 2) k := by
  unfold isDup
  rw [lvl, Nat.div_div_eq_div_mul, Nat.pow_succ']

theorem specBranch_tsc : ∀ (n : Nat) (hs : List Node) (idx : Nat), idx < hs.length → ∀ k, k < n →
    (specBranch H true n hs idx)[k]? =
      if isDup H hs idx k then some .star else (specBranch H false n hs idx)[k]?
  | n + 1, hs, idx, h, 0, _ => by
    simp only [specBranch, List.getElem?_cons_zero, sib_tsc hs idx h, isDup, lvl, Nat.pow_zero, Nat.div_one]
    split <;> rfl
  | n + 1, hs, idx, h, k + 1, hk => by
    simp only [specBranch, List.getElem?_cons_succ, isDup_succ]
    exact specBranch_tsc n (pairs H hs) (idx / 2) (half_lt_pairs H h) k (by omega)

theorem lvl_ne_nil : ∀ (n : Nat) (hs : List Node), hs ≠ [] → lvl H n hs ≠ []
  | 0, _, h => h
  | n + 1, [_], _ => lvl_ne_nil n _ (List.cons_ne_nil _ _)
  | n + 1, _ :: _ :: _, _ => lvl_ne_nil n _ (List.cons_ne_nil _ _)

theorem barLoop_root (tsc : Bool) {hs : List Node} {idx : Nat} (h : idx < hs.length) {l : Nat}
    (hl : Nat.clog 2 hs.length ≤ l) :
    barLoop H tsc l hs idx [] =
      .ok (specBranch H tsc l hs idx,
           dupN H (l - Nat.clog 2 hs.length) (merkleRoot H hs (List.ne_nil_of_length_pos (by omega)))) := by
  obtain ⟨r, h1, h2⟩ := barLoop_eq H tsc l hs idx [] h
  rw [lvl_root H hs (List.ne_nil_of_length_pos (by omega)) l hl, List.head?_cons, Option.some.injEq] at h1
  rw [h2, h1, List.nil_append]

theorem branchAndRoot_none (tsc : Bool) (hs : List Node) (idx : Nat) (h : idx < hs.length) :
    branchAndRoot H hs (.int idx) none tsc =
      .ok (specBranch H tsc (Nat.clog 2 hs.length) hs idx,
           merkleRoot H hs (List.ne_nil_of_length_pos (by omega))) := by
  rw [branchAndRoot_in_range H tsc h, barLoop_root H tsc h (Nat.le_refl _), Nat.sub_self]; rfl

theorem branchAndRoot_some (tsc : Bool) (hs : List Node) (idx l : Nat) (h : idx < hs.length)
    (hl : Nat.clog 2 hs.length ≤ l) :
    branchAndRoot H hs (.int idx) (some (.int l)) tsc =
      .ok (specBranch H tsc l hs idx,
           dupN H (l - Nat.clog 2 hs.length) (merkleRoot H hs (List.ne_nil_of_length_pos (by omega)))) := by
  rw [branchAndRoot_in_range H tsc h]
  simp only
  rw [if_neg (by omega), Int.toNat_natCast, barLoop_root H tsc h hl]

theorem fold_root_tsc (tsc : Bool) (hs : List Node) (idx l : Nat) (h : idx < hs.length)
    (hl : Nat.clog 2 hs.length ≤ l) :
    rootFromProofTsc H hs[idx] (specBranch H tsc l hs idx) idx =
      .ok (dupN H (l - Nat.clog 2 hs.length) (merkleRoot H hs (List.ne_nil_of_length_pos (by omega)))) := by
  have hpow : hs.length ≤ 2 ^ l := (Nat.clog_le_iff_le_pow (by omega)).mp hl
  obtain ⟨r, h1, h2⟩ := fold_specBranch H tsc l hs idx hs[idx] (List.getElem?_eq_getElem h)
  rw [Nat.div_eq_of_lt (by omega)] at h1 h2
  rw [lvl_root H hs (List.ne_nil_of_length_pos (by omega)) l hl, List.getElem?_cons_zero,
    Option.some.injEq] at h1
  rw [rootFromProofTsc, h2, h1]
  rfl

theorem fold_root (hs : List Node) (idx l : Nat) (h : idx < hs.length) (hl : Nat.clog 2 hs.length ≤ l) :
    rootFromProof H hs[idx] (nodesOf (specBranch H false l hs idx)) idx =
      .ok (dupN H (l - Nat.clog 2 hs.length) (merkleRoot H hs (List.ne_nil_of_length_pos (by omega)))) := by
  have := fold_root_tsc H false hs idx l h hl
  rw [specBranch_false H l hs idx h] at this
  simp only [rootFromProofTsc, rfpTscLoop_nodes] at this
  exact this

/-- `root_from_proof` and its TSC variant end alike on the pair `p` their loop returns -/
theorem verify_ok {p : Node × Int} {r : Node}
    (h : (if p.2 ≠ 0 then Except.error PyExc.valueError else .ok p.1) = .ok r) : p.1 = r := by
  split at h
  · cases h
  · exact Except.ok.inj h

/-- the TSC-aware fold verifies a branch of either format: the last conjunct is for both values of `tsc` -/
theorem bar_ok {hs : List Node} {idx : Nat} {tsc : Bool} {br : List (Elt Node)} {root : Node}
    (h : branchAndRoot H hs (.int idx) none tsc = .ok (br, root)) :
    ∃ (hidx : idx < hs.length) (hne : hs ≠ []), root = merkleRoot H hs hne ∧
      (tsc = false → ∃ nodes, br = nodes.map .node ∧ rootFromProof H hs[idx] nodes idx = .ok root) ∧
      rootFromProofTsc H hs[idx] br idx = .ok root := by
  have hidx : idx < hs.length := Int.ofNat_lt.mp (branchAndRoot_ok_range H h).2
  rw [branchAndRoot_none H tsc hs idx hidx] at h
  cases h
  have hf := fold_root_tsc H tsc hs idx _ hidx (Nat.le_refl _)
  rw [Nat.sub_self, dupN] at hf
  refine ⟨hidx, _, rfl, ?_, hf⟩
  rintro rfl
  have hc := fold_root H hs idx _ hidx (Nat.le_refl _)
  rw [Nat.sub_self, dupN] at hc
  exact ⟨_, specBranch_false H _ hs idx hidx, hc⟩

end EV.Merkle
