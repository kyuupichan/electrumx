import EV.Proofs.IndexTables
import EV.Proofs.IndexStep

/-!
The tx-number tables in memory and the three meta files against the chain (`FilesInv`): what the
readers answer in such a state, and the invariant under every operation.

The arithmetic of the pointers is done once, on `FilesInv` (`stK`, `fsK`, `dbK`, …): the number of
blocks up to a height `x` is `(x + 1).toNat`, and those lemmas relate the three of them (tip, files,
UTXO DB) to the chain length in `Nat`; later proofs rewrite with them and avoid `omega` over `toNat`,
which is slow to check.

Readers: `fs_tx_hash` resolves a tx number to the entry of the COMMITTED blocks' tx ids
(`resolve_files`; the files may be ahead of the UTXO DB, `tx_counts` covers the whole chain),
`read_headers` and `fs_tx_hashes_at_blockheight` likewise stop at `DB.state.height`.

Operations: a flush is `flushHistStep` (the three file writes) and, when asked for, `flushUtxoStep`
(`flush_ok_cases`); a UTXO flush, a back-out and a restart all leave a fully flushed state of a prefix
of the filed blocks over the same files: `filesInv_flushed_prefix` serves the three.
-/
namespace EV.Index
open EV.Spec

theorem resolve_eq (s : Sys) (n : Nat) :
    resolve s n =
      if (bisectRight s.m.txCounts n : Int) > s.m.dbst.height then none else s.p.hashes[n]? := by
  simp only [resolve, fsTxHash]
  split <;> rfl

theorem fsTxHash_eq (s : Sys) (n : Nat) :
    fsTxHash s n = (resolve s n, bisectRight s.m.txCounts n) := by
  simp only [resolve, fsTxHash]
  split <;> rfl

/-- The tx-number tables and the three meta files agree with the chain: `tx_counts` are the running
totals, the files hold the headers / counts / tx hashes of the blocks up to `fs_height` in their
committed prefix (anything may lie beyond), the unflushed lists hold the rest. -/
structure FilesInv (chain : List Block) (s : Sys) : Prop where
  txCounts : s.m.txCounts = cumCounts chain
  height : s.m.st.height = (chain.length : Int) - 1
  order : -1 ≤ s.m.dbst.height ∧ s.m.dbst.height ≤ s.m.fsHeight ∧ s.m.fsHeight ≤ s.m.st.height
  fsTx : s.m.fsTxCount = (allTxids (chain.take (s.m.fsHeight + 1).toNat)).length
  stTx : s.m.st.txCount = (allTxids chain).length
  dbTx : s.m.dbst.txCount = (allTxids (chain.take (s.m.dbst.height + 1).toNat)).length
  hashes : s.p.hashes.take s.m.fsTxCount = (allTxids chain).take s.m.fsTxCount
  hashesU : s.m.txHashesU = (chain.drop (s.m.fsHeight + 1).toNat).map (fun b => b.txs.map (·.id))
  headersU : s.m.headersU = (chain.drop (s.m.fsHeight + 1).toNat).map (·.header)
  headers : s.p.headers.take (s.m.fsHeight + 1).toNat =
              (chain.take (s.m.fsHeight + 1).toNat).map (·.header)
  txcountsFile : s.p.txcounts.take (s.m.fsHeight + 1).toNat =
              (cumCounts chain).take (s.m.fsHeight + 1).toNat

theorem filesInv_init : FilesInv [] {} where
  txCounts := rfl
  height := rfl
  order := by decide
  fsTx := rfl
  stTx := rfl
  dbTx := rfl
  hashes := rfl
  hashesU := rfl
  headersU := rfl
  headers := rfl
  txcountsFile := rfl

theorem FilesInv.stK {chain : List Block} {s : Sys} (f : FilesInv chain s) :
    (s.m.st.height + 1).toNat = chain.length := by
  rw [f.height, Int.sub_add_cancel, Int.toNat_natCast]

theorem FilesInv.dbK_le_fsK {chain : List Block} {s : Sys} (f : FilesInv chain s) :
    (s.m.dbst.height + 1).toNat ≤ (s.m.fsHeight + 1).toNat :=
  Int.toNat_le_toNat (Int.add_le_add_right f.order.2.1 1)

theorem FilesInv.fsK {chain : List Block} {s : Sys} (f : FilesInv chain s) :
    (s.m.fsHeight + 1).toNat ≤ chain.length := by
  rw [← f.stK]; exact Int.toNat_le_toNat (Int.add_le_add_right f.order.2.2 1)

theorem FilesInv.fsK_cast {chain : List Block} {s : Sys} (f : FilesInv chain s) :
    ((s.m.fsHeight + 1).toNat : Int) = s.m.fsHeight + 1 :=
  Int.toNat_of_nonneg (by have := f.order; omega)

theorem FilesInv.dbK_cast {chain : List Block} {s : Sys} (f : FilesInv chain s) :
    ((s.m.dbst.height + 1).toNat : Int) = s.m.dbst.height + 1 :=
  Int.toNat_of_nonneg (by have := f.order; omega)

theorem FilesInv.dbK {chain : List Block} {s : Sys} (f : FilesInv chain s) :
    (s.m.dbst.height + 1).toNat ≤ chain.length :=
  Nat.le_trans f.dbK_le_fsK f.fsK

theorem FilesInv.fsTx_le {chain : List Block} {s : Sys} (f : FilesInv chain s) :
    s.m.fsTxCount ≤ (allTxids chain).length := by
  rw [f.fsTx]; exact allTxids_take_le _ _

theorem FilesInv.dbTx_le_fsTx {chain : List Block} {s : Sys} (f : FilesInv chain s) :
    s.m.dbst.txCount ≤ s.m.fsTxCount := by
  rw [f.dbTx, f.fsTx]; exact allTxids_take_mono chain f.dbK_le_fsK

theorem FilesInv.hashesU_flatten {chain : List Block} {s : Sys} (f : FilesInv chain s) :
    s.m.txHashesU.flatten = (allTxids chain).drop s.m.fsTxCount := by
  rw [f.hashesU, allTxids_flatten, f.fsTx, allTxids_drop]

theorem FilesInv.headers_take {chain : List Block} {s : Sys} (f : FilesInv chain s) :
    s.p.headers.take (s.m.fsHeight + 1).toNat =
      (chain.map (·.header)).take (s.m.fsHeight + 1).toNat := by
  rw [f.headers, List.map_take]

theorem FilesInv.at_tip {chain : List Block} {s : Sys} (f : FilesInv chain s)
    (hfs : s.m.fsHeight = s.m.st.height) :
    (s.m.fsHeight + 1).toNat = chain.length ∧ s.m.fsTxCount = s.m.st.txCount ∧
      s.m.txHashesU = [] ∧ s.m.headersU = [] := by
  have hK : (s.m.fsHeight + 1).toNat = chain.length := by rw [hfs]; exact f.stK
  refine ⟨hK, by rw [f.fsTx, hK, List.take_length, f.stTx], ?_, ?_⟩
  · rw [f.hashesU, hK, List.drop_length]; rfl
  · rw [f.headersU, hK, List.drop_length]; rfl

theorem FilesInv.lens {chain : List Block} {s : Sys} (f : FilesInv chain s) :
    (s.m.fsHeight + 1).toNat ≤ s.p.headers.length ∧ (s.m.fsHeight + 1).toNat ≤ s.p.txcounts.length ∧
      s.m.fsTxCount ≤ s.p.hashes.length := by
  exact ⟨length_of_take_eq f.headers_take (by rw [List.length_map]; exact f.fsK),
    length_of_take_eq f.txcountsFile (by rw [cumCounts_length]; exact f.fsK),
    length_of_take_eq f.hashes f.fsTx_le⟩

/-- below the committed count the file holds the chain's ids, from there on `bisect_right` is above
    `DB.state.height` -/
theorem resolve_files {chain : List Block} {s : Sys} (f : FilesInv chain s) (n : Nat) :
    resolve s n = (allTxids (chain.take (s.m.dbst.height + 1).toNat))[n]? := by
  have hiff := bisect_lt_iff chain (n := n) f.dbK
  rw [resolve_eq, f.txCounts]
  by_cases hn : n < (allTxids (chain.take (s.m.dbst.height + 1).toNat)).length
  · have hfs : n < s.m.fsTxCount := Nat.lt_of_lt_of_le (f.dbTx ▸ hn) f.dbTx_le_fsTx
    have hb := hiff.mpr hn
    rw [if_neg (by have := f.dbK_cast; omega), getElem?_eq_of_take_eq f.hashes hfs,
      allTxids_split chain (s.m.dbst.height + 1).toNat,
      List.getElem?_append_left hn]
  · have hb := mt hiff.mp hn
    rw [if_pos (by have := f.dbK_cast; omega), List.getElem?_eq_none (Nat.le_of_not_lt hn)]

theorem resolve_congr {c c' : List Block} {s s' : Sys} (f : FilesInv c s) (f' : FilesInv c' s')
    (h : c'.take (s'.m.dbst.height + 1).toNat = c.take (s.m.dbst.height + 1).toNat) (n : Nat) :
    resolve s' n = resolve s n := by
  rw [resolve_files f, resolve_files f', h]

theorem resolve_of_files {chain : List Block} {s : Sys} (f : FilesInv chain s) {n : Nat}
    (hn : n < (allTxids (chain.take (s.m.dbst.height + 1).toNat)).length) :
    resolve s n = some ((allTxids chain).getD n 0) := by
  rw [resolve_files f, ← allTxids_prefix_getD (List.take_prefix _ _) hn, List.getD_eq_getElem?_getD,
    List.getElem?_eq_getElem hn]
  rfl

theorem resolve_some_lt {chain : List Block} {s : Sys} (f : FilesInv chain s) {n : Nat} {x : Hash}
    (h : resolve s n = some x) :
    n < (allTxids (chain.take (s.m.dbst.height + 1).toNat)).length := by
  rw [resolve_files f] at h
  exact (List.getElem?_eq_some_iff.mp h).1

theorem resolve_some_eq {chain : List Block} {s : Sys} (f : FilesInv chain s) {n : Nat} {x : Hash}
    (h : resolve s n = some x) : x = (allTxids chain).getD n 0 := by
  have := resolve_of_files f (resolve_some_lt f h)
  rw [h] at this
  exact Option.some.inj this

theorem resolve_committed {act : Nat} {chain : List Block} {s : Sys} (f : FilesInv chain s)
    {u : Utxo} (hu : u ∈ (specChain act (chain.take (s.m.dbst.height + 1).toNat)).utxos) :
    resolve s u.txnum = some u.txid := by
  obtain ⟨hlt, hid, -⟩ := spec_txid act _ hu
  rw [resolve_of_files f hlt, hid, allTxids_prefix_getD (List.take_prefix _ _) hlt]

theorem resolve_spec_utxo {act : Nat} {chain : List Block} {s : Sys} (f : FilesInv chain s)
    (hdb : s.m.dbst.height = s.m.st.height) :
    ∀ u ∈ (specChain act chain).utxos, resolve s u.txnum = some u.txid := by
  intro u hu
  apply resolve_committed f
  rwa [hdb, f.stK, List.take_length]

theorem fsTxHash_of_files {chain : List Block} {s : Sys} (f : FilesInv chain s) {n : Nat}
    (hn : n < (allTxids (chain.take (s.m.dbst.height + 1).toNat)).length) :
    fsTxHash s n = (some ((allTxids chain).getD n 0), bisectRight (cumCounts chain) n) := by
  rw [fsTxHash_eq, resolve_of_files f hn, f.txCounts]

theorem readHeaders_of_files {chain : List Block} {s : Sys} (f : FilesInv chain s)
    (start count : Nat) :
    readHeaders s start count =
      ((chain.map (·.header)).drop start).take
        (min (count : Int) (s.m.dbst.height + 1 - start)).toNat :=
  drop_take_min_of_take_eq f.headers_take start count f.dbK_le_fsK

theorem txHashesAt_of_files {chain : List Block} {s : Sys} (f : FilesInv chain s) {h : Nat}
    {b : Block} (hb : chain[h]? = some b) (hh : (h : Int) ≤ s.m.dbst.height) :
    txHashesAt s h = some (b.txs.map (·.id)) := by
  have hlt := (List.getElem?_eq_some_iff.mp hb).1
  have hfirst : (if h > 0 then s.m.txCounts.getD (h - 1) 0 else 0) =
      (allTxids (chain.take h)).length := by
    cases h with
    | zero => rfl
    | succ k =>
      rw [if_pos (Nat.succ_pos k), f.txCounts, Nat.add_sub_cancel,
        cumCounts_getD chain (Nat.lt_of_succ_lt hlt)]
  have hcnt : s.m.txCounts.getD h 0 = (allTxids (chain.take h)).length + b.txs.length := by
    rw [f.txCounts, cumCounts_getD chain hlt, take_succ_of_getElem? hb, allTxids_append,
      allTxids_singleton, List.length_append, List.length_map]
  have hle : (allTxids (chain.take h)).length + b.txs.length ≤ s.m.fsTxCount := by
    have hK : h + 1 ≤ (s.m.dbst.height + 1).toNat := by omega
    rw [← hcnt, f.txCounts, cumCounts_getD chain hlt, f.fsTx]
    exact allTxids_take_mono chain (Nat.le_trans hK f.dbK_le_fsK)
  unfold txHashesAt
  rw [if_neg (Int.not_lt.mpr hh)]
  simp only [hfirst, hcnt, Nat.add_sub_cancel_left]
  rw [drop_take_of_take_eq f.hashes hle, allTxids_block hb]

theorem txHashesAt_above {s : Sys} {h : Nat} (hh : s.m.dbst.height < (h : Int)) :
    txHashesAt s h = none := by
  unfold txHashesAt; rw [if_pos hh]

/-- what `advance_block` leaves behind, in terms of the result `a` of the tx loop.  The preservation lemmas
    take any `s'` with these projections (`advResult` has them by `rfl`), so their proofs never carry its
    nested record update; `BackupOut` does the same for a back-out. -/
structure AdvanceOut (s : Sys) (b : Block) (a : Acc Sys) (s' : Sys) : Prop where
  p : s'.p = s.p
  cache : s'.m.cache = a.s.m.cache
  deletes : s'.m.deletes = a.s.m.deletes
  dbst : s'.m.dbst = s.m.dbst
  fsHeight : s'.m.fsHeight = s.m.fsHeight
  fsTxCount : s'.m.fsTxCount = s.m.fsTxCount
  histFlush : s'.m.histFlush = s.m.histFlush
  txCounts : s'.m.txCounts = s.m.txCounts ++ [a.txNum]
  txHashesU : s'.m.txHashesU = s.m.txHashesU ++ [a.txHashes]
  headersU : s'.m.headersU = s.m.headersU ++ [b.header]
  unflushed : s'.m.unflushed = addUnflushed s.m.unflushed a.hashXsByTx s.m.st.txCount
  height : s'.m.st.height = ((s.m.st.height + 1).toNat : Int)
  tip : s'.m.st.tip = b.hash
  txCount : s'.m.st.txCount = a.txNum
  utxoCount : s'.m.st.utxoCount = s.m.st.utxoCount + a.delta

theorem advanceOut_result (cfg : Cfg) (daemonH : Int) (s : Sys) (b : Block) (a : Acc Sys) :
    AdvanceOut s b a (advResult cfg daemonH s b a) := by
  constructor <;> rfl

theorem filesInv_advance {chain : List Block} {s s' : Sys} {b : Block} {a : Acc Sys}
    (f : FilesInv chain s) (o : AdvanceOut s b a s')
    (htx : a.txNum = s.m.st.txCount + b.txs.length) (hth : a.txHashes = b.txs.map (·.id)) :
    FilesInv (chain ++ [b]) s' := by
  have htakeK : (chain ++ [b]).take (s.m.fsHeight + 1).toNat = chain.take (s.m.fsHeight + 1).toNat :=
    List.take_append_of_le_length f.fsK
  have hdropK : (chain ++ [b]).drop (s.m.fsHeight + 1).toNat =
      chain.drop (s.m.fsHeight + 1).toNat ++ [b] := List.drop_append_of_le_length f.fsK
  exact {
    txCounts := by rw [o.txCounts, htx, f.txCounts, f.stTx, cumCounts_snoc]
    height := by
      rw [o.height, f.stK, List.length_append, List.length_singleton]; omega
    order := by
      rw [o.dbst, o.fsHeight, o.height, f.stK, ← Int.sub_add_cancel (chain.length : Int) 1,
        ← f.height]
      exact ⟨f.order.1, f.order.2.1, Int.le_trans f.order.2.2 (Int.le_add_one (Int.le_refl _))⟩
    fsTx := by rw [o.fsTxCount, o.fsHeight, htakeK]; exact f.fsTx
    stTx := by
      rw [o.txCount, htx, f.stTx, allTxids_append, allTxids_singleton, List.length_append,
        List.length_map]
    dbTx := by rw [o.dbst, List.take_append_of_le_length f.dbK]; exact f.dbTx
    hashes := by
      rw [o.p, o.fsTxCount, allTxids_append, List.take_append_of_le_length f.fsTx_le]
      exact f.hashes
    hashesU := by rw [o.txHashesU, hth, o.fsHeight, hdropK, f.hashesU, List.map_append]; rfl
    headersU := by rw [o.headersU, o.fsHeight, hdropK, f.headersU, List.map_append]; rfl
    headers := by rw [o.p, o.fsHeight, htakeK]; exact f.headers
    txcountsFile := by
      rw [o.p, o.fsHeight, cumCounts_snoc,
        List.take_append_of_le_length (by rw [cumCounts_length]; exact f.fsK)]
      exact f.txcountsFile }

/-- `flush_fs` + `History.flush`: what every real flush does -/
def flushHistStep (s : Sys) : Sys :=
  { m := { s.m with
      headersU := [], txHashesU := [], fsHeight := s.m.st.height, fsTxCount := s.m.st.txCount,
      unflushed := [], histFlush := s.m.histFlush + 1,
      st := { s.m.st with flushCount := s.m.histFlush + 1 } },
    p := applyEffects s.p (flushFsEffects s ++ [histFlushEffect s]) }

/-- `flush_utxo_db` + the state record: what a full flush does on top -/
def flushUtxoStep (s : Sys) : Sys :=
  { m := { s.m with cache := [], deletes := [], undoU := [], dbst := s.m.st },
    p := applyEffects s.p [utxoBatchEffect s s.m.st, .putUState s.m.st] }

theorem flush_noop {s : Sys} (h1 : s.m.st.height = s.m.dbst.height) (h2 : assertFlushed s = true)
    (fu : Bool) : flush s fu = .ok s := by
  simp [flush, flushDbs, h1, h2, applyEffects]

theorem flush_hist {s : Sys} (h1 : s.m.st.height ≠ s.m.dbst.height)
    (h2 : flushFsAsserts s = true) : flush s false = .ok (flushHistStep s) := by
  simp [flush, flushDbs, h1, h2, flushHistStep]

theorem flush_full {s : Sys} (h1 : s.m.st.height ≠ s.m.dbst.height)
    (h2 : flushFsAsserts s = true) : flush s true = .ok (flushUtxoStep (flushHistStep s)) := by
  simp [flush, flushDbs, h1, h2, flushHistStep, flushUtxoStep, applyEffects, utxoBatchEffect]

theorem flush_ok_cases {s s' : Sys} {fu : Bool} (h : flush s fu = .ok s') :
    (s.m.st.height = s.m.dbst.height ∧ assertFlushed s = true ∧ s' = s) ∨
    (s.m.st.height ≠ s.m.dbst.height ∧ flushFsAsserts s = true ∧
      s' = if fu then flushUtxoStep (flushHistStep s) else flushHistStep s) := by
  by_cases h1 : s.m.st.height = s.m.dbst.height
  · cases h2 : assertFlushed s
    · simp [flush, flushDbs, h1, h2] at h
    · exact .inl ⟨h1, rfl, (Except.ok.inj ((flush_noop h1 h2 fu).symm.trans h)).symm⟩
  · cases h2 : flushFsAsserts s
    · simp [flush, flushDbs, h1, h2] at h
    · refine .inr ⟨h1, rfl, ?_⟩
      cases fu
      · exact (Except.ok.inj ((flush_hist h1 h2).symm.trans h)).symm
      · exact (Except.ok.inj ((flush_full h1 h2).symm.trans h)).symm

/-- `prior_tx_count` of `flush_fs` -/
def priorTx (s : Sys) : Nat :=
  if s.m.fsHeight ≥ 0 then s.m.txCounts.getD s.m.fsHeight.toNat 0 else 0

theorem priorTx_eq {chain : List Block} {s : Sys} (f : FilesInv chain s) :
    priorTx s = s.m.fsTxCount := by
  unfold priorTx
  rw [f.fsTx]
  split
  · next h =>
    have hK : (s.m.fsHeight + 1).toNat = s.m.fsHeight.toNat + 1 := Int.toNat_add h (by decide)
    have hlt := f.fsK
    rw [hK] at hlt
    rw [f.txCounts, cumCounts_getD chain hlt, hK]
  · next h =>
    rw [Int.toNat_of_nonpos (Int.add_one_le_of_lt (Int.not_le.mp h))]; rfl

theorem flushHistStep_p (s : Sys) :
    (flushHistStep s).p =
      { s.p with
        headers := fileWrite s.p.headers (s.m.fsHeight + 1).toNat s.m.headersU
        txcounts := fileWrite s.p.txcounts (s.m.fsHeight + 1).toNat
                      (s.m.txCounts.drop (s.m.fsHeight + 1).toNat)
        hashes := fileWrite s.p.hashes (priorTx s) s.m.txHashesU.flatten
        hist := (applyEffect s.p (histFlushEffect s)).hist
        hstate := (applyEffect s.p (histFlushEffect s)).hstate } := by
  simp [flushHistStep, applyEffects, flushFsEffects, applyEffect, histFlushEffect, priorTx]

theorem flushHistStep_headers (s : Sys) : (flushHistStep s).p.headers =
    fileWrite s.p.headers (s.m.fsHeight + 1).toNat s.m.headersU := by
  rw [flushHistStep_p]

theorem flushHistStep_txcounts (s : Sys) : (flushHistStep s).p.txcounts =
    fileWrite s.p.txcounts (s.m.fsHeight + 1).toNat (s.m.txCounts.drop (s.m.fsHeight + 1).toNat) := by
  rw [flushHistStep_p]

theorem flushHistStep_hashes (s : Sys) : (flushHistStep s).p.hashes =
    fileWrite s.p.hashes (priorTx s) s.m.txHashesU.flatten := by
  rw [flushHistStep_p]

theorem flushUtxoStep_p (s : Sys) :
    (flushUtxoStep s).p =
      { applyEffect s.p (utxoBatchEffect s s.m.st) with ustate := some s.m.st } := by
  simp [flushUtxoStep, applyEffects, applyEffect]

theorem flushUtxoStep_hist (s : Sys) : (flushUtxoStep s).p.hist = s.p.hist := by
  rw [flushUtxoStep_p]; exact (flushUtxo_rest s s.m.st).2.1

theorem flushUtxoStep_hstate (s : Sys) : (flushUtxoStep s).p.hstate = s.p.hstate := by
  rw [flushUtxoStep_p]; exact (flushUtxo_rest s s.m.st).2.2.1

theorem flushUtxoStep_headers (s : Sys) : (flushUtxoStep s).p.headers = s.p.headers := by
  rw [flushUtxoStep_p]; exact (flushUtxo_rest s s.m.st).2.2.2.1

theorem flushUtxoStep_txcounts (s : Sys) : (flushUtxoStep s).p.txcounts = s.p.txcounts := by
  rw [flushUtxoStep_p]; exact (flushUtxo_rest s s.m.st).2.2.2.2.1

theorem flushUtxoStep_hashes (s : Sys) : (flushUtxoStep s).p.hashes = s.p.hashes := by
  rw [flushUtxoStep_p]; exact (flushUtxo_rest s s.m.st).2.2.2.2.2

theorem flushFsAsserts_of_files {chain : List Block} {s : Sys} (f : FilesInv chain s) :
    flushFsAsserts s = true := by
  have hprior := priorTx_eq f
  unfold priorTx at hprior
  have h1 : s.m.txHashesU.length = s.m.headersU.length := by
    rw [f.hashesU, f.headersU, List.length_map, List.length_map]
  have h2 : s.m.st.height = s.m.fsHeight + (s.m.headersU.length : Int) := by
    rw [f.headersU, List.length_map, List.length_drop, Int.natCast_sub f.fsK, f.fsK_cast, f.height]
    omega
  have h3 : s.m.st.txCount = s.m.txCounts.getLast?.getD 0 := by
    rw [f.txCounts, cumCounts_getLast, f.stTx]
  have h4 : (s.m.txCounts.length : Int) = s.m.st.height + 1 := by
    rw [f.txCounts, cumCounts_length, f.height, Int.sub_add_cancel]
  have h5 : (s.m.txHashesU.flatten.length : Int) =
      (s.m.st.txCount : Int) -
        ((if s.m.fsHeight ≥ 0 then s.m.txCounts.getD s.m.fsHeight.toNat 0 else 0 : Nat) : Int) := by
    rw [hprior, f.hashesU_flatten, List.length_drop, f.stTx, Int.natCast_sub f.fsTx_le]
  simp only [flushFsAsserts, Bool.and_eq_true, beq_iff_eq]
  exact ⟨⟨⟨⟨h1, h2⟩, h3⟩, h4⟩, h5⟩

theorem filesInv_histStep {chain : List Block} {s : Sys} (f : FilesInv chain s) :
    FilesInv chain (flushHistStep s) := by
  have hall := f.stK
  have hhd := fileWrite_drop f.headers_take
  have htc := fileWrite_drop f.txcountsFile
  rw [List.length_map] at hhd
  rw [cumCounts_length] at htc
  exact {
    txCounts := f.txCounts
    height := f.height
    order := ⟨f.order.1, Int.le_trans f.order.2.1 f.order.2.2, Int.le_refl _⟩
    fsTx := by
      show s.m.st.txCount = (allTxids (chain.take (s.m.st.height + 1).toNat)).length
      rw [hall, List.take_length, f.stTx]
    stTx := f.stTx
    dbTx := f.dbTx
    hashes := by
      show (flushHistStep s).p.hashes.take s.m.st.txCount = (allTxids chain).take s.m.st.txCount
      rw [flushHistStep_hashes, priorTx_eq f, f.hashesU_flatten, f.stTx, fileWrite_drop f.hashes,
        List.take_length]
    hashesU := by
      show [] = (chain.drop (s.m.st.height + 1).toNat).map _
      rw [hall, List.drop_length]; rfl
    headersU := by
      show [] = (chain.drop (s.m.st.height + 1).toNat).map _
      rw [hall, List.drop_length]; rfl
    headers := by
      show (flushHistStep s).p.headers.take (s.m.st.height + 1).toNat =
        (chain.take (s.m.st.height + 1).toNat).map _
      rw [flushHistStep_headers, f.headersU, List.map_drop, hall, hhd, List.take_length]
    txcountsFile := by
      show (flushHistStep s).p.txcounts.take (s.m.st.height + 1).toNat =
        (cumCounts chain).take (s.m.st.height + 1).toNat
      rw [flushHistStep_txcounts, f.txCounts, hall, htc, ← cumCounts_length chain,
        List.take_length] }

/-- a fully flushed state of a prefix `c'` of the filed blocks, over the same three files: what a UTXO
    flush, a back-out and a restart leave -/
theorem filesInv_flushed_prefix {c c' : List Block} {s s' : Sys} (f : FilesInv c s)
    (hp : c' <+: c) (hle : c'.length ≤ (s.m.fsHeight + 1).toNat)
    (hhdr : s'.p.headers = s.p.headers) (htxc : s'.p.txcounts = s.p.txcounts)
    (hhsh : s'.p.hashes = s.p.hashes)
    (hh : s'.m.st.height = (c'.length : Int) - 1) (htx : s'.m.st.txCount = (allTxids c').length)
    (hfs : s'.m.fsHeight = s'.m.st.height) (hfsTx : s'.m.fsTxCount = s'.m.st.txCount)
    (hdb : s'.m.dbst.height = s'.m.st.height) (hdbTx : s'.m.dbst.txCount = s'.m.st.txCount)
    (htc : s'.m.txCounts = cumCounts c') (hhU : s'.m.txHashesU = []) (hdU : s'.m.headersU = []) :
    FilesInv c' s' := by
  have hK : (s'.m.st.height + 1).toNat = c'.length := by
    rw [hh, Int.sub_add_cancel, Int.toNat_natCast]
  have hc' : c.take c'.length = c' := (List.prefix_iff_eq_take.mp hp).symm
  exact {
    txCounts := htc
    height := hh
    order := by
      rw [hdb, hfs, hh]
      exact ⟨Int.sub_le_sub_right (Int.natCast_nonneg _) 1, Int.le_refl _, Int.le_refl _⟩
    fsTx := by rw [hfsTx, hfs, hK, List.take_length, htx]
    stTx := htx
    dbTx := by rw [hdbTx, hdb, hK, List.take_length, htx]
    hashes := by
      have hle' : (allTxids c').length ≤ s.m.fsTxCount := by
        rw [f.fsTx, ← hc']; exact allTxids_take_mono c hle
      rw [hfsTx, htx, hhsh, take_of_take_eq f.hashes hle', ← hc', allTxids_take, hc',
        List.take_length]
    hashesU := by rw [hhU, hfs, hK, List.drop_length]; rfl
    headersU := by rw [hdU, hfs, hK, List.drop_length]; rfl
    headers := by
      rw [hhdr, hfs, hK, List.take_length, take_of_take_eq f.headers_take hle, ← List.map_take, hc']
    txcountsFile := by
      rw [htxc, hfs, hK, take_of_take_eq f.txcountsFile hle, cumCounts_take_eq c hp.length_le, hc',
        ← cumCounts_length c', List.take_length] }

theorem filesInv_utxoStep {chain : List Block} {s : Sys} (f : FilesInv chain s)
    (hfs : s.m.fsHeight = s.m.st.height) : FilesInv chain (flushUtxoStep s) :=
  have ⟨hK, hTx, hhU, hdU⟩ := f.at_tip hfs
  filesInv_flushed_prefix f (List.prefix_refl _) (Nat.le_of_eq hK.symm)
    (flushUtxoStep_headers s) (flushUtxoStep_txcounts s) (flushUtxoStep_hashes s) f.height f.stTx
    hfs hTx rfl rfl f.txCounts hhU hdU

end EV.Index
