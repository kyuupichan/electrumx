import EV.Proofs.CrashFlush

/-!
Recovery is idempotent: `_open_dbs` on a store it has opened, or on one that only the first of its two batches
reached, ends in the store (`openStore_idem`, `openStore_openStore1`) and reads the state of the uninterrupted one.
`(recover cfg p).map (·.2)` is the restarted system without the list of effects recovery performed.
-/
namespace EV.Index

theorem recover_congr (cfg : Cfg) {x y : Store} (h1 : openStore cfg x = openStore cfg y)
    (h2 : openState x false = openState y false) :
    (recover cfg x).map (·.2) = (recover cfg y).map (·.2) := by
  rw [recover_eq, recover_eq, h1, h2, Option.map_map, Option.map_map]
  rfl

theorem openStore1_idem (p : Store) : openStore1 (openStore1 p) = openStore1 p :=
  openStore1_of_le (by
    rw [openStore1_flushCount, openStore1_ustate]
    exact Nat.min_le_right ..)

theorem openState_congr {p q : Store} (h1 : openHistState q = openHistState p) (h2 : q.ustate = p.ustate)
    (c : Bool) : openState q c = openState p c := by
  unfold openState
  rw [h1, h2]

theorem openHistState_idem {p q : Store} (h1 : q.hstate.getD {} = openHistState p) (h2 : q.ustate = p.ustate) :
    openHistState q = openHistState p := by
  rw [openHistState_min q, h1, h2, openHistState_min, Nat.min_assoc, Nat.min_self]

theorem openState_openStore1 (p : Store) (c : Bool) : openState (openStore1 p) c = openState p c :=
  openState_congr (openHistState_idem (openStore1_hstate_getD p) (openStore1_ustate p)) (openStore1_ustate p) c

theorem clearUndoKeys_undoAfterOpen (undo : List (Nat × List CacheVal)) (minH : Int) :
    clearUndoKeys (undoAfterOpen undo minH) minH = [] := by
  apply List.eq_nil_iff_forall_not_mem.mpr
  intro k hk
  rw [mem_clearUndoKeys, undoAfterOpen, keys_foldl_aerase, mem_clearUndoKeys] at hk
  exact hk.1.2 ⟨hk.1.1, hk.2⟩

theorem undoAfterOpen_idem (undo : List (Nat × List CacheVal)) (minH : Int) :
    undoAfterOpen (undoAfterOpen undo minH) minH = undoAfterOpen undo minH := by
  show (clearUndoKeys (undoAfterOpen undo minH) minH).foldl _ (undoAfterOpen undo minH) = _
  rw [clearUndoKeys_undoAfterOpen]
  rfl

/-- dying after `clear_excess` and restarting -/
theorem openStore_openStore1 (cfg : Cfg) (p : Store) :
    openStore cfg (openStore1 p) = openStore cfg p := by
  rw [openStore_eq, openStore_eq, openStore1_idem, openStore1_undo, openStore1_ustate]

theorem openStore_idem (cfg : Cfg) (p : Store) : openStore cfg (openStore cfg p) = openStore cfg p := by
  have hle : ((openStore cfg p).hstate.getD {}).flushCount ≤ ((openStore cfg p).ustate.getD {}).flushCount := by
    rw [openStore_hstate, openStore_ustate, openStore1_flushCount]
    exact Nat.min_le_right ..
  rw [openStore_eq cfg (openStore cfg p), openStore1_of_le hle, openStore_undo, openStore_ustate,
    undoAfterOpen_idem, ← openStore_undo]

theorem openState_openStore (cfg : Cfg) (p : Store) (c : Bool) :
    openState (openStore cfg p) c = openState p c :=
  openState_congr (openHistState_idem (openStore_hstate_getD cfg p) (openStore_ustate cfg p))
    (openStore_ustate cfg p) c

/-- `_open_dbs`'s own effects: `clear_excess`'s batch, then `clear_excess_undo_info`'s batch -/
theorem recover_effects {cfg : Cfg} {p : Store} {es : List Effect} {r : Sys}
    (h : recover cfg p = some (es, r)) :
    es = (clearExcessEffect p (p.hstate.getD {}) (p.ustate.getD {}).flushCount).toList ++
           openUndoEffects cfg (openStore1 p) (p.ustate.getD {}).height ∧
    r.p = openStore cfg p := by
  rw [recover_eq] at h
  obtain ⟨l, -, h⟩ := Option.map_eq_some_iff.mp h
  cases h
  exact ⟨rfl, rfl⟩

theorem recover_cut_stores (cfg : Cfg) (p : Store) {c : List Effect}
    (hc : c ∈ cuts ((clearExcessEffect p (p.hstate.getD {}) (p.ustate.getD {}).flushCount).toList ++
           openUndoEffects cfg (openStore1 p) (p.ustate.getD {}).height)) :
    applyEffects p c = p ∨ applyEffects p c = openStore1 p ∨ applyEffects p c = openStore cfg p := by
  -- each of recovery's two steps is nothing or one batch
  rcases mem_cuts_append hc with h1 | ⟨c', hc', rfl⟩
  · have := mem_cuts_atomic (by
      unfold clearExcessEffect
      split
      · exact Or.inl rfl
      · exact Or.inr ⟨_, rfl, rfl⟩) h1
    rcases this with rfl | rfl
    · exact Or.inl rfl
    · exact Or.inr (Or.inl rfl)
  · have := mem_cuts_atomic (by
      unfold openUndoEffects
      split
      · exact Or.inl rfl
      · exact Or.inr ⟨_, rfl, rfl⟩) hc'
    rw [applyEffects_append]
    rcases this with rfl | rfl
    · exact Or.inr (Or.inl rfl)
    · exact Or.inr (Or.inr rfl)

end EV.Index
