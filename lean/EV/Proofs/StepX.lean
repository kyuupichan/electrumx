/-! Small facts shared by the models that are a `step` function folded over events: a guarded update, a
run, and the list of requests of a concurrent model (`EV.HeaderCache`, `EV.TxCache`) over one step. -/
namespace EV

theorem ite_ind {α : Sort _} {P : α → Prop} {c : Prop} [Decidable c] {t u : α} (ht : c → P t) (hu : ¬c → P u) :
    P (if c then t else u) :=
  iteInduction ht hu

theorem foldl_inv {σ α : Type _} {P : σ → Prop} {f : σ → α → σ} (h : ∀ s a, P s → P (f s a)) :
    ∀ (l : List α) {s : σ}, P s → P (l.foldl f s)
  | [], _, hs => hs
  | a :: l, _, hs => foldl_inv h l (h _ a hs)

def Continues {ρ : Type} (R : ρ → ρ → Prop) (N : ρ → Prop) (l l' : List ρ) : Prop :=
  (∀ (i : Nat) (r : ρ), l[i]? = some r → ∃ r' : ρ, l'[i]? = some r' ∧ R r r') ∧
  (∀ (i : Nat) (r' : ρ), l.length ≤ i → l'[i]? = some r' → N r')

namespace Continues
variable {ρ : Type} {R : ρ → ρ → Prop} {N : ρ → Prop} {l : List ρ}

theorem map {f : ρ → ρ} (hf : ∀ r, R r (f r)) : Continues R N l (l.map f) :=
  ⟨fun i r hr => ⟨f r, by rw [List.getElem?_map, hr]; rfl, hf r⟩,
    fun _ _ hi hr' => nomatch (List.getElem?_eq_none (by rw [List.length_map]; exact hi)).symm.trans hr'⟩

theorem refl (hR : ∀ r, R r r) : Continues R N l l :=
  ⟨fun _ r hr => ⟨r, hr, hR r⟩, fun _ _ hi hr' => nomatch (List.getElem?_eq_none hi).symm.trans hr'⟩

theorem set (hR : ∀ r, R r r) {j : Nat} {r0 x : ρ} (hj : l[j]? = some r0) (hx : R r0 x) :
    Continues R N l (l.set j x) := by
  refine ⟨fun i r hr => ?_,
    fun _ _ hi hr' => nomatch (List.getElem?_eq_none (by rw [List.length_set]; exact hi)).symm.trans hr'⟩
  by_cases hij : j = i
  · subst hij
    obtain rfl := Option.some.inj (hj.symm.trans hr)
    exact ⟨x, List.getElem?_set_self (List.getElem?_eq_some_iff.mp hj).1, hx⟩
  · exact ⟨r, by rw [List.getElem?_set_ne hij, hr], hR r⟩

theorem push (hR : ∀ r, R r r) {x : ρ} (hx : N x) : Continues R N l (l ++ [x]) := by
  refine ⟨fun i r hr => ⟨r, ?_, hR r⟩, fun i r' hi hr' => ?_⟩
  · rw [List.getElem?_append_left (List.getElem?_eq_some_iff.mp hr).1, hr]
  · rw [List.getElem?_append_right hi] at hr'
    exact List.mem_singleton.mp (List.mem_of_getElem? hr') ▸ hx

end Continues
end EV
