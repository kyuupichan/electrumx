import EV.Proofs.MempoolProcess

/-!
Exactness of a quiet refresh (C08): when the daemon's mempool `M` is stable, closed, acyclic and
conflict-free, every listed transaction can be fetched and the index answers from the confirmed
UTXO set `U`, then `_process_mempool` ends with exactly the pool the specification describes,
whatever the order in which the chunk tasks complete and from whatever `MpInv` state it starts.

The fix-point loop accepts everything: among the deferred transactions one of minimal topological
rank has all its mempool parents stored already, so every round shrinks the deferred map.
-/
namespace EV.Mempool

structure EnvQuiet (W : Hash → Option RawTx) (M : List Hash) (U : List (Prevout × Pair))
    (fetch : Hash → Option RawTx) (lookup : Nat → List Prevout → List (Option Pair)) : Prop where
  nodup : M.Nodup
  fetch : ∀ h ∈ M, ∃ t, W h = some t ∧ fetch h = some t
  valid : Valid W
  utxoTrue : ∀ b ∈ U, truePair W b.1 = some b.2
  /-- the index is at the daemon's height: `lookup_utxos` answers from `U`, for every chunk -/
  lookup : ∀ k ps, lookup k ps = ps.map (ulookup U)
  /-- closed: every non-generation input is funded by the mempool or by `U` -/
  closed : ∀ h ∈ M, ∀ t, W h = some t → ∀ p ∈ (mkTx t).prevouts, p.1 ∈ M ∨ p ∈ U.map (·.1)
  acyclic : ∃ rank : Hash → Nat, ∀ h ∈ M, ∀ t, W h = some t → ∀ p ∈ (mkTx t).prevouts,
    p.1 ∈ M → rank p.1 < rank h
  conflictFree : ∀ h₁ ∈ M, ∀ h₂ ∈ M, ∀ t₁ t₂, W h₁ = some t₁ → W h₂ = some t₂ →
    ∀ p, p ∈ (mkTx t₁).prevouts → p ∈ (mkTx t₂).prevouts → h₁ = h₂

theorem ulookup_some_mem {U : List (Prevout × Pair)} {p : Prevout} {pr : Pair}
    (h : ulookup U p = some pr) : (p, pr) ∈ U := by
  rw [ulookup] at h
  split at h
  · cases h
  · rename_i e he
    cases h
    have h1 := List.find?_some he
    exact (beq_iff_eq.mp h1 : e.1 = p) ▸ List.mem_of_find?_eq_some he

theorem ulookup_of_key {U : List (Prevout × Pair)} {p : Prevout} (h : p ∈ U.map (·.1)) :
    ∃ pr, ulookup U p = some pr := by
  obtain ⟨e, he, h1⟩ := List.mem_map.mp h
  rw [ulookup]
  split
  · rename_i hn
    exact absurd (beq_iff_eq.mpr h1) (List.find?_eq_none.mp hn e he)
  · rename_i e' _
    exact ⟨e'.2, rfl⟩

theorem mem_zip_at {α β : Type} {l : List α} {l' : List β} {a : α} {b : β}
    (h : (a, b) ∈ List.zip l l') : ∃ i : Nat, l[i]? = some a ∧ l'[i]? = some b :=
  (List.mem_iff_getElem?.mp h).imp fun _ hi => List.getElem?_zip_eq_some.mp hi

theorem mem_zip_map {α β : Type} (f : α → β) {l : List α} {a : α} {b : β}
    (h : (a, b) ∈ List.zip l (l.map f)) : b = f a := by
  obtain ⟨i, h1, h2⟩ := mem_zip_at h
  rw [List.getElem?_map, h1] at h2
  exact (Option.some.inj h2).symm

theorem filterMap_map_some {α β : Type} (f g : α → Option β) (l : List α)
    (h : ∀ a ∈ l, ∃ b, f a = some b ∧ g a = some b) :
    (l.filterMap f).map some = l.map g := by
  induction l with
  | nil => rfl
  | cons a l ih =>
    obtain ⟨b, h1, h2⟩ := h a List.mem_cons_self
    rw [List.filterMap_cons_some h1, List.map_cons, List.map_cons, h2,
      ih fun a' ha' => h a' (List.mem_cons_of_mem _ ha')]

theorem exists_min_rank (rank : Hash → Nat) (D : TxMap) (hne : D ≠ []) :
    ∃ e ∈ D, ∀ e' ∈ D, rank e.1 ≤ rank e'.1 := by
  cases h : (D.map (rank ·.1)).min? with
  | none => exact absurd (List.map_eq_nil_iff.mp (List.min?_eq_none_iff.mp h)) hne
  | some m =>
    obtain ⟨hm, hle⟩ := List.min?_eq_some_iff.mp h
    obtain ⟨e, he, rfl⟩ := List.mem_map.mp hm
    exact ⟨e, he, fun e' he' => hle _ (List.mem_map_of_mem he')⟩

variable {W : Hash → Option RawTx} {M : List Hash} {U : List (Prevout × Pair)}
  {fetch : Hash → Option RawTx} {lookup : Nat → List Prevout → List (Option Pair)}

/-- the `lookup` clause of `SoundOn` / `EnvSound`, for an index that answers from `U` -/
theorem ulookup_sound (hU : ∀ b ∈ U, truePair W b.1 = some b.2) {ps : List Prevout} {p : Prevout}
    {pr : Pair} (hp : (p, some pr) ∈ List.zip ps (ps.map (ulookup U))) : truePair W p = some pr :=
  hU _ (ulookup_some_mem (mem_zip_map (ulookup U) hp).symm)

theorem EnvQuiet.soundOn (h : EnvQuiet W M U fetch lookup) : SoundOn W M fetch lookup := by
  constructor
  · intro h' hM t ht
    obtain ⟨t', h1, h2⟩ := h.fetch h' hM
    exact h1.trans (h2.symm.trans ht)
  · exact h.valid
  · exact fun k ps p pr hp => ulookup_sound h.utxoTrue (h.lookup k ps ▸ hp)

theorem specIn_true (henv : EnvQuiet W M U fetch lookup) {h : Hash} (hM : h ∈ M) {t : RawTx}
    (ht : W h = some t) {p : Prevout} (hp : p ∈ (mkTx t).prevouts) :
    ∃ pr, specIn W M U p = some pr ∧ truePair W p = some pr := by
  unfold specIn
  by_cases hpM : p.1 ∈ M
  · rw [if_pos (List.contains_iff_mem.mpr hpM)]
    obtain ⟨t', h1, _⟩ := henv.fetch p.1 hpM
    have hlt := henv.valid h t ht p hp t' h1
    rw [truePair, h1]
    exact ⟨t'.outs[p.2], List.getElem?_eq_getElem hlt, List.getElem?_eq_getElem hlt⟩
  · rw [if_neg (fun hc => hpM (List.contains_iff_mem.mp hc))]
    obtain ⟨pr, h2⟩ := ulookup_of_key ((henv.closed h hM t ht p hp).resolve_left hpM)
    exact ⟨pr, h2, henv.utxoTrue _ (ulookup_some_mem h2)⟩

theorem specTx_true (henv : EnvQuiet W M U fetch lookup) {h : Hash} (hM : h ∈ M) {t : RawTx}
    (ht : W h = some t) :
    TrueTx W h (specTx W M U t) :=
  TrueTx_accepted (e := (h, mkTx t)) ⟨t, ht, rfl⟩
    (filterMap_map_some _ _ _ fun _ hp => specIn_true henv hM ht hp)

theorem mem_specPool {e : Hash × MemPoolTx} :
    e ∈ specPool W M U ↔ e.1 ∈ M ∧ ∃ t, W e.1 = some t ∧ e.2 = specTx W M U t :=
  mem_tabulate

theorem exact_of_cover (henv : EnvQuiet W M U fetch lookup) {st : St} (hinv : MpInv W st)
    (hkeys : ∀ e ∈ st.txs, e.1 ∈ M) (hcov : ∀ h ∈ M, h ∈ st.txs.map (·.1)) :
    st.txs.Perm (specPool W M U) := by
  apply (List.perm_ext_iff_of_nodup (nodup_of_nodup_map (·.1) hinv.txKeys) ?_).mpr
  · intro e
    rw [mem_specPool]
    constructor
    · intro he
      have hM := hkeys e he
      obtain ⟨t, h1, _⟩ := henv.fetch e.1 hM
      exact ⟨hM, t, h1, TrueTx_unique (hinv.true e he) (specTx_true henv hM h1)⟩
    · rintro ⟨hM, t, h1, h2⟩
      obtain ⟨e', he', h3⟩ := List.mem_map.mp (hcov e.1 hM)
      have h4 := TrueTx_unique (h3 ▸ hinv.true e' he') (specTx_true henv hM h1)
      exact (Prod.ext h3 (h4.trans h2.symm) : e' = e) ▸ he'
  · exact nodup_of_nodup_map (·.1) ((keys_tabulate_sublist W (specTx W M U) M).nodup henv.nodup)

/-- the waiting transactions `D` and the merged utxo map `um` during a quiet refresh -/
structure QInv (M : List Hash) (U : List (Prevout × Pair)) (D : TxMap) (um : UtxoMap) : Prop where
  dNodup : (D.map (·.1)).Nodup
  umU : ∀ b ∈ um, b.1 ∈ U.map (·.1) → b.2 ≠ none
  dKeys : ∀ e ∈ D, ∀ p ∈ e.2.prevouts, p.1 ∉ M → p ∈ um.map (·.1)

theorem QInv.round (henv : EnvQuiet W M U fetch lookup) {st : St} {D : TxMap} {um : UtxoMap}
    {t : List HashX} {r : AcceptResult} (hD : ∀ e ∈ D, Fetched W e ∧ e.1 ∈ M) (q : QInv M U D um)
    (c : CallFacts W st D um t r) : QInv M U r.deferred r.unspent := by
  refine ⟨(c.sub.map _).nodup q.dNodup, fun b hb => q.umU b (c.unspentSub _ hb),
    fun e he p hp hpM => ?_⟩
  have heD := c.sub.subset he
  obtain ⟨b, hb, hbp⟩ := List.mem_map.mp (q.dKeys e heD p hp hpM)
  rcases c.unspentKeep q.dNodup b hb with h1 | ⟨e2, h2, h3, h4⟩
  · exact List.mem_map.mpr ⟨b, h1, hbp⟩
  · -- the binding went with an accepted `e2` spending the same output: then `e2` is `e`, which waits
    exfalso
    obtain ⟨⟨t1, g1, g2⟩, hM1⟩ := hD e heD
    obtain ⟨⟨t2, g3, g4⟩, hM2⟩ := hD e2 h2
    rw [hbp, g4] at h3
    rw [g2] at hp
    have := henv.conflictFree e.1 hM1 e2.1 hM2 t1 t2 g1 g3 p hp h3
    exact h4 (this ▸ List.mem_map.mpr ⟨e, he, rfl⟩)

theorem QInv.ofChunk (henv : EnvQuiet W M U fetch lookup) (k : Nat) {chunk : List Hash}
    (hnd : chunk.Nodup) :
    QInv M U (txMapOf fetch chunk) (chunkUm M fetch lookup k chunk) := by
  have hum : chunkUm M fetch lookup k chunk =
      ((lookupPrevouts M (txMapOf fetch chunk)).map fun p => (p, ulookup U p)).reverse := by
    rw [chunkUm, henv.lookup, utxoMapOf, ← List.map_prod_left_eq_zip]
  refine ⟨(keys_txMapOf_sublist fetch chunk).nodup hnd, fun b hb hU => ?_, fun e he p hp hpM => ?_⟩
  · rw [hum, List.mem_reverse, List.mem_map] at hb
    obtain ⟨p, _, rfl⟩ := hb
    obtain ⟨pr, h2⟩ := ulookup_of_key hU
    exact h2 ▸ Option.some_ne_none pr
  · rw [hum, List.map_reverse, List.mem_reverse, List.map_map]
    exact List.mem_map.mpr ⟨p, List.mem_filter.mpr
      ⟨List.mem_flatMap.mpr ⟨e, he, hp⟩, not_contains_iff.mpr hpM⟩, rfl⟩

theorem QInv.append {D D' : TxMap} {um um' : UtxoMap} (q : QInv M U D um) (q' : QInv M U D' um')
    (hnd : ((D ++ D').map (·.1)).Nodup) :
    QInv M U (D ++ D') (um' ++ um) := by
  refine ⟨hnd, fun b hb => (List.mem_append.mp hb).elim (q'.umU b) (q.umU b),
    fun e he p hp hpM => ?_⟩
  rw [List.map_append]
  exact (List.mem_append.mp he).elim (fun h => List.mem_append_right _ (q.dKeys e h p hp hpM))
    fun h => List.mem_append_left _ (q'.dKeys e h p hp hpM)

def Cov (M : List Hash) (st : St) (D : TxMap) : Prop :=
  ∀ h ∈ M, h ∈ st.txs.map (·.1) ∨ h ∈ D.map (·.1)

theorem Cov.round {st : St} {D : TxMap} {um : UtxoMap} {t : List HashX} {r : AcceptResult}
    (hc : Cov M st D) (c : CallFacts W st D um t r) :
    Cov M r.st r.deferred := by
  intro h hM
  rcases hc h hM with h1 | h1
  · obtain ⟨e, he, h2⟩ := List.mem_map.mp h1
    exact Or.inl (List.mem_map.mpr ⟨e, c.mono e he, h2⟩)
  · obtain ⟨e, he, h2⟩ := List.mem_map.mp h1
    rcases c.cover e he with h3 | h3
    · exact Or.inl (h2 ▸ h3)
    · exact Or.inr (List.mem_map.mpr ⟨e, h3, h2⟩)

/-- a deferred transaction of minimal rank can be funded -/
theorem QInv.ready (henv : EnvQuiet W M U fetch lookup) {st : St} {D : TxMap} {um : UtxoMap}
    (hD : ∀ e ∈ D, Fetched W e ∧ e.1 ∈ M) (q : QInv M U D um) (hc : Cov M st D) (hne : D ≠ []) :
    ∃ e ∈ D, ReadyAt um st e := by
  obtain ⟨rank, hrank⟩ := henv.acyclic
  obtain ⟨e, he, hmin⟩ := exists_min_rank rank D hne
  refine ⟨e, he, ?_⟩
  obtain ⟨⟨t, g1, g2⟩, hM⟩ := hD e he
  intro p hp
  have hp' : p ∈ (mkTx t).prevouts := g2 ▸ hp
  by_cases hpM : p.1 ∈ M
  · right
    rcases hc p.1 hpM with h1 | h1
    · exact h1
    · exfalso
      obtain ⟨e2, h2, h3⟩ := List.mem_map.mp h1
      exact Nat.not_lt.mpr (hmin e2 h2) (h3 ▸ hrank e.1 hM t g1 p hp' hpM)
  · left
    rcases henv.closed e.1 hM t g1 p hp' with h1 | h1
    · exact absurd h1 hpM
    · exact umGet_of_all_some (q.dKeys e he p hp hpM) (fun r hr => q.umU (p, r) hr h1)

/-- The chunk phase of a quiet refresh.  `order.flatMap (chunks.getD · [])` is what is handed to the
    tasks, in completion order.  While the tasks `rest` are still to complete, the waiting keys
    followed by what `rest` will be handed are duplicate-free, and every listed hash is stored,
    waiting or still to be handed out. -/
theorem chunkPhase_quiet (henv : EnvQuiet W M U fetch lookup) {st : St} (hinv : MpInv W st)
    (touched : List HashX) {chunks : List (List Hash)} (hsub : ∀ k, ∀ h ∈ chunks.getD k [], h ∈ M)
    {order : List Nat} (hnd : (order.flatMap (chunks.getD · [])).Nodup)
    (hall : ∀ h ∈ M, h ∈ st.txs.map (·.1) ∨ h ∈ order.flatMap (chunks.getD · [])) :
    ∃ m, chunkPhase M fetch lookup chunks
        { st := st, txMap := [], um := [], touched := touched } order = .ok m ∧
      SoundInv W M st touched m ∧ QInv M U m.txMap m.um ∧ Cov M m.st m.txMap := by
  refine Exists.imp (fun m ⟨h1, hs, q, _, hcov⟩ => ⟨h1, hs, q, fun h hh =>
      (hcov h hh).imp id fun h3 => h3.resolve_right fun h4 => nomatch h4⟩)
    (chunkPhase_ind henv.soundOn hsub
      (fun rest m => QInv M U m.txMap m.um ∧
        (m.txMap.map (·.1) ++ rest.flatMap (chunks.getD · [])).Nodup ∧
        ∀ h ∈ M, h ∈ m.st.txs.map (·.1) ∨
          h ∈ m.txMap.map (·.1) ∨ h ∈ rest.flatMap (chunks.getD · []))
      (fun k rest m r hs hP c => ?_) order
      { st := st, txMap := [], um := [], touched := touched }
      ⟨Grow.refl hinv, fun _ _ h => (nomatch h), fun _ h => (nomatch h)⟩
      ⟨⟨List.nodup_nil, fun _ h => (nomatch h), fun _ h => (nomatch h)⟩, hnd,
        fun h hM => (hall h hM).imp id Or.inr⟩)
  obtain ⟨q, hwait, hcov⟩ := hP
  rw [List.flatMap_cons, ← List.append_assoc] at hwait
  -- the chunk's deferred keys are a sublist of the chunk
  have hwait' : ((m.txMap ++ r.deferred).map (·.1) ++ rest.flatMap (chunks.getD · [])).Nodup := by
    rw [List.map_append]
    exact (((List.Sublist.refl _).append ((c.sub.map _).trans (keys_txMapOf_sublist fetch _))).append
      (List.Sublist.refl _)).nodup hwait
  have hk : (chunks.getD k []).Nodup :=
    ((List.sublist_append_right _ _).trans (List.sublist_append_left _ _)).nodup hwait
  refine ⟨q.append ((QInv.ofChunk henv k hk).round henv
      (fetched_of_txMapOf henv.soundOn.fetch (hsub k)) c)
      ((List.sublist_append_left _ _).nodup hwait'), hwait', fun h hh => ?_⟩
  simp only [Merge.absorb, List.map_append, List.mem_append]
  rcases hcov h hh with h3 | h3 | h3
  · obtain ⟨e, he, h4⟩ := List.mem_map.mp h3
    exact Or.inl (List.mem_map.mpr ⟨e, c.mono e he, h4⟩)
  · exact Or.inr (Or.inl (Or.inl h3))
  · rcases List.mem_append.mp (List.flatMap_cons ▸ h3) with h2 | h2
    · obtain ⟨t, _, g2⟩ := henv.fetch h (hsub k h h2)
      exact (c.cover (h, mkTx t) (mem_txMapOf.mpr ⟨h2, t, g2, rfl⟩)).imp id
        fun h3 => Or.inl (Or.inr (List.mem_map.mpr ⟨_, h3, rfl⟩))
    · exact Or.inr (Or.inr h2)

theorem processNew_quiet (henv : EnvQuiet W M U fetch lookup) {cs : Nat} (hcs : 0 < cs) {st : St}
    (hinv : MpInv W st) (hkeys : ∀ e ∈ st.txs, e.1 ∈ M) (touched : List HashX) {order : List Nat}
    (hord : order.Perm (List.range (chunksOf cs (newHashes st.txs M)).length)) :
    ∃ r, processNew cs st M touched fetch lookup order = .ok r ∧ r.dropped = [] ∧
      MpInv W r.st ∧ r.st.txs.Perm (specPool W M U) := by
  unfold processNew
  split
  · rename_i hempty
    refine ⟨_, rfl, rfl, hinv, exact_of_cover henv hinv hkeys fun h hM => ?_⟩
    refine Classical.byContradiction fun hn => ?_
    have : h ∈ newHashes st.txs M := mem_newHashes.mpr ⟨hM, hn⟩
    rw [List.isEmpty_iff.mp hempty] at this
    cases this
  · -- in completion order the chunks are a permutation of the new hashes
    have hperm := chunksOf_flatMap hcs (newHashes st.txs M) ▸
      hord.flatMap_right ((chunksOf cs (newHashes st.txs M)).getD · [])
    obtain ⟨m, h1, hs, q, hC⟩ := chunkPhase_quiet henv hinv touched
      (chunks := chunksOf cs (newHashes st.txs M))
      (fun k h hh => (mem_newHashes.mp (chunksOf_subset hh)).1)
      (hperm.nodup_iff.mpr (List.filter_sublist.nodup henv.nodup))
      fun h hM => (Classical.em _).imp id fun hst => hperm.mem_iff.mpr (mem_newHashes.mpr ⟨hM, hst⟩)
    -- every round of the fix-point loop accepts a deferred transaction of minimal rank
    obtain ⟨m', h2, hs', ⟨_, hc'⟩, hD'⟩ := deferredLoop_ind henv.valid
      (fun m => QInv M U m.txMap m.um ∧ Cov M m.st m.txMap) True
      (fun m r hs ⟨q, hc⟩ hD c => ⟨fun _ => c.progress (q.ready henv hs.waiting hc hD),
        q.round henv hs.waiting c, hc.round c⟩)
      (m.txMap.length + 1) m 0 (Or.inl (Nat.lt_succ_self _)) (fun _ => Or.inl rfl) hs ⟨q, hC⟩
    simp only [h1, h2, hD' trivial]
    exact ⟨_, rfl, rfl, hs'.grow.inv, exact_of_cover henv hs'.grow.inv
      (fun e he => (hs'.grow.fresh e he).elim (hkeys e) (·.1))
      fun h hM => (hc' h hM).resolve_right fun h3 => nomatch (hD' trivial ▸ h3)⟩

/-- how many `raw_transactions` batches a refresh of listing `M` from state `st` spawns -/
def numChunks (cs : Nat) (st : St) (M : List Hash) : Nat :=
  (chunksOf cs (newHashes (afterRemoval st M) M)).length

theorem processMempoolN_quiet {W : Hash → Option RawTx} {M : List Hash} {U : List (Prevout × Pair)}
    {fetch : Hash → Option RawTx} {lookup : Nat → List Prevout → List (Option Pair)}
    (henv : EnvQuiet W M U fetch lookup) {cs : Nat} (hcs : 0 < cs) {st : St} (hinv : MpInv W st)
    (touched : List HashX) (h : Int) {order : List Nat}
    (hord : order.Perm (List.range (numChunks cs st M))) :
    ∃ r, processMempoolN cs st M touched h h fetch lookup order = .ok r ∧ r.dropped = [] ∧
      MpInv W r.st ∧ r.st.txs.Perm (specPool W M U) := by
  obtain ⟨st1, t1, h1, h2, h3, _⟩ := removal_facts hinv M touched
  obtain ⟨r, h5, h6⟩ := processNew_quiet henv hcs h2
    (fun e he => List.contains_iff_mem.mp (List.mem_filter.mp (h3 ▸ he : e ∈ List.filter _ _)).2) t1
    (order := order)
    (by rw [h3]; exact hord)
  refine ⟨r, ?_, h6⟩
  simp only [processMempoolN, ne_eq, not_true_eq_false, if_false, h1]; exact h5

end EV.Mempool
