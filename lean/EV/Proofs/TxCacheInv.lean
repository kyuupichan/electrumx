import EV.Proofs.TxCacheReq

/-!
C11 (transaction proofs) / C10 (by-height answers): the global invariant of `EV.TxCache` under the
fixed code (`Cfg.fixed thr`, any threshold), preserved by every event — any number of requests, any
interleaving of requests, worker reads, evictions, new blocks, flushes, back-outs and the
`_handle_chain_reorgs` task.  `Step.continues` is the ghost history over one step, for every variant of the code.
-/
namespace EV.TxCache
open EV.Merkle

variable {Node : Type} [DecidableEq Node] (H : Node → Node → Node)

structure Inv (s : St Node) : Prop where
  db : DBInv s
  pre : visible s <+: s.ref
  /-- no reorganisation under way and `_handle_chain_reorgs` has run: the reference chain is the
      visible chain -/
  closed : s.bp = .idle → s.woken = false → s.ref = visible s
  /-- blocks are advanced / being flushed only when no reorganisation is under way and
      `_handle_chain_reorgs` has run (`Cfg.fifo`) -/
  quiet : (s.unfl ≠ [] ∨ s.vis < s.fsN) → s.bp = .idle ∧ s.woken = false
  txc : TxcOK s.ref s.txc
  mc : McOK H s.ref s.mc
  reqs : ∀ r ∈ s.reqs, ReqOK H s.rc s.ref (visible s) r

theorem Inv.step {thr : Nat} {s s' : St Node} {ev : Ev Node} (h : Step H (Cfg.fixed thr) s ev s')
    (hinv : Inv H s) : Inv H s' := by
  have hdb := hinv.db.step H h
  cases h with
  | skip => exact hinv
  | start k h =>
    obtain ⟨_, n2, n3⟩ := newReq_ok H thr s k h hinv.db hinv.pre hinv.txc hinv.mc
    exact { hinv with db := hdb, mc := n2, reqs := List.forall_mem_append.mpr ⟨hinv.reqs, List.forall_mem_singleton.mpr n3⟩ }
  | @perform i r hr =>
    have hr' := performReq_ok H thr s r hinv.db hinv.pre (hinv.reqs r (List.mem_of_getElem? hr))
    exact { hinv with db := hdb, reqs := forall_mem_set hinv.reqs hr' }
  | @deliver i r hr =>
    obtain ⟨d1, d2, d3⟩ := deliverReq_ok H thr s r hinv.txc hinv.mc (hinv.reqs r (List.mem_of_getElem? hr))
    exact { hinv with db := hdb, txc := d1, mc := d2, reqs := forall_mem_set hinv.reqs d3 }
  | evictTx h =>
    exact { hinv with db := hdb, txc := forall_setAt hinv.txc _ (fun _ hL => nomatch hL) }
  | evictMc h =>
    exact { hinv with db := hdb, mc := forall_setAt hinv.mc _ (fun _ he => nomatch he) }
  | advance b hg =>
    exact { hinv with db := hdb, quiet := fun _ => ⟨hg.1, hg.2.2 rfl⟩ }
  | flushFs hg =>
    -- the blocks appended to `disk` lie above `DB.state.height`: the visible chain is the same
    have hv : (s.disk ++ s.unfl).take s.vis = visible s :=
      take_of_prefix (List.prefix_append _ _) hinv.db.vis_le
    have hpre := hinv.pre
    have hclosed := hinv.closed
    have hreqs := hinv.reqs
    rw [← hv] at hpre hclosed hreqs
    exact ⟨hdb, hpre, hclosed, fun _ => hinv.quiet (Or.inl hg.2.2), hinv.txc, hinv.mc, hreqs⟩
  | flushSt hg =>
    -- quiet: the reference chain is the visible chain, which the flush extends
    have hq := hinv.quiet (Or.inr hg)
    have hp : s.ref <+: s.disk.take s.fsN :=
      hinv.closed hq.1 hq.2 ▸ List.take_prefix_take_left (Nat.le_of_lt hg)
    rw [if_pos hq] at hdb ⊢
    exact ⟨hdb, List.prefix_refl _, fun _ _ => rfl, fun _ => hq, hinv.txc.mono hp, hinv.mc.mono H hp,
      List.forall_mem_map.mpr fun r hr => ((hinv.reqs r hr).mono H hp).see H _⟩
  | reorgStart | boPop =>
    exact { hinv with db := hdb, closed := (fun h => nomatch h),
                      quiet := fun hq => absurd hq (hdb.settled (fun h => nomatch h)) }
  | boLower =>
    have hp : s.disk.dropLast.take (s.vis - 1) <+: visible s := by
      rw [List.dropLast_eq_take, List.take_take]
      exact List.take_prefix_take_left (Nat.le_trans (Nat.min_le_left _ _) (Nat.sub_le _ _))
    exact ⟨hdb, hp.trans hinv.pre, (fun h => nomatch h), fun hq => absurd hq (hdb.settled (fun h => nomatch h)),
      hinv.txc, hinv.mc, List.forall_mem_map.mpr fun r hr => (hinv.reqs r hr).see H _⟩
  | reorgEnd hbp =>
    refine ⟨hdb, hinv.pre, fun _ h => ?_, fun hq => absurd hq (hinv.db.settled (by rw [hbp]; exact fun h => nomatch h)),
      hinv.txc, hinv.mc, hinv.reqs⟩
    rw [fixed_signal, Bool.or_true] at h
    cases h
  | handler hw =>
    exact ⟨hdb, List.prefix_refl _, fun _ _ => rfl, fun h => ⟨(hinv.quiet h).1, rfl⟩,
      (fun _ _ h => nomatch h), (fun _ _ h => nomatch h), fun r hr => (hinv.reqs r hr).handler H⟩

theorem inv_step (thr : Nat) (s : St Node) (ev : Ev Node) (hinv : Inv H s) :
    Inv H (step H (Cfg.fixed thr) s ev) :=
  hinv.step H (step_Step H _ s ev)

theorem inv_run (thr : Nat) (s : St Node) (evs : List (Ev Node)) (hinv : Inv H s) :
    Inv H (run H (Cfg.fixed thr) s evs) :=
  foldl_inv (inv_step H thr) evs hinv

/-- `r'` is `r` one step later, `V` the visible chain after the step -/
def Req.Sees (V : List (Block Node)) (r r' : Req Node) : Prop :=
  r'.kind = r.kind ∧ r'.height = r.height ∧ (r'.seen = r.seen ∨ (r'.seen = V :: r.seen ∧ r.active = true))

omit [DecidableEq Node] in
theorem see_sees (V : List (Block Node)) (r : Req Node) : r.Sees V (r.see V) := by
  unfold Req.see
  split
  · next h => exact ⟨rfl, rfl, .inr ⟨rfl, h⟩⟩
  · exact ⟨rfl, rfl, .inl rfl⟩

theorem Step.continues {cfg : Cfg} {s s' : St Node} {ev : Ev Node} (h : Step H cfg s ev s') :
    Continues (Req.Sees (visible s')) (fun r => r.seen = [visible s']) s.reqs s'.reqs := by
  have hR : ∀ {V} (r : Req Node), r.Sees V r := fun _ => ⟨rfl, rfl, .inl rfl⟩
  cases h with
  | start k h =>
    obtain ⟨pc, hpc⟩ := newReq_pc H cfg s k h
    exact .push hR (by rw [hpc]; rfl)
  | @perform i r hr =>
    obtain ⟨pc, hpc⟩ := performReq_pc cfg s r
    exact .set hR hr (hpc ▸ hR r)
  | @deliver i r hr =>
    obtain ⟨pc, hpc⟩ := deliverReq_pc H cfg s r
    exact .set hR hr (hpc ▸ hR r)
  | flushSt | boLower => exact .map (see_sees _)
  | _ => exact .refl hR

structure Init (s : St Node) : Prop where
  db : DBInv s
  ref : s.ref = visible s
  idle : s.bp = .idle
  woken : s.woken = false
  flushed : s.unfl = [] ∧ s.vis = s.fsN
  txc : TxcOK s.ref s.txc
  mc : McOK H s.ref s.mc
  reqs : s.reqs = []

theorem Init.inv {s : St Node} (h : Init H s) : Inv H s :=
  ⟨h.db, by rw [h.ref]; exact List.prefix_refl _, fun _ _ => h.ref,
    fun hq => hq.elim (absurd h.flushed.1) (fun hlt => absurd h.flushed.2 (Nat.ne_of_lt hlt)),
    h.txc, h.mc, fun r hr => by rw [h.reqs] at hr; cases hr⟩

omit [DecidableEq Node] in
theorem init_ofChain (ch : List (Block Node)) : Init H (St.ofChain ch) :=
  ⟨dbInv_ofChain ch, by simp [St.ofChain, visible], rfl, rfl, ⟨rfl, rfl⟩, fun _ _ h => (by cases h),
    fun _ _ h => (by cases h), rfl⟩

end EV.TxCache
