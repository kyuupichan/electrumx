import EV.Proofs.CompactBatch

/-!
The invariant of compaction.  `HInv` holds the five clauses against any flush count, `comp_flush_count` and
cursor; `SInv` (what a compaction process carries from batch to batch) reads it at the values in memory, `PInv`
(`EV/Proofs/CompactRun.lean`) at those of the state record on disk.  Four facts move it: it looks at the table
only (`HInv.congr`), it holds with no compaction recorded as soon as ids are `≤` the flush count (`HInv.idle`),
the driver's initialisation keeps it (`HInv.init`), and compacting a range of prefixes moves the cursor along,
whatever the cursor (`CompactedOn.inv`).  `Batch.sinv` is the last of these for one `_compact_history` call; the
final batch is the case of the cursor reaching 65536, where `HInv.idle` takes over.
-/
namespace EV.Compact
open EV.Index

/-- the ordering hypothesis: rows of hashXs whose prefix is below the compaction cursor carry ids up
    to `comp_flush_count`, all others ids up to `flush_count` (so that the *next* id used for such a
    hashX - by a later batch resp. by `History.flush` - is beyond every existing one) -/
def IdsOrdered (hist : List Row) (F : Nat) (cfc cursor : Int) : Prop :=
  ∀ e ∈ hist, if (prefixOf e.1.1 : Int) < cursor then (e.1.2 : Int) ≤ cfc else e.1.2 ≤ F

/-- hashXs are 11 bytes -/
def HxWidth (hist : List Row) : Prop := ∀ e ∈ hist, e.1.1 < 2 ^ 88

theorem prefix_lt_of_width {hx : HashX} (h : hx < 2 ^ 88) : prefixOf hx < 65536 := by
  unfold prefixOf
  apply Nat.div_lt_of_lt_mul
  have : (2 : Nat) ^ 72 * 65536 = 2 ^ 88 := by decide
  rw [this]; exact h

/-- compacted hashXs occupy exactly the ids `0 … n-1` (with `RowsFit` their ids are then `≤` the flush
    count, `allIdsLE_of_fit`) -/
def IdsTight (maxRow : Nat) (p : Store) (cursor : Int) : Prop :=
  ∀ e ∈ p.hist, (prefixOf e.1.1 : Int) < cursor → e.1.2 < nchunks maxRow p e.1.1

/-- `comp_flush_count` is never larger than it has to be: `≤ 1` (the driver starts from
    `max(comp_flush_count, 1)`, `driverInit`) or the last compacted id of some hashX (`_compact_hashX` raises
    it to that).  The final batch makes it the history flush count; this bound is what keeps that count
    `≤` the UTXO one (`notAhead`) when the `set_flush_count` that should follow is lost — together with
    `1 ≤ uF p` and `RowsFit` of `EvOK`. -/
def CfcTight (maxRow : Nat) (p : Store) (cfc : Int) : Prop :=
  cfc ≤ 1 ∨ ∃ hx, cfc = ((nchunks maxRow p hx - 1 : Nat) : Int)

/-- what holds between any two batches of a compaction process -/
structure SInv (maxRow : Nat) (s : Sys) : Prop where
  nodup : NodupKeys s.p.hist
  width : HxWidth s.p.hist
  ordered : IdsOrdered s.p.hist s.m.histFlush s.m.compFlush s.m.compCursor
  tight : IdsTight maxRow s.p s.m.compCursor
  cfcTight : CfcTight maxRow s.p s.m.compFlush

structure HInv (maxRow : Nat) (p : Store) (F : Nat) (cfc cursor : Int) : Prop where
  nodup : NodupKeys p.hist
  width : HxWidth p.hist
  ordered : IdsOrdered p.hist F cfc cursor
  tight : IdsTight maxRow p cursor
  cfcTight : CfcTight maxRow p cfc

theorem sinv_iff {maxRow : Nat} {s : Sys} :
    SInv maxRow s ↔ HInv maxRow s.p s.m.histFlush s.m.compFlush s.m.compCursor :=
  ⟨fun h => ⟨h.nodup, h.width, h.ordered, h.tight, h.cfcTight⟩,
    fun h => ⟨h.nodup, h.width, h.ordered, h.tight, h.cfcTight⟩⟩

theorem nchunks_congr {maxRow : Nat} {p p' : Store}
    (h : ∀ hx, getTxnums p' hx none = getTxnums p hx none) (hx : HashX) :
    nchunks maxRow p' hx = nchunks maxRow p hx := by
  unfold nchunks; rw [h]

theorem cfcTight_congr {maxRow : Nat} {p p' : Store}
    (h : ∀ hx, getTxnums p' hx none = getTxnums p hx none) {x : Int} (ht : CfcTight maxRow p x) :
    CfcTight maxRow p' x := by
  rcases ht with ht | ⟨hx, ht⟩
  · exact Or.inl ht
  · exact Or.inr ⟨hx, by rw [nchunks_congr h]; exact ht⟩

theorem idsOrdered_idle {hist : List Row} {F : Nat} {cfc : Int} :
    IdsOrdered hist F cfc (-1) ↔ ∀ e ∈ hist, e.1.2 ≤ F := by
  have hlt : ∀ e : Row, ¬ ((prefixOf e.1.1 : Int) < -1) := fun e => by omega
  constructor
  · intro h e he; have := h e he; rwa [if_neg (hlt e)] at this
  · intro h e he; rw [if_neg (hlt e)]; exact h e he

theorem idsTight_idle {maxRow : Nat} {p : Store} : IdsTight maxRow p (-1) :=
  fun e _ hlt => by omega

theorem cfcTight_idle {maxRow : Nat} {p : Store} : CfcTight maxRow p (-1) := Or.inl (by decide)

theorem HInv.congr {maxRow : Nat} {p p' : Store} {F : Nat} {cfc cursor : Int} (h : p'.hist = p.hist)
    (hI : HInv maxRow p F cfc cursor) : HInv maxRow p' F cfc cursor := by
  have hg := fun hx => getTxnums_congr h hx none
  refine ⟨h ▸ hI.nodup, h ▸ hI.width, h ▸ hI.ordered, fun e he hlt => ?_, cfcTight_congr hg hI.cfcTight⟩
  rw [nchunks_congr hg]
  exact hI.tight e (h ▸ he) hlt

/-- at cursor `-1` no prefix is below the cursor: `IdsOrdered` is `hle`, and `IdsTight`, `CfcTight` are trivial -/
theorem HInv.idle {maxRow : Nat} {p : Store} {F : Nat} (hn : NodupKeys p.hist) (hw : HxWidth p.hist)
    (hle : ∀ e ∈ p.hist, e.1.2 ≤ F) : HInv maxRow p F (-1) (-1) :=
  ⟨hn, hw, idsOrdered_idle.mpr hle, idsTight_idle, cfcTight_idle⟩

/-- `driverInit`: a compaction that is not in progress starts at prefix 0, where no row is below the cursor -/
theorem HInv.init {maxRow : Nat} {p : Store} {F : Nat} {cfc cursor : Int} (hI : HInv maxRow p F cfc cursor) :
    HInv maxRow p F (max cfc 1) (if cursor = -1 then 0 else cursor) := by
  refine ⟨hI.nodup, hI.width, fun e he => ?_, fun e he hlt => ?_, ?_⟩
  · have ho := hI.ordered e he
    by_cases hc : cursor = -1
    · rw [if_pos hc]
      subst hc
      rw [if_neg (by omega)]; exact idsOrdered_idle.mp hI.ordered e he
    · rw [if_neg hc]
      split
      · next hlt => rw [if_pos hlt] at ho; omega
      · next hlt => rw [if_neg hlt] at ho; exact ho
  · split at hlt
    · omega
    · exact hI.tight e he hlt
  · rcases hI.cfcTight with t | ⟨hx, t⟩
    · left; omega
    · by_cases h1 : cfc ≤ 1
      · left; omega
      · right; exact ⟨hx, by omega⟩

theorem batchStore_ustate (maxRow : Nat) (p : Store) (calls : List Call) (st : HState) :
    (batchStore maxRow p calls st).ustate = p.ustate := rfl

theorem batchStore_hstate (maxRow : Nat) (p : Store) (calls : List Call) (st : HState) :
    (batchStore maxRow p calls st).hstate = some st := rfl

def SameOther (p p' : Store) : Prop :=
  p'.h = p.h ∧ p'.u = p.u ∧ p'.undo = p.undo ∧ p'.ustate = p.ustate ∧ p'.headers = p.headers ∧
  p'.txcounts = p.txcounts ∧ p'.hashes = p.hashes

theorem sameOther_histBatch (p : Store) (dels : List (HashX × Nat)) (puts : List Row) (st : HState) :
    SameOther p (applyEffect p (.histBatch dels puts st)) := ⟨rfl, rfl, rfl, rfl, rfl, rfl, rfl⟩

theorem CompactedOn.inv {maxRow : Nat} (hm : 0 < maxRow) {p p' : Store} {F : Nat} {cfc cfc' cursor : Int} {k : Nat}
    (hC : CompactedOn maxRow cursor.toNat (cursor.toNat + k) p p') (hI : HInv maxRow p F cfc cursor)
    (hk : 0 < k → 0 ≤ cursor) (c1 : cfc ≤ cfc')
    (c2 : ∀ r ∈ p.hist, cursor.toNat ≤ prefixOf r.1.1 → prefixOf r.1.1 < cursor.toNat + k →
      ((nchunks maxRow p r.1.1 - 1 : Nat) : Int) ≤ cfc')
    (c3 : cfc' = cfc ∨ ∃ hx, cfc' = ((nchunks maxRow p hx - 1 : Nat) : Int)) :
    HInv maxRow p' F cfc' (cursor + k) := by
  have hsame := hC.getTxnums hm hI.nodup
  refine ⟨hC.nodup, fun r hr => ?_, fun r hr => ?_, fun r hr hlt => ?_,
    cfcTight_congr hsame (c3.elim (· ▸ hI.cfcTight) Or.inr)⟩
  · rcases hC.row hr with ⟨_, _, hc⟩ | ⟨he, _⟩
    · obtain ⟨e, he, hx⟩ := exists_row_of_compactRows hc
      exact hx ▸ hI.width e he
    · exact hI.width r he
  · rcases hC.row hr with ⟨r1, r2, hc⟩ | ⟨he, hout⟩
    · -- a compacted hashX had rows, and `cfc'` bounds its last new id
      obtain ⟨e, he, hx⟩ := exists_row_of_compactRows hc
      have h2 := c2 e he (hx ▸ r1) (hx ▸ r2)
      rw [hx] at h2
      have := (compactRows_bounds hc).2
      rw [if_pos (by omega)]; omega
    · have := hI.ordered r he
      split at this <;> split <;> omega
  · rw [nchunks_congr hsame]
    rcases hC.row hr with ⟨_, _, hc⟩ | ⟨he, hout⟩
    · exact (compactRows_bounds hc).2
    · exact hI.tight r he (by omega)

theorem Batch.hstate {maxRow limit : Nat} {s s' : Sys} {e : Effect} {k : Nat} {cfc' : Int}
    (hB : Batch maxRow limit s e s' k cfc') : s'.p.hstate = some (hstateOf s'.m) := by
  obtain ⟨dels, puts, he⟩ := hB.eff
  rw [hB.store, he]; rfl

theorem Batch.sameOther {maxRow limit : Nat} {s s' : Sys} {e : Effect} {k : Nat} {cfc' : Int}
    (hB : Batch maxRow limit s e s' k cfc') : SameOther s.p s'.p := by
  obtain ⟨dels, puts, he⟩ := hB.eff
  rw [hB.store, he]; exact sameOther_histBatch _ _ _ _

theorem Batch.sinv {maxRow limit : Nat} (hm : 0 < maxRow) {s s' : Sys} {e : Effect} {k : Nat} {cfc' : Int}
    (hB : Batch maxRow limit s e s' k cfc') (hI : SInv maxRow s) :
    SInv maxRow s' ∧
    (s'.m.histFlush = s.m.histFlush ∨ (s'.m.compCursor = -1 ∧ CfcTight maxRow s.p s'.m.histFlush)) := by
  have hsame := hB.rows.getTxnums hm hI.nodup
  have hI' := hB.rows.inv hm (sinv_iff.mp hI) hB.nonneg hB.cfc_le hB.cfc_rows hB.cfc_eq
  rw [sinv_iff, hB.mem]
  unfold flushCompaction
  split
  · -- the final batch: every prefix is below the cursor, so every id is `≤ cfc'`, which becomes the flush count
    next hfin =>
    refine ⟨.idle hI'.nodup hI'.width fun e he => ?_, Or.inr ⟨rfl, ?_⟩⟩
    · have hpre := prefix_lt_of_width (hI'.width e he)
      have := hI'.ordered e he
      rw [hfin, if_pos (by omega)] at this
      show e.1.2 ≤ cfc'.toNat
      omega
    · show CfcTight maxRow s.p cfc'.toNat
      rcases cfcTight_congr (fun hx => (hsame hx).symm) hI'.cfcTight with t | ⟨hx, t⟩
      · exact Or.inl (by omega)
      · exact Or.inr ⟨hx, by omega⟩
  · exact ⟨hI', Or.inl rfl⟩

end EV.Compact
