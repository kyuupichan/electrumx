import EV.Proofs.CompactTotal
import EV.Proofs.RunShape
import EV.Proofs.CarrierLoop

/-!
`PInv` (the precondition of every C14 run theorem, `EV/Proofs/CompactRun.lean`) derived from how the
index writes history rows.  With the run invariant `RunInv` (`EV/Proofs/RunShape.lean`: `TrackInv`, which holds
`FullInv'`, and the validity-free `RunShape`) and `ChainHxWidth` (11-byte hashXs) the store on disk is an
`IdleStore`, which is `PInv` as soon as `_open_dbs` (`clear_excess`) has run.
-/
namespace EV.Compact
open EV.Index EV.Spec

theorem hsOf_of_histDb {p q : Store} (h : histDb p = histDb q) : hsOf p = hsOf q :=
  hsOf_congr (hstate_of_histDb h)

theorem openStore_hist_cases (cfg : Cfg) (p : Store) :
    (openStore cfg p).hist = if hF p ≤ uF p then p.hist else histUpTo p.hist (uF p) :=
  (openStore_hist cfg p).trans (openStore1_hist p)

theorem uF_openStore (cfg : Cfg) (p : Store) : uF (openStore cfg p) = uF p :=
  uF_congr (openStore_ustate cfg p)

theorem openStore_notAhead (cfg : Cfg) (p : Store) : hF (openStore cfg p) ≤ uF (openStore cfg p) := by
  unfold hF hsOf
  rw [openStore_hstate_min, uF_openStore]
  exact Nat.min_le_right _ _

/-- **the hypothesis on the blocks**: every output of every transaction of the chain has an 11-byte
    script hash.  (The real `hashX` is `sha256(script)[:11]`; the index model's `HashX` is an
    unbounded number, so this cannot be derived inside the model.)  Decidable. -/
def ChainHxWidth (chain : List Block) : Prop :=
  ∀ b ∈ chain, ∀ tx ∈ b.txs, ∀ o ∈ tx.outs, o.hx < 2 ^ 88

instance (chain : List Block) : Decidable (ChainHxWidth chain) := by
  unfold ChainHxWidth; exact inferInstance

def StAll (P : HashX → Prop) (S : St) : Prop :=
  (∀ u ∈ S.utxos, P u.hx) ∧ (∀ l ∈ S.touched, ∀ hx ∈ l, P hx)

section
variable {P : HashX → Prop}

theorem newUtxos_all (act height txnum : Nat) (txid : Hash) (outs : List TxOut) (idx : Nat)
    (h : ∀ o ∈ outs, P o.hx) : ∀ u ∈ newUtxos act height txnum txid outs idx, P u.hx := by
  intro u hu
  obtain ⟨i, o, hi, -, rfl⟩ := newUtxos_out hu
  exact h o (List.mem_of_getElem? hi)

theorem applyTx_all (act height : Nat) (S : St) (tx : Tx) (hS : StAll P S)
    (h : ∀ o ∈ tx.outs, P o.hx) : StAll P (applyTx act height S tx) := by
  -- the UTXOs that remain and those that are spent were there before; the new ones come from `tx.outs`
  have hold : ∀ u, u ∈ (spendAll S.utxos tx.ins).1 ∨ u ∈ (spendAll S.utxos tx.ins).2 → P u.hx :=
    fun u hu => hS.1 u ((spendAll_perm S.utxos tx.ins).mem_iff.mpr (List.mem_append.mpr hu))
  have hn := newUtxos_all act height S.txs.length tx.id tx.outs 0 h
  rw [applyTx_eq]
  refine ⟨fun u hu => (List.mem_append.mp hu).elim (fun h => hold u (.inl h)) (hn u), fun l hl hx hm => ?_⟩
  rcases List.mem_append.mp hl with hl | hl
  · exact hS.2 l hl hx hm
  · rw [List.mem_singleton.mp hl] at hm
    rcases List.mem_append.mp hm with hm | hm <;> obtain ⟨u, hu, rfl⟩ := List.mem_map.mp hm
    · exact hold u (.inr hu)
    · exact hn u hu

theorem foldl_applyTx_all (act height : Nat) (txs : List Tx) (S : St) (hS : StAll P S)
    (h : ∀ tx ∈ txs, ∀ o ∈ tx.outs, P o.hx) : StAll P (txs.foldl (applyTx act height) S) :=
  List.foldlRecOn txs _ hS fun S hS tx ht => applyTx_all act height S tx hS (h tx ht)

/-- every script hash the specification of a chain knows is the script hash of an output of the chain:
    what holds of all outputs holds of them -/
theorem specFrom_all (act : Nat) (chain : List Block) (S : St) (height : Nat) (hS : StAll P S)
    (h : ∀ b ∈ chain, ∀ tx ∈ b.txs, ∀ o ∈ tx.outs, P o.hx) : StAll P (specFrom act S height chain) := by
  induction chain generalizing S height with
  | nil => exact hS
  | cons b r ih =>
    exact ih _ _ (foldl_applyTx_all act height b.txs S hS (h b List.mem_cons_self))
      fun b' hb => h b' (List.mem_cons_of_mem _ hb)

theorem all_of_history {S : St} (hS : StAll P S) {hx : HashX} {n : Nat} (hn : n ∈ historyOf S hx) :
    P hx := by
  unfold historyOf at hn
  obtain ⟨hr, hc⟩ := List.mem_filter.mp hn
  rw [List.mem_range] at hr
  rw [List.contains_eq_mem, decide_eq_true_eq, List.getD_eq_getElem?_getD, List.getElem?_eq_getElem hr,
    Option.getD_some] at hc
  exact hS.2 _ (List.getElem_mem hr) hx hc

end

theorem specChain_width (act : Nat) (chain : List Block) (h : ChainHxWidth chain) :
    StAll (· < 2 ^ 88) (specChain act chain) :=
  specFrom_all act chain {} 0
    ⟨fun _ hu => absurd hu List.not_mem_nil, fun _ hl => absurd hl List.not_mem_nil⟩ h

theorem row_sub_getTxnums (p : Store) (e : Row) (he : e ∈ p.hist) (n : Nat) (hn : n ∈ e.2) :
    n ∈ getTxnums p e.1.1 none := by
  rw [getTxnums_eq]
  refine List.mem_flatMap.mpr ⟨e, ?_, hn⟩
  unfold rowsOf
  rw [List.mem_mergeSort]
  exact List.mem_filter.mpr ⟨he, beq_self_eq_true _⟩

/-- `HxWidth` of the history table: rows are non-empty, their entries belong to the
    specification's history of the row's hashX, and the specification only touches script hashes of
    outputs of the chain -/
theorem hxWidth_of_histInv {S : St} {p : Store} {unf : List (HashX × List Nat)} {fc : Nat}
    (hinv : HistInv S p unf fc) (hS : StAll (· < 2 ^ 88) S) (hne : NoEmptyRows p.hist) : HxWidth p.hist := by
  intro e he
  obtain ⟨n, hn⟩ := List.exists_mem_of_ne_nil _ (hne e he)
  refine all_of_history hS (n := n) ?_
  rw [← hinv.eq e.1.1]
  exact List.mem_append_left _ (row_sub_getTxnums p e he n hn)


/-- what the index invariants say about the history DB on disk -/
structure IdleStore (p : Store) : Prop where
  nodup : NodupKeys p.hist
  width : HxWidth p.hist
  idsLE : ∀ e ∈ p.hist, e.1.2 ≤ hF p
  cfc : (hsOf p).compFlushCount = -1
  cursor : (hsOf p).compCursor = -1
  noEmpty : NoEmptyRows p.hist

theorem idleStore_congr {p p' : Store} (h : histDb p' = histDb p) (hI : IdleStore p) : IdleStore p' := by
  have h1 := hist_of_histDb h
  have hs := hsOf_of_histDb h
  exact ⟨by rw [h1]; exact hI.nodup, by rw [h1]; exact hI.width,
    by unfold hF; rw [h1, hs]; exact hI.idsLE,
    by rw [hs]; exact hI.cfc, by rw [hs]; exact hI.cursor, by rw [h1]; exact hI.noEmpty⟩

theorem pinv_of_idle (maxRow : Nat) {p : Store} (hI : IdleStore p) (hna : hF p ≤ uF p) : PInv maxRow p := by
  rw [pinv_iff, hI.cfc, hI.cursor]
  exact ⟨.idle hI.nodup hI.width hI.idsLE, hna⟩

/-- `_open_dbs` makes an idle store satisfy `PInv` (`pinv_of_idle`), whatever the two flush counts were -/
theorem idleStore_openStore (cfg : Cfg) {p : Store} (hI : IdleStore p) :
    IdleStore (openStore cfg p) ∧ hF (openStore cfg p) ≤ uF (openStore cfg p) := by
  have sub := openStore_hist_sublist cfg p
  have hD := diskShape_openStore cfg ⟨hI.cfc, hI.cursor, hI.noEmpty⟩
  refine ⟨⟨hI.nodup.sublist (sub.map _), fun e he => hI.width e (sub.mem he), ?_,
    hD.flush, hD.cursor, hD.noEmpty⟩, openStore_notAhead cfg p⟩
  intro e he
  have hfc : hF (openStore cfg p) = min (hF p) (uF p) := congrArg HState.flushCount (openStore_hstate_min cfg p)
  rw [openStore_hist_cases] at he
  split at he
  · have := hI.idsLE e he
    omega
  · have := of_decide_eq_true (List.mem_filter.mp he).2
    omega

theorem openStore_hist_of_flushed (cfg : Cfg) {p : Store} (h : ∀ e ∈ p.hist, e.1.2 ≤ uF p) :
    (openStore cfg p).hist = p.hist := by
  rw [openStore_hist_cases]
  split
  · rfl
  · exact histUpTo_self h

theorem idleStore_of_fullInv' {cfg : Cfg} {chain : List Block} {K : List Nat} {s : Sys}
    (inv : FullInv' cfg chain K s) (hD : DiskShape s.p) (hw : ChainHxWidth chain) : IdleStore s.p :=
  ⟨inv.base.hist.wf.keys,
    hxWidth_of_histInv inv.base.hist (specChain_width cfg.act chain hw) hD.noEmpty,
    fun e he => Nat.le_trans (inv.base.hist.wf.ids e he) (Nat.le_of_eq inv.hstate.symm),
    hD.flush, hD.cursor, hD.noEmpty⟩

theorem RunInv.idle {cfg : Cfg} {t : Track} {s : Sys} (ri : RunInv cfg t s) (hw : ChainHxWidth t.chain) :
    IdleStore s.p :=
  idleStore_of_fullInv' ri.inv ri.shape.disk hw

theorem chainHxWidth_run {cfg : Cfg} {ops : List IOp2} (hw : ChainHxWidth (chainOf2 [] 0 ops)) :
    ChainHxWidth (Track.run cfg {} ops).chain := by
  rw [Track.run_chain]; exact hw

/-- **the store of the end state of every valid index run is idle** (from the empty store; advances,
    flushes of either kind, back-outs, restarts) -/
theorem idleStore_of_run (cfg : Cfg) (ops : List IOp2) (hv : ValidOps2 cfg {} ops)
    (hw : ChainHxWidth (chainOf2 [] 0 ops)) {s : Sys} (hs : runOps2 cfg {} ops = .ok s) :
    IdleStore s.p :=
  (runInv_of_run hv hs).idle (chainHxWidth_run hw)

/-! ### every process starts with `_open_dbs`

so an event sequence on a store `p` that can be opened is the same as on `openStore cfg p` -/

theorem openDbs_openStore {cfg : Cfg} {p : Store} {c : Bool} {es : List Effect} {s : Sys}
    (h : openDbs cfg p c none = some (es, s)) :
    ∃ es', openDbs cfg (openStore cfg p) c none = some (es', s) := by
  rw [openDbs_eq] at h ⊢
  rw [openStore_idem, EV.Index.openState_openStore]
  obtain ⟨l, hl, h⟩ := Option.map_eq_some_iff.mp h
  cases h
  exact ⟨_, by rw [hl]; rfl⟩

/-- whether `_open_dbs` succeeds is decided by `_read_tx_counts`' assertions -/
theorem openDbs_isSome (cfg : Cfg) (p : Store) (c : Bool) (keep : Option (List Nat)) :
    (openDbs cfg p c keep).isSome = (openTxCounts (openStore cfg p) (openState p c).1 keep).isSome := by
  rw [openDbs_eq, Option.isSome_map]

theorem openDbs_isSome_compacting (cfg : Cfg) (p : Store) :
    (openDbs cfg p true none).isSome = (openDbs cfg p false none).isSome := by
  rw [openDbs_isSome, openDbs_isSome]
  rfl

theorem serverStart_eq_openStore (cfg : Cfg) (p : Store) (hopen : (openDbs cfg p false none).isSome = true) :
    serverStart cfg p = openStore cfg p := by
  obtain ⟨⟨es, s⟩, h⟩ := Option.isSome_iff_exists.mp hopen
  unfold serverStart
  rw [h]
  exact (openDbs_facts h).1

theorem runEv_openStore (cfg : Cfg) (maxRow : Nat) (p : Store) (ev : Ev)
    (hopen : (openDbs cfg p false none).isSome = true) :
    runEv cfg maxRow (openStore cfg p) ev = runEv cfg maxRow p ev := by
  cases ev with
  | compact limits b =>
    obtain ⟨⟨es, s⟩, h⟩ := Option.isSome_iff_exists.mp ((openDbs_isSome_compacting cfg p).trans hopen)
    obtain ⟨es', h'⟩ := openDbs_openStore h
    show compactScript cfg maxRow (openStore cfg p) limits b = compactScript cfg maxRow p limits b
    unfold compactScript
    rw [h, h']
  | serverStart =>
    obtain ⟨⟨es, s⟩, h⟩ := Option.isSome_iff_exists.mp hopen
    obtain ⟨es', h'⟩ := openDbs_openStore h
    show serverStart cfg (openStore cfg p) = serverStart cfg p
    unfold serverStart
    rw [h, h']

/-- the script refuses a store whose `first_sync` flag is set (`assert not db.state.first_sync`): only
    `_open_dbs` has run, if anything -/
theorem compactScript_of_firstSync (cfg : Cfg) (maxRow : Nat) (p : Store) (limits : List Nat) (b : Bool)
    (h : (p.ustate.getD {}).firstSync = true) :
    compactScript cfg maxRow p limits b = p ∨ compactScript cfg maxRow p limits b = openStore cfg p := by
  unfold compactScript
  cases ho : openDbs cfg p true none with
  | none => exact Or.inl rfl
  | some r =>
    obtain ⟨es, s⟩ := r
    obtain ⟨o1, -, o3, -⟩ := openDbs_facts ho
    right
    show (if s.m.dbst.firstSync = true then s.p else _) = _
    rw [o3, h, if_pos rfl, o1]

/-- **the first event of a sequence opens the store**: running a non-empty event sequence on `p` is
    running it on `openStore cfg p` -/
theorem runEvs_openStore (cfg : Cfg) (maxRow : Nat) (p : Store) (ev : Ev) (evs : List Ev)
    (hopen : (openDbs cfg p false none).isSome = true) :
    runEvs cfg maxRow (openStore cfg p) (ev :: evs) = runEvs cfg maxRow p (ev :: evs) := by
  show runEvs cfg maxRow (runEv cfg maxRow (openStore cfg p) ev) evs = runEvs cfg maxRow (runEv cfg maxRow p ev) evs
  rw [runEv_openStore cfg maxRow p ev hopen]

/-! ### the `first_sync` flag

`runOps2` never clears `ChainState.first_sync` (the model's `on_caught_up` does, see
`EV/Proofs/CarrierFS.lean`), and the compaction script refuses a store whose flag is set.  Nothing
of the above depends on the flag, so everything is stated for the run's store with EITHER flag. -/

def setFSp (f : Bool) (p : Store) : Store :=
  { p with ustate := p.ustate.map (fun x => { x with firstSync := f }) }

theorem uF_setFSp (f : Bool) (p : Store) : uF (setFSp f p) = uF p := by
  unfold uF setFSp
  cases p.ustate <;> rfl

theorem hF_setFSp (f : Bool) (p : Store) : hF (setFSp f p) = hF p := rfl

theorem idleStore_setFSp (f : Bool) {p : Store} (hI : IdleStore p) : IdleStore (setFSp f p) :=
  idleStore_congr (p := p) (p' := setFSp f p) rfl hI

theorem openDbs_isSome_setFSp (cfg : Cfg) (f : Bool) (p : Store) (c : Bool) :
    (openDbs cfg (setFSp f p) c none).isSome = (openDbs cfg p c none).isSome := by
  have h1 : (openState (setFSp f p) c).1.height = (openState p c).1.height := by
    unfold openState setFSp; cases p.ustate <;> rfl
  have h2 : (openState (setFSp f p) c).1.txCount = (openState p c).1.txCount := by
    unfold openState setFSp; cases p.ustate <;> rfl
  rw [openDbs_isSome, openDbs_isSome]
  unfold openTxCounts
  simp only [openStore_txcounts, h1, h2]
  rfl

/-! ### crashes inside a flush or a back-out

A crash leaves a *cut* of the effect list being executed (`EV/Model/Crash.lean`); its history DB is that
of the state, or that of the state one step on (`flush_cut_hist`, `backup_cut_hist`), which is invariant
again. -/

theorem idleStore_flush_cut {cfg : Cfg} {t : Track} {s : Sys} (ri : RunInv cfg t s)
    (hw : ChainHxWidth t.chain) {fu : Bool} {es : List Effect} {m' : Mem}
    (hf : flushDbs s fu = some (es, m')) {c : List Effect} (hc : c ∈ cuts es) :
    IdleStore (applyEffects s.p c) := by
  have h0 := ri.idle hw
  rcases flushDbs_cases hf with ⟨rfl, -⟩ | ⟨hh, hasserts, -⟩
  · rw [List.mem_singleton.mp hc]
    exact h0
  · obtain ⟨s1, h1, ri1⟩ := runInv_step ri (.flush false) trivial
    obtain rfl : flushHistStep s = s1 := Except.ok.inj ((flush_hist hh hasserts).symm.trans h1)
    exact (flush_cut_hist hf hc).elim (idleStore_congr · h0) (idleStore_congr · (ri1.idle hw))

theorem idleStore_backup_cut {cfg : Cfg} {t : Track} {s s' : Sys} (ri : RunInv cfg t s)
    (hw : ChainHxWidth t.chain) {b : Block} (hok : BackupOk t b = true)
    {es : List Effect} (hb : backupFull cfg s b = .ok (es, s')) {c : List Effect} (hc : c ∈ cuts es) :
    IdleStore (applyEffects s.p c) := by
  obtain ⟨s1, h1, ri1⟩ := runInv_step ri (.backup b) hok
  obtain rfl : s' = s1 := Except.ok.inj ((backup_of_ok hb).symm.trans h1)
  exact (backup_cut_hist hb hc).elim (idleStore_congr · (ri.idle hw))
    (idleStore_congr · (ri1.idle fun b' hb' => hw b' (List.dropLast_subset _ hb')))

/-! ### the block-processing task (`EV.SyncLoopT`: batches, `on_caught_up`, `reorg_chain`)

`RunShape` along the server-level loop model, again with no validity hypothesis: but for `on_caught_up` and
the end of a batch an event runs its operations (`step_ops`, `EV/Proofs/CarrierLoop.lean`), and `RunShape`
does not look at the `first_sync` flags or at `touched`. -/

theorem runShape_syncStep {cfg : Cfg} {l l' : EV.SyncLoop.Loop} {e : EV.SyncLoopT.Ev}
    {o : Option EV.SyncLoopT.Out} (hI : RunShape l.s) (h : EV.SyncLoopT.step cfg l e = .ok (l', o)) :
    RunShape l'.s := by
  by_cases hc : e = .caughtUp
  · subst hc
    rw [EV.SyncLoopT.step_caughtUp_eq] at h
    split at h
    · cases h
    · next s1 hf =>
      have h1 := runShape_flush (s := EV.SyncLoop.clearFirstSync l.s)
        (runShape_congr (s := l.s) rfl rfl rfl rfl hI) hf
      split at h <;> cases h
      · exact runShape_congr (s := s1) rfl rfl rfl rfl h1
      · exact h1
  by_cases hb : e = .batchEnd
  · subst hb
    cases h
    split
    · exact hI
    · exact runShape_congr (s := l.s) rfl rfl rfl rfl hI
  · rw [EV.SyncLoopT.step_ops cfg l hc hb] at h
    cases hr : runOps2 cfg l.s (EV.SyncLoopT.opsOf e) with
    | error err => rw [hr] at h; cases h
    | ok s1 => rw [hr] at h; cases h; exact runShape_run _ hI hr

/-- **the shape invariant holds along every run of the block-processing task** -/
theorem runShape_syncRun {cfg : Cfg} (evs : List EV.SyncLoopT.Ev) {l l' : EV.SyncLoop.Loop}
    {outs : List EV.SyncLoopT.Out} (hI : RunShape l.s) (h : EV.SyncLoopT.run cfg l evs = .ok (l', outs)) :
    RunShape l'.s := by
  induction evs generalizing l outs with
  | nil => cases h; exact hI
  | cons e r ih =>
    simp only [EV.SyncLoopT.run] at h
    split at h
    · cases h
    · next l1 o hs =>
      split at h
      · cases h
      · next l2 os hr => cases h; exact ih (runShape_syncStep hI hs) hr

end EV.Compact
