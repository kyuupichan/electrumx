import EV.Proofs.IndexLookup
import EV.Proofs.MempoolExact

/-!
The index model's `DB.lookup_utxos` (`EV.Index.lookupUtxos`) as the `lookup` parameter of the
mempool model (`EV/Model/Mempool.lean`), and the specification's UTXO set as the confirmed UTXO map
`U` of the mempool specification.  Hashes and script hashes are `Nat` in both models; the value is
`Nat` in the index (`unpack_le_uint64` of the `u` row) and `Int` in the mempool model (`read_output`
reads a signed 64-bit value), `mpPair` casts.  `WorldHas` lists ALL outputs of a chain transaction,
unspendable ones included: the mempool's `out_pairs[prev_idx]` indexes the full output list.
The index clauses of `EnvQuiet` and `EnvSound` are two facts: in a state whose rows hold the UTXO
list of `S` the index answers from `utxoMap S` (`mpLookup_rows`), and the specification's UTXO set
of a chain the world knows records true outputs (`utxoTrue_of_world`).
-/
namespace EV.Index
open EV.Spec

def mpPair (r : HashX × Nat) : EV.Mempool.Pair := (r.1, (r.2 : Int))

/-- the chunk number is ignored: the same index answers every chunk -/
def mpLookup (s : Sys) : Nat → List EV.Mempool.Prevout → List (Option EV.Mempool.Pair) :=
  fun _ ps => (lookupUtxos s ps).map (fun r => r.map mpPair)

def mpLookupAt (σ : Nat → Nat → Sys) : Nat → List EV.Mempool.Prevout → List (Option EV.Mempool.Pair) :=
  fun k ps => ps.zipIdx.map (fun pi => (lookupUtxo (σ k pi.2) pi.1.1 pi.1.2).map mpPair)

/-- a racing index at the granularity of the real coroutine: for the `i`-th prevout of chunk `k`,
    job 1 (`lookup_hashXs`) is read in state `σ1 k i` and job 2 (`lookup_utxos`, with the re-check
    of the fix of F22) in state `σ2 k i` -/
def mpLookupSplitAt (σ1 σ2 : Nat → Nat → Sys) :
    Nat → List EV.Mempool.Prevout → List (Option EV.Mempool.Pair) :=
  fun k ps => ps.zipIdx.map (fun pi =>
    (lookupUtxoSplit true (σ1 k pi.2) (σ2 k pi.2) pi.1.1 pi.1.2).map mpPair)

def utxoMap (S : St) : List (EV.Mempool.Prevout × EV.Mempool.Pair) :=
  S.utxos.map (fun u => ((u.txid, u.idx), (u.hx, (u.value : Int))))

/-- the output pairs of a chain transaction as `read_tx` + `hashX_from_script` deliver them -/
def rawOuts (tx : Tx) : List EV.Mempool.Pair := tx.outs.map (fun o => (o.hx, (o.value : Int)))

/-- the mempool model's world knows the chain's transactions and their outputs -/
def WorldHas (W : EV.Mempool.Hash → Option EV.Mempool.RawTx) (chain : List Block) : Prop :=
  ∀ b ∈ chain, ∀ tx ∈ b.txs, (W tx.id).map (·.outs) = some (rawOuts tx)

instance (W : EV.Mempool.Hash → Option EV.Mempool.RawTx) (chain : List Block) :
    Decidable (WorldHas W chain) := by
  unfold WorldHas; exact inferInstance

/-- the daemon side of a quiet refresh: every clause of `EnvQuiet` that does not speak about the
    index (`U` occurs only in `closed`) -/
structure DaemonQuiet (W : EV.Mempool.Hash → Option EV.Mempool.RawTx) (M : List EV.Mempool.Hash)
    (U : List (EV.Mempool.Prevout × EV.Mempool.Pair))
    (fetch : EV.Mempool.Hash → Option EV.Mempool.RawTx) : Prop where
  nodup : M.Nodup
  fetch : ∀ h ∈ M, ∃ t, W h = some t ∧ fetch h = some t
  valid : EV.Mempool.Valid W
  closed : ∀ h ∈ M, ∀ t, W h = some t → ∀ p ∈ (EV.Mempool.mkTx t).prevouts,
    p.1 ∈ M ∨ p ∈ U.map (·.1)
  acyclic : ∃ rank : EV.Mempool.Hash → Nat, ∀ h ∈ M, ∀ t, W h = some t →
    ∀ p ∈ (EV.Mempool.mkTx t).prevouts, p.1 ∈ M → rank p.1 < rank h
  conflictFree : ∀ h₁ ∈ M, ∀ h₂ ∈ M, ∀ t₁ t₂, W h₁ = some t₁ → W h₂ = some t₂ →
    ∀ p, p ∈ (EV.Mempool.mkTx t₁).prevouts → p ∈ (EV.Mempool.mkTx t₂).prevouts → h₁ = h₂

theorem DaemonQuiet.of_envQuiet {W : EV.Mempool.Hash → Option EV.Mempool.RawTx}
    {M : List EV.Mempool.Hash} {U : List (EV.Mempool.Prevout × EV.Mempool.Pair)}
    {fetch : EV.Mempool.Hash → Option EV.Mempool.RawTx}
    {lookup : Nat → List EV.Mempool.Prevout → List (Option EV.Mempool.Pair)}
    (h : EV.Mempool.EnvQuiet W M U fetch lookup) : DaemonQuiet W M U fetch :=
  { h with }

theorem WorldHas.prefix {W : EV.Mempool.Hash → Option EV.Mempool.RawTx} {c chain : List Block}
    (h : WorldHas W chain) (hp : c <+: chain) : WorldHas W c :=
  fun b hb tx htx => h b (hp.subset hb) tx htx

theorem mpLookup_length (s : Sys) (k : Nat) (ps : List EV.Mempool.Prevout) :
    (mpLookup s k ps).length = ps.length := by
  simp [mpLookup, lookupUtxos]

theorem mpLookupSplitAt_self (σ : Nat → Nat → Sys) : mpLookupSplitAt σ σ = mpLookupAt σ := by
  funext k ps
  simp only [mpLookupSplitAt, mpLookupAt, lookupUtxoSplit_self]

theorem ulookup_utxoMap (S : St) (p : EV.Mempool.Prevout) :
    EV.Mempool.ulookup (utxoMap S) p = (lookupIn S.utxos p.1 p.2).map mpPair := by
  -- `find?` over the mapped list is `outAt` over the UTXOs: the key comparison unfolds to `outAt`'s
  have h : (utxoMap S).find? (fun e => e.1 == p) =
      (outAt S.utxos p.1 p.2).map (fun u => ((u.txid, u.idx), (u.hx, (u.value : Int)))) := by
    rw [utxoMap, List.find?_map]
    rfl
  rw [EV.Mempool.ulookup, h, lookupIn]
  cases outAt S.utxos p.1 p.2 <;> rfl

theorem mpLookup_rows {s : Sys} {S : St} (r : RowsOf s S.utxos) (k : Nat)
    (ps : List EV.Mempool.Prevout) :
    mpLookup s k ps = ps.map (EV.Mempool.ulookup (utxoMap S)) := by
  rw [mpLookup, lookupUtxos, List.map_map]
  exact List.map_congr_left fun p _ => by rw [ulookup_utxoMap, ← lookupUtxo_rows r]; rfl

theorem truePair_of_outputOf {W : EV.Mempool.Hash → Option EV.Mempool.RawTx} {act : Nat}
    {chain : List Block} {u : Utxo} (hW : WorldHas W chain) (h : OutputOf act chain u) :
    EV.Mempool.truePair W (u.txid, u.idx) = some (u.hx, (u.value : Int)) := by
  obtain ⟨b, tx, o, h1, h2, h3, h4, h5, h6, -⟩ := h
  obtain ⟨t, ht, houts⟩ := Option.map_eq_some_iff.mp (hW b (List.mem_of_getElem? h1) tx h2)
  rw [h3] at ht
  simp only [EV.Mempool.truePair, ht, houts, rawOuts, List.getElem?_map, h4, Option.map_some, h5, h6]

theorem utxoTrue_of_world {W : EV.Mempool.Hash → Option EV.Mempool.RawTx} {act : Nat}
    {chain : List Block} (hW : WorldHas W chain) :
    ∀ b ∈ utxoMap (specChain act chain), EV.Mempool.truePair W b.1 = some b.2 := by
  intro b hb
  simp only [utxoMap, List.mem_map] at hb
  obtain ⟨u, hu, rfl⟩ := hb
  exact truePair_of_outputOf hW (specChain_outputOf act chain u hu)

theorem envQuiet_of_rows {s : Sys} {S : St} (r : RowsOf s S.utxos)
    {W : EV.Mempool.Hash → Option EV.Mempool.RawTx} {M : List EV.Mempool.Hash}
    {fetch : EV.Mempool.Hash → Option EV.Mempool.RawTx}
    (hU : ∀ b ∈ utxoMap S, EV.Mempool.truePair W b.1 = some b.2)
    (hd : DaemonQuiet W M (utxoMap S) fetch) :
    EV.Mempool.EnvQuiet W M (utxoMap S) fetch (mpLookup s) :=
  { hd with
    utxoTrue := hU
    lookup := mpLookup_rows r }

theorem mem_zip_zipIdx_map {α β : Type} (g : α × Nat → β) {l : List α} {n : Nat} {a : α} {b : β}
    (h : (a, b) ∈ List.zip l ((l.zipIdx n).map g)) : ∃ i, b = g (a, i) := by
  obtain ⟨i, h1, h2⟩ := EV.Mempool.mem_zip_at h
  rw [List.getElem?_map, List.getElem?_zipIdx, h1] at h2
  exact ⟨n + i, (Option.some.inj h2).symm⟩

end EV.Index
