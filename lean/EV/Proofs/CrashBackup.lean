import EV.Proofs.CrashRecover
import EV.Proofs.IndexStep
import EV.Proofs.IndexHist
import EV.Proofs.IndexEval

/-!
The cuts of `flush_backup` (C05).  The effect list of a successful back-out is exactly `[history batch, UTXO batch]`
(`backupFull_effects`), so its cuts are "nothing", "history batch only", "both".  `History.backup` run again on
already-truncated rows changes no history (`histBackup_redo`).  `cx…` is the machine-checked witness of finding
F8: two blocks whose coinbases pay script hash 7, block 1 backed out, crash between the two batches.
-/
namespace EV.Index

theorem backupFull_explicit {cfg : Cfg} {s s' : Sys} {b : Block} {es : List Effect}
    (h : backupFull cfg s b = .ok (es, s')) :
    ∃ e2, e2.isUtxoBatch = true ∧ es = [histBackupEffect s s'.m.touched s'.m.st.txCount, e2] ∧
      s'.p = applyEffects s.p es ∧ s'.m.histFlush = s.m.histFlush + 1 ∧
      s'.m.dbst = s'.m.st ∧ s'.m.st.flushCount = s.m.st.flushCount ∧
      s'.m.st.height = s.m.st.height - 1 := by
  obtain ⟨-, -, -, a, -, -, hr⟩ := backupFull_inv h
  obtain ⟨rfl, rfl⟩ := Prod.mk.inj hr
  exact ⟨_, rfl, rfl, rfl, rfl, rfl, rfl, rfl⟩

theorem backupFull_effects {cfg : Cfg} {s : Sys} {b : Block} {es : List Effect} {s' : Sys}
    (h : backupFull cfg s b = .ok (es, s')) :
    ∃ e1 e2, es = [e1, e2] ∧ e1.isHistBatch = true ∧ e2.isUtxoBatch = true ∧
      s'.p = applyEffects s.p es := by
  obtain ⟨e2, h2, hes, hp, -⟩ := backupFull_explicit h
  exact ⟨_, e2, hes, rfl, h2, hp⟩

theorem tornPrefixes_of_histBatch {e : Effect} (h : e.isHistBatch = true) : tornPrefixes e = [] := by
  cases e <;> simp [Effect.isHistBatch] at h <;> rfl

theorem tornPrefixes_of_utxoBatch {e : Effect} (h : e.isUtxoBatch = true) : tornPrefixes e = [] := by
  cases e <;> simp [Effect.isUtxoBatch] at h <;> rfl

/-- Only the history tables of the two runs matter, not their volatile sides `m1`, `m2`. -/
theorem histBackup_redo (p q : Store) (m1 m2 : Mem) (T1 T2 : List HashX) (n : Nat)
    (hkeys : (p.hist.map (·.1)).Nodup) (hasc : ∀ hx, (getTxnums p hx none).Pairwise (· < ·))
    (hq : q.hist = (applyEffect p (histBackupEffect { m := m1, p := p } T1 n)).hist)
    (hsub : ∀ hx ∈ T2, hx ∈ T1) (hx : HashX) :
    getTxnums (applyEffect q (histBackupEffect { m := m2, p := q } T2 n)) hx none =
      getTxnums (applyEffect p (histBackupEffect { m := m1, p := p } T1 n)) hx none := by
  have hkeys2 : (q.hist.map (·.1)).Nodup := by
    rw [hq]; exact nodup_keys_histBackup ⟨m1, p⟩ T1 n hkeys
  have h1 := getTxnums_histBackup' ⟨m1, p⟩ T1 n hkeys hx (hasc hx)
  have hasc2 : (getTxnums q hx none).Pairwise (· < ·) := by
    rw [getTxnums_congr hq, h1]
    split
    · exact (hasc hx).filter _
    · exact hasc hx
  rw [getTxnums_histBackup' ⟨m2, q⟩ T2 n hkeys2 hx hasc2, getTxnums_congr hq, h1]
  split
  · next hin =>
    rw [if_pos (hsub hx hin), List.filter_filter]
    simp
  · rfl


def okSys : Except Err Sys → Option Sys
  | .ok s => some s
  | .error _ => none

/-- activation height 0, reorg limit 10 -/
def cxCfg : Cfg := ⟨0, 10⟩
-- three blocks, each one coinbase (input `cxGen`) paying script hash 7
def cxGen : TxIn := ⟨0, 4294967295⟩
def cxB0 : Block := { hash := 10, prev := 0, header := 100, size := 1, txs := [{ id := 2^224, ins := [cxGen], outs := [⟨5, 7, .normal⟩] }] }
def cxB1 : Block := { hash := 11, prev := 10, header := 101, size := 1, txs := [{ id := 2^225, ins := [cxGen], outs := [⟨6, 7, .normal⟩] }] }
def cxB2 : Block := { hash := 12, prev := 11, header := 102, size := 1, txs := [{ id := 3 * 2^224, ins := [cxGen], outs := [⟨8, 7, .normal⟩] }] }

/-- blocks 0 and 1 indexed and fully flushed -/
def cxS : Sys :=
  { m := { st := { height := 1, txCount := 2, chainSize := 2, tip := 11, flushCount := 1, utxoCount := 2 },
           dbst := { height := 1, txCount := 2, chainSize := 2, tip := 11, flushCount := 1, utxoCount := 2 },
           fsHeight := 1, fsTxCount := 2, txCounts := [1, 2], histFlush := 1, touched := [7, 7] },
    p := { h := [((1, 0, 0), 7), ((2, 0, 1), 7)], u := [((7, 0, 0), 5), ((7, 0, 1), 6)],
           undo := [(1, []), (0, [])],
           ustate := some { height := 1, txCount := 2, chainSize := 2, tip := 11, flushCount := 1, utxoCount := 2 },
           hist := [((7, 1), [0, 1])], hstate := some { flushCount := 1 },
           headers := [100, 101], txcounts := [1, 2], hashes := [2^224, 2^225] } }

/-- blocks 0 and 1 indexed, nothing flushed yet -/
def cxS2 : Sys :=
  { m := { st := { height := 1, txCount := 2, chainSize := 2, tip := 11, utxoCount := 2 },
           txCounts := [1, 2],
           cache := [((2^225, 0), ⟨7, 1, 6⟩), ((2^224, 0), ⟨7, 0, 5⟩)],
           headersU := [100, 101], txHashesU := [[2^224], [2^225]], undoU := [([], 0), ([], 1)],
           unflushed := [(7, [0, 1])], touched := [7, 7] } }

theorem cx_advance :
    (okSys (advance cxCfg 1 {} cxB0)).bind (fun s => okSys (advance cxCfg 1 s cxB1)) = some cxS2 := by
  decide +kernel

theorem okSys_eq_some {x : Except Err Sys} {s : Sys} (h : okSys x = some s) : x = .ok s := by
  cases x with
  | error e => cases h
  | ok a => exact congrArg Except.ok (Option.some.inj h)

theorem cx_flush : flush cxS2 true = .ok cxS := okSys_eq_some (by decide +kernel)

/-- `flush_backup`'s two batches for block 1 -/
def cxE1 : Effect := .histBatch [] [((7, 1), [0])] { flushCount := 2 }
def cxE2 : Effect := .utxoBatch [.h (2, 0, 1), .u (7, 0, 1)] [] [] [] []
  (some { height := 0, txCount := 1, chainSize := 1, tip := 10, flushCount := 1, utxoCount := 1 })

/-- the two sorts of `History.backup` are rewritten first (`EV/Proofs/IndexEval.lean`); `Effect` has no decidable
    equality, so `rfl` and not `decide` -/
theorem cx_backup : (match backupFull cxCfg cxS cxB1 with | .ok (es, _) => some es | .error _ => none) = some [cxE1, cxE2] := by
  simp only [backupFull, histBackupEffect_eval, histRowsDesc_eval]
  rfl

/-- the restarted system: height 1, both UTXOs, history of 7 without tx 1 -/
def cxR : Sys :=
  { m := { st := { height := 1, txCount := 2, chainSize := 2, tip := 11, flushCount := 1, utxoCount := 2 },
           dbst := { height := 1, txCount := 2, chainSize := 2, tip := 11, flushCount := 1, utxoCount := 2 },
           fsHeight := 1, fsTxCount := 2, txCounts := [1, 2], histFlush := 1 },
    p := { cxS.p with hist := [((7, 1), [0])], hstate := some { flushCount := 1 } } }

theorem cx_recover : (recover cxCfg (applyEffects cxS.p [cxE1])).map (·.2) = some cxR := by
  simp only [recover, openDbs, openStore, openUndoEffects, clearUndoKeys_eval]
  decide +kernel

/-- old branch: block 2 arrives on top of block 1 -/
theorem cx_old : (((okSys (advance cxCfg 2 cxR cxB2)).bind (fun s => okSys (flush s true))).map
      (fun s => (s.m.dbst.height, getTxnums s.p 7 none))) = some (2, [0, 2]) := by
  simp only [getTxnums_eval]
  decide +kernel

end EV.Index
