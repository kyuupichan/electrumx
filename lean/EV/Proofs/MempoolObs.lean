import EV.Proofs.MempoolBasic

/-!
The query methods (`balance_delta`, `transaction_summaries`, `unordered_UTXOs`,
`potential_spends`) go through the by-script-hash index; under `MpInv` they never raise and equal
their specifications, which read the transaction set directly.
-/
namespace EV.Mempool

variable {W : Hash → Option RawTx} {st : St}

theorem touchingAux_eq (exc : PyExc) {txs : TxMap} {s : List Hash}
    (hs : ∀ h ∈ s, h ∈ txs.map (·.1)) :
    touchingAux exc txs s = .ok (s.filterMap fun h => (dget txs h).map fun t => (h, t)) := by
  induction s with
  | nil => rfl
  | cons h s ih =>
    obtain ⟨tx, hg⟩ := Option.ne_none_iff_exists'.mp
      (mt dget_none_iff.mp (not_not_intro (hs h List.mem_cons_self)))
    rw [touchingAux, hg, ih fun h' hh' => hs h' (List.mem_cons_of_mem _ hh'),
      List.filterMap_cons_some (by rw [hg]; rfl)]

theorem mem_touches {x : HashX} {e : Hash × MemPoolTx} :
    touches x e = true ↔ x ∈ txHashXs e.2 := by
  simp only [touches, List.contains_iff_mem]
  exact mem_txHashXs.symm

theorem touching_ok (hinv : MpInv W st) (exc : PyExc) (x : HashX) :
    ∃ l, touching exc st x = .ok l ∧ l.Perm (st.txs.filter (touches x)) := by
  have hidx : ∀ h, h ∈ (hxGet st.hashXs x).getD [] ↔ ∃ tx, (h, tx) ∈ st.txs ∧ x ∈ txHashXs tx :=
    fun h => (mem_hxGet hinv.wf x h).trans (hinv.inverse x h)
  refine ⟨_, touchingAux_eq exc fun h hh =>
    ((hidx h).mp hh).elim fun tx h1 => List.mem_map.mpr ⟨(h, tx), h1.1, rfl⟩, ?_⟩
  apply (List.perm_ext_iff_of_nodup (nodup_of_nodup_map (·.1)
      ((keys_tabulate_sublist _ id _).nodup (nodup_hxGet hinv.wf x)))
    ((List.filter_sublist).nodup (nodup_of_nodup_map (·.1) hinv.txKeys))).mpr
  intro e
  rw [List.mem_filter, mem_touches]
  refine (mem_tabulate (f := id)).trans ?_
  rw [hidx]
  constructor
  · rintro ⟨⟨tx, g1, g2⟩, t, g3, g4⟩
    have he : e ∈ st.txs := (Prod.ext rfl g4 : e = (e.1, t)) ▸ dget_some_mem g3
    exact ⟨he, mem_unique hinv.txKeys g1 he ▸ g2⟩
  · exact fun ⟨he, hx⟩ => ⟨⟨e.2, he, hx⟩, e.2, mem_dget hinv.txKeys he, rfl⟩

theorem balanceOf_perm {x : HashX} {l₁ l₂ : TxMap} (h : l₁.Perm l₂) :
    balanceOf x l₁ = balanceOf x l₂ := by
  induction h with
  | nil => rfl
  | cons a _ ih => simp only [balanceOf, ih]
  | swap a b l => simp only [balanceOf]; omega
  | trans _ _ ih1 ih2 => exact ih1.trans ih2

theorem sumIf_zero {x : HashX} {l : List Pair} (h : x ∉ l.map (·.1)) : sumIf x l = 0 := by
  fun_induction sumIf x l with
  | case1 => rfl
  | case2 p r hp => exact absurd (List.mem_map.mpr ⟨p, List.mem_cons_self, hp⟩) h
  | case3 p r _ ih => exact ih fun h1 => h (List.mem_cons_of_mem _ h1)

theorem utxosOfAux_nil {x : HashX} {h : Hash} {l : List Pair} (hx : x ∉ l.map (·.1)) (pos : Nat) :
    utxosOfAux x h pos l = [] := by
  fun_induction utxosOfAux x h pos l with
  | case1 => rfl
  | case2 pos p r hp => exact absurd (List.mem_map.mpr ⟨p, List.mem_cons_self, hp⟩) hx
  | case3 pos p r _ ih => exact ih fun h1 => hx (List.mem_cons_of_mem _ h1)

theorem not_touches {x : HashX} {e : Hash × MemPoolTx} (h : ¬ touches x e = true) :
    x ∉ e.2.inPairs.map (·.1) ∧ x ∉ e.2.outPairs.map (·.1) := by
  rw [touches, List.contains_iff_mem, List.map_append, List.mem_append, not_or] at h
  exact h

theorem balanceOf_filter (x : HashX) (l : TxMap) :
    balanceOf x (l.filter (touches x)) = balanceOf x l := by
  induction l with
  | nil => rfl
  | cons e r ih =>
    rw [List.filter_cons]
    split
    · rw [balanceOf, balanceOf, ih]
    · rename_i hne
      rw [balanceOf, ih, sumIf_zero (not_touches hne).1, sumIf_zero (not_touches hne).2]
      omega

theorem flatMap_utxos_filter (x : HashX) (l : TxMap) :
    (l.filter (touches x)).flatMap (utxosOf x) = l.flatMap (utxosOf x) := by
  induction l with
  | nil => rfl
  | cons e r ih =>
    rw [List.filter_cons]
    split
    · rw [List.flatMap_cons, List.flatMap_cons, ih]
    · rename_i hne
      rw [List.flatMap_cons, ih, utxosOf, utxosOfAux_nil (not_touches hne).2, List.nil_append]

theorem balanceDelta_spec (hinv : MpInv W st) (x : HashX) :
    balanceDelta st x = .ok (specBalance st.txs x) := by
  obtain ⟨l, h1, h2⟩ := touching_ok hinv .keyError x
  simp only [balanceDelta, h1, specBalance, balanceOf_perm h2, balanceOf_filter]

theorem transactionSummaries_spec (hinv : MpInv W st) (x : HashX) :
    ∃ l, transactionSummaries st x = .ok l ∧ l.Perm (specSummaries st.txs x) := by
  obtain ⟨l, h1, h2⟩ := touching_ok hinv .keyError x
  exact ⟨_, by simp only [transactionSummaries, h1], h2.map _⟩

theorem unorderedUTXOs_spec (hinv : MpInv W st) (x : HashX) :
    ∃ l, unorderedUTXOs st x = .ok l ∧ l.Perm (specUTXOs st.txs x) := by
  obtain ⟨l, h1, h2⟩ := touching_ok hinv .attributeError x
  refine ⟨l.flatMap (utxosOf x), by simp only [unorderedUTXOs, h1], ?_⟩
  have := h2.flatMap_right (utxosOf x)
  rw [flatMap_utxos_filter] at this
  exact this

theorem potentialSpends_spec (hinv : MpInv W st) (x : HashX) :
    ∃ l, potentialSpends st x = .ok l ∧ l.Perm (specSpends st.txs x) := by
  obtain ⟨l, h1, h2⟩ := touching_ok hinv .keyError x
  exact ⟨_, by simp only [potentialSpends, h1], h2.flatMap_right _⟩

theorem hasKey_perm {l₁ l₂ : TxMap} (h : l₁.Perm l₂) (k : Hash) : hasKey l₁ k = hasKey l₂ k :=
  Bool.eq_iff_iff.mpr (by rw [hasKey_iff, hasKey_iff]; exact (h.map _).mem_iff)

theorem summaryOf_perm {l₁ l₂ : TxMap} (h : l₁.Perm l₂) : summaryOf l₁ = summaryOf l₂ := by
  funext e
  simp only [summaryOf, hasKey_perm h]

theorem specBalance_perm {l₁ l₂ : TxMap} (h : l₁.Perm l₂) (x : HashX) :
    specBalance l₁ x = specBalance l₂ x := balanceOf_perm h

theorem specSummaries_perm {l₁ l₂ : TxMap} (h : l₁.Perm l₂) (x : HashX) :
    (specSummaries l₁ x).Perm (specSummaries l₂ x) := by
  rw [specSummaries, summaryOf_perm h]
  exact (h.filter _).map _

theorem specUTXOs_perm {l₁ l₂ : TxMap} (h : l₁.Perm l₂) (x : HashX) :
    (specUTXOs l₁ x).Perm (specUTXOs l₂ x) := h.flatMap_right _

theorem specSpends_perm {l₁ l₂ : TxMap} (h : l₁.Perm l₂) (x : HashX) :
    (specSpends l₁ x).Perm (specSpends l₂ x) := (h.filter _).flatMap_right _

end EV.Mempool
