import EV.Proofs.IndexRunReopen

/-!
Whole-run refinement with back-outs and restarts as run operations (`IOp2`: `adv b daemonH` |
`flush utxos` | `backup b` | `reopen`).  `runOps2` is the concrete model run (`backup` = `backupFull`,
`reopen` = `openDbs` on the persistent part with fresh memory — in ANY state: a restart after a full
flush loses nothing, a restart in between loses the blocks indexed since the last UTXO flush).
`Track` is the ghost bookkeeping of a run, computed from the operation history alone (surviving chain,
heights whose undo information is retained, number of blocks committed); `ValidOps2` is validity
w.r.t. the evolving `Track`.  Every valid operation list runs without error and `FullInv'` holds for
the SURVIVING chain afterwards; after a final full flush every observable equals the one of a server
that only ever advanced the surviving chain.  Which heights stay retained over a stretch of a run, and
hence which blocks can be backed out (C15), is `IndexRunWindow.lean`.

`IndexRun.lean`'s `IOp`/`runOps`/`ValidOps` (advances and flushes only) are the image of these under
`IOp.to2`, so what is proved of such runs is an instance of `trackInv_run` (`trackInv_runOps`).
-/
namespace EV.Index
open EV.Spec

inductive IOp2 where
  | adv (b : Block) (daemonH : Int)
  | flush (utxos : Bool)
  | backup (b : Block)
  | reopen
deriving DecidableEq, Repr

/-- a restart: `_open_dbs(for_sync, compacting = False)` on the persistent store, all memory fresh
    (`none` = an assertion of `_read_tx_counts` failed) -/
def reopen (cfg : Cfg) (s : Sys) : Except Err Sys :=
  match openDbs cfg s.p false none with
  | none => .error .assertion
  | some (_, s') => .ok s'

def stepOp2 (cfg : Cfg) (s : Sys) : IOp2 → Except Err Sys
  | .adv b d => advance cfg d s b
  | .flush fu => flush s fu
  | .backup b => backup cfg s b
  | .reopen => reopen cfg s

theorem backup_of_ok {cfg : Cfg} {s s' : Sys} {b : Block} {es : List Effect}
    (h : backupFull cfg s b = .ok (es, s')) : stepOp2 cfg s (.backup b) = .ok s' := by
  rw [stepOp2, backup, h]

theorem reopen_of_some {cfg : Cfg} {s s' : Sys} {es : List Effect}
    (h : openDbs cfg s.p false none = some (es, s')) : stepOp2 cfg s .reopen = .ok s' := by
  rw [stepOp2, reopen, h]

theorem flush_ok {cfg : Cfg} {s s' : Sys} {fu : Bool} (h : stepOp2 cfg s (.flush fu) = .ok s') :
    ∃ es m', flushDbs s fu = some (es, m') ∧ s' = { m := m', p := applyEffects s.p es } := by
  replace h : flush s fu = .ok s' := h
  unfold flush at h
  split at h
  · cases h
  · next es m' hf => cases h; exact ⟨es, m', hf, rfl⟩

theorem flush_of_some {s : Sys} {fu : Bool} {es : List Effect} {m' : Mem}
    (h : flushDbs s fu = some (es, m')) : flush s fu = .ok { m := m', p := applyEffects s.p es } := by
  unfold flush
  rw [h]

theorem backup_ok {cfg : Cfg} {s s' : Sys} {b : Block} (h : stepOp2 cfg s (.backup b) = .ok s') :
    ∃ es, backupFull cfg s b = .ok (es, s') := by
  replace h : backup cfg s b = .ok s' := h
  unfold backup at h
  split at h
  · cases h
  · next es s1 hb => cases h; exact ⟨es, hb⟩

theorem reopen_ok {cfg : Cfg} {s s' : Sys} (h : stepOp2 cfg s .reopen = .ok s') :
    ∃ es, openDbs cfg s.p false none = some (es, s') := by
  replace h : reopen cfg s = .ok s' := h
  unfold reopen at h
  split at h
  · cases h
  · next es s1 ho => cases h; exact ⟨es, ho⟩

def runOps2 (cfg : Cfg) : Sys → List IOp2 → Except Err Sys
  | s, [] => .ok s
  | s, op :: r =>
    match stepOp2 cfg s op with
    | .error e => .error e
    | .ok s' => runOps2 cfg s' r

/-- the surviving chain, from chain `c` of which the first `n` blocks are committed: advances
    append, a full flush commits everything, back-outs pop the last block, a restart falls back to
    the committed blocks -/
def chainOf2 : List Block → Nat → List IOp2 → List Block
  | c, _, [] => c
  | c, n, .adv b _ :: r => chainOf2 (c ++ [b]) n r
  | c, n, .flush fu :: r => chainOf2 c (if fu then c.length else n) r
  | c, _, .backup _ :: r => chainOf2 c.dropLast (c.length - 1) r
  | c, n, .reopen :: r => chainOf2 (c.take n) n r

theorem runOps2_append (cfg : Cfg) (s : Sys) (a b : List IOp2) :
    runOps2 cfg s (a ++ b) =
      match runOps2 cfg s a with
      | .error e => .error e
      | .ok s' => runOps2 cfg s' b := by
  induction a generalizing s with
  | nil => rfl
  | cons op r ih =>
    simp only [List.cons_append, runOps2]
    cases stepOp2 cfg s op with
    | error e => rfl
    | ok s' => exact ih s'

theorem runOps2_cons_of_ok {cfg : Cfg} {s s' : Sys} {op : IOp2} {r : List IOp2}
    (h : stepOp2 cfg s op = .ok s') : runOps2 cfg s (op :: r) = runOps2 cfg s' r := by
  rw [runOps2, h]

theorem runOps2_concat_of_ok {cfg : Cfg} {s a a' : Sys} {ops : List IOp2} {op : IOp2}
    (h : runOps2 cfg s ops = .ok a) (h' : stepOp2 cfg a op = .ok a') :
    runOps2 cfg s (ops ++ [op]) = .ok a' := by
  rw [runOps2_append, h]
  exact runOps2_cons_of_ok h'

theorem runOps2_cons_ok {cfg : Cfg} {s s' : Sys} {op : IOp2} {r : List IOp2}
    (h : runOps2 cfg s (op :: r) = .ok s') :
    ∃ a, stepOp2 cfg s op = .ok a ∧ runOps2 cfg a r = .ok s' := by
  rw [runOps2] at h
  split at h
  · cases h
  · next a hs => exact ⟨a, hs, h⟩

theorem runOps2_concat_ok {cfg : Cfg} {s s' : Sys} {ops : List IOp2} {op : IOp2}
    (h : runOps2 cfg s (ops ++ [op]) = .ok s') :
    ∃ a, runOps2 cfg s ops = .ok a ∧ stepOp2 cfg a op = .ok s' := by
  rw [runOps2_append] at h
  split at h
  · cases h
  · next a ha =>
    obtain ⟨x, hs, hx⟩ := runOps2_cons_ok h
    cases hx
    exact ⟨a, ha, hs⟩

/-- **Induction over a run that did not fail** (no validity): what one successful step carries from the
    history `ops` to `ops ++ [op]`, a run carries from `ops0` to `ops0 ++ ops` -/
theorem run_explained {cfg : Cfg} {E : List IOp2 → Sys → Prop}
    (hstep : ∀ {ops : List IOp2} {b b' : Sys} (op : IOp2), E ops b → stepOp2 cfg b op = .ok b' →
      E (ops ++ [op]) b')
    {ops0 : List IOp2} {b : Sys} (h0 : E ops0 b) (ops : List IOp2) {s : Sys}
    (h : runOps2 cfg b ops = .ok s) : E (ops0 ++ ops) s := by
  induction ops generalizing ops0 b with
  | nil =>
    cases h
    rw [List.append_nil]
    exact h0
  | cons op r ih =>
    obtain ⟨b1, hs, h⟩ := runOps2_cons_ok h
    have := ih (hstep op h0 hs) h
    rwa [List.append_assoc] at this

/-- what a run has established, as a function of the operation history -/
structure Track where
  /-- the surviving chain -/
  chain : List Block := []
  /-- heights whose undo information is retained (and is the right one) -/
  kept : List Nat := []
  /-- number of blocks committed by the last full flush / back-out (`DB.state.height + 1`) -/
  dbLen : Nat := 0
deriving Repr

def Track.step (cfg : Cfg) (t : Track) : IOp2 → Track
  | .adv b d => { chain := t.chain ++ [b], kept := keptAfterAdv cfg d t.chain.length t.kept,
                  dbLen := t.dbLen }
  | .flush fu => { t with dbLen := if fu then t.chain.length else t.dbLen }
  | .backup _ => { chain := t.chain.dropLast, kept := keptAfterBackup (t.chain.length - 1) t.kept,
                   dbLen := t.chain.length - 1 }
  | .reopen => { chain := t.chain.take t.dbLen, kept := keptAfterReopen cfg t.dbLen t.kept,
                 dbLen := t.dbLen }

def Track.run (cfg : Cfg) (t : Track) (ops : List IOp2) : Track := ops.foldl (Track.step cfg) t

/-- the back-out condition, a decidable predicate over the op history: fully flushed (every block is
    committed), the block handed to `backup_block` is the tip, the tip is above height 0
    (`2 ≤ chain.length`: `backupFull` asserts `state.height > 0`, and the tip height is
    `chain.length - 1`), and the tip height is retained -/
def BackupOk (t : Track) (b : Block) : Bool :=
  decide (t.dbLen = t.chain.length) && decide (t.chain.getLast? = some b) &&
  decide (2 ≤ t.chain.length) && decide ((t.chain.length - 1) ∈ t.kept)

def OkOp (cfg : Cfg) (t : Track) : IOp2 → Prop
  | .adv b _ => ValidNext cfg t.chain b
  | .flush _ => True
  | .backup b => BackupOk t b = true
  | .reopen => True

def ValidOps2 (cfg : Cfg) : Track → List IOp2 → Prop
  | _, [] => True
  | t, op :: r => OkOp cfg t op ∧ ValidOps2 cfg (t.step cfg op) r

/-! ### validity is decidable

`ValidOps2` is a decidable predicate over the operation history (the specification state needed for
`ValidTxs` is computed from the surviving chain), so concrete runs are checked by `decide`. -/

instance decInputsOK : ∀ (U : List Utxo) (ins : List TxIn), Decidable (InputsOK U ins)
  | _, [] => isTrue trivial
  | U, i :: r =>
    have := decInputsOK U r
    have := decInputsOK (U.filter (fun u => !names i u)) r
    by unfold InputsOK; exact inferInstance

instance decValidTxs (act height : Nat) :
    ∀ (S : St) (txs : List Tx), Decidable (ValidTxs act height S txs)
  | _, [] => isTrue trivial
  | S, tx :: r =>
    have := decValidTxs act height (applyTx act height S tx) r
    by unfold ValidTxs; exact inferInstance

instance decValidNext (cfg : Cfg) (chain : List Block) (b : Block) :
    Decidable (ValidNext cfg chain b) := by
  unfold ValidNext; exact inferInstance

instance decOkOp (cfg : Cfg) (t : Track) : ∀ op, Decidable (OkOp cfg t op)
  | .adv _ _ => by unfold OkOp; exact inferInstance
  | .flush _ => isTrue trivial
  | .backup _ => by unfold OkOp; exact inferInstance
  | .reopen => isTrue trivial

instance decValidOps2 (cfg : Cfg) : ∀ (t : Track) (ops : List IOp2), Decidable (ValidOps2 cfg t ops)
  | _, [] => isTrue trivial
  | t, op :: r =>
    have := decValidOps2 cfg (t.step cfg op) r
    by unfold ValidOps2; exact inferInstance

theorem Track.run_cons (cfg : Cfg) (t : Track) (op : IOp2) (r : List IOp2) :
    t.run cfg (op :: r) = (t.step cfg op).run cfg r := rfl

theorem Track.run_append (cfg : Cfg) (t : Track) (a b : List IOp2) :
    t.run cfg (a ++ b) = (t.run cfg a).run cfg b := by
  simp [Track.run, List.foldl_append]

theorem Track.run_chain (cfg : Cfg) (t : Track) (ops : List IOp2) :
    (t.run cfg ops).chain = chainOf2 t.chain t.dbLen ops := by
  induction ops generalizing t with
  | nil => rfl
  | cons op r ih =>
    rw [Track.run_cons, ih]
    cases op <;> rfl

theorem chainOf2_append (cfg : Cfg) (t : Track) (a b : List IOp2) :
    chainOf2 t.chain t.dbLen (a ++ b) = chainOf2 (t.run cfg a).chain (t.run cfg a).dbLen b := by
  rw [← Track.run_chain cfg, Track.run_append, Track.run_chain]

theorem validOps2_append (cfg : Cfg) (t : Track) (a b : List IOp2) :
    ValidOps2 cfg t (a ++ b) ↔ ValidOps2 cfg t a ∧ ValidOps2 cfg (t.run cfg a) b := by
  induction a generalizing t with
  | nil => simp [ValidOps2, Track.run]
  | cons op r ih =>
    simp only [List.cons_append, ValidOps2, Track.run_cons, ih, and_assoc]

theorem validOps2_take {cfg : Cfg} {t : Track} {ops : List IOp2} (h : ValidOps2 cfg t ops) (k : Nat) :
    ValidOps2 cfg t (ops.take k) := by
  have := (validOps2_append cfg t (ops.take k) (ops.drop k)).mp (by rw [List.take_append_drop]; exact h)
  exact this.1

structure TrackInv (cfg : Cfg) (t : Track) (s : Sys) : Prop where
  inv : FullInv' cfg t.chain t.kept s
  /-- the bookkeeping's committed length is `DB.state.height + 1` -/
  db : s.m.dbst.height = (t.dbLen : Int) - 1

theorem trackInv_init (cfg : Cfg) : TrackInv cfg {} {} :=
  ⟨fullInv'_init cfg, rfl⟩

/-- the committed chain `chain.take (DB.state.height + 1)` of `FullInv'` is `t.chain.take t.dbLen` -/
theorem TrackInv.dbK {cfg : Cfg} {t : Track} {s : Sys} (ti : TrackInv cfg t s) :
    (s.m.dbst.height + 1).toNat = t.dbLen := by
  rw [ti.db, Int.sub_add_cancel, Int.toNat_natCast]

theorem TrackInv.dbLen_le {cfg : Cfg} {t : Track} {s : Sys} (ti : TrackInv cfg t s) :
    t.dbLen ≤ t.chain.length :=
  ti.dbK ▸ ti.inv.base.files.dbK

theorem TrackInv.flushed {cfg : Cfg} {t : Track} {s : Sys} (ti : TrackInv cfg t s)
    (h : t.dbLen = t.chain.length) : s.m.dbst.height = s.m.st.height := by
  rw [ti.db, ti.inv.base.files.height, h]

theorem backupOk_iff {t : Track} {b : Block} :
    BackupOk t b = true ↔
      t.dbLen = t.chain.length ∧ t.chain.getLast? = some b ∧ 2 ≤ t.chain.length ∧
      (t.chain.length - 1) ∈ t.kept := by
  simp only [BackupOk, Bool.and_eq_true, decide_eq_true_eq, and_assoc]

theorem trackInv_step {cfg : Cfg} {t : Track} {s : Sys} (ti : TrackInv cfg t s) (op : IOp2)
    (hok : OkOp cfg t op) :
    ∃ s', stepOp2 cfg s op = .ok s' ∧ TrackInv cfg (t.step cfg op) s' := by
  cases op with
  | adv b d =>
    obtain ⟨s', h1, inv', hdb⟩ := fullInv'_advance (daemonH := d) ti.inv hok
    exact ⟨s', h1, inv', by rw [hdb]; exact ti.db⟩
  | flush fu =>
    obtain ⟨s', h1, inv', hdb⟩ := fullInv'_flush ti.inv fu
    refine ⟨s', h1, inv', ?_⟩
    show s'.m.dbst.height = (((if fu then t.chain.length else t.dbLen : Nat) : Int)) - 1
    rw [hdb]
    cases fu
    · exact ti.db
    · exact ti.inv.base.files.height
  | backup b =>
    obtain ⟨hcl, hlast, hlen, hk⟩ := backupOk_iff.mp hok
    obtain ⟨pre, hc⟩ := List.getLast?_eq_some_iff.mp hlast
    have hdl : t.chain.dropLast = pre := by rw [hc, List.dropLast_concat]
    have hplen : t.chain.length - 1 = pre.length := by rw [hc, List.length_append]; rfl
    have hpre : pre ≠ [] := by
      intro h0
      rw [hc, h0] at hlen
      exact absurd hlen (Nat.lt_irrefl 1)
    have inv := ti.inv
    rw [hc] at inv
    obtain ⟨e1, e2, s', h1, inv', hfl'⟩ :=
      fullInv'_backup inv (ti.flushed hcl) hpre (hplen ▸ hk)
    refine ⟨s', backup_of_ok h1, ?_, ?_⟩
    · show FullInv' cfg t.chain.dropLast (keptAfterBackup (t.chain.length - 1) t.kept) s'
      rw [hdl, hplen]; exact inv'
    · show s'.m.dbst.height = ((t.chain.length - 1 : Nat) : Int) - 1
      rw [hfl', inv'.base.files.height, hplen]
  | reopen =>
    obtain ⟨es, s', h1, inv', -, hdb'⟩ := fullInv'_reopen ti.inv
    rw [ti.dbK] at inv'
    exact ⟨s', reopen_of_some h1, inv', by rw [hdb']; exact ti.db⟩

theorem trackInv_run {cfg : Cfg} (ops : List IOp2) {t : Track} {s : Sys} (ti : TrackInv cfg t s)
    (hv : ValidOps2 cfg t ops) :
    ∃ s', runOps2 cfg s ops = .ok s' ∧ TrackInv cfg (t.run cfg ops) s' := by
  induction ops generalizing t s with
  | nil => exact ⟨s, rfl, ti⟩
  | cons op r ih =>
    obtain ⟨hop, hr⟩ := hv
    obtain ⟨s1, h1, ti1⟩ := trackInv_step ti op hop
    obtain ⟨s', h2, ti2⟩ := ih ti1 hr
    exact ⟨s', (runOps2_cons_of_ok h1).trans h2, ti2⟩

theorem TrackInv.of_run {cfg : Cfg} {ops : List IOp2} {t : Track} {s s' : Sys} (ti : TrackInv cfg t s)
    (hv : ValidOps2 cfg t ops) (hs : runOps2 cfg s ops = .ok s') : TrackInv cfg (t.run cfg ops) s' := by
  obtain ⟨s1, h1, ti1⟩ := trackInv_run ops ti hv
  cases h1.symm.trans hs
  exact ti1

theorem trackInv_of_run {cfg : Cfg} {ops : List IOp2} (hv : ValidOps2 cfg {} ops) {s : Sys}
    (hs : runOps2 cfg {} ops = .ok s) : TrackInv cfg (Track.run cfg {} ops) s :=
  (trackInv_init cfg).of_run hv hs

theorem TrackInv.inv_run {cfg : Cfg} {t : Track} {ops : List IOp2} {s : Sys}
    (ti : TrackInv cfg (t.run cfg ops) s) :
    FullInv' cfg (chainOf2 t.chain t.dbLen ops) (t.run cfg ops).kept s :=
  Track.run_chain cfg t ops ▸ ti.inv

theorem fullInv'_run_flushed {cfg : Cfg} (ops : List IOp2) {t : Track} {s : Sys} (ti : TrackInv cfg t s)
    (hv : ValidOps2 cfg t ops) :
    ∃ s', runOps2 cfg s (ops ++ [.flush true]) = .ok s' ∧
      FullInv' cfg (chainOf2 t.chain t.dbLen ops) (t.run cfg ops).kept s' ∧
      s'.m.dbst.height = s'.m.st.height := by
  obtain ⟨s1, h1, ti1⟩ := trackInv_run ops ti hv
  obtain ⟨s', h2, ti'⟩ := trackInv_step ti1 (.flush true) trivial
  exact ⟨s', runOps2_concat_of_ok h1 h2, Track.run_chain cfg t ops ▸ ti'.inv, ti'.flushed rfl⟩

theorem trackInv_run_prefix {cfg : Cfg} (ops : List IOp2) {t : Track} {s : Sys}
    (ti : TrackInv cfg t s) (hv : ValidOps2 cfg t ops) (k : Nat) :
    ∃ s', runOps2 cfg s (ops.take k) = .ok s' ∧ TrackInv cfg (t.run cfg (ops.take k)) s' :=
  trackInv_run (ops.take k) ti (validOps2_take hv k)

/-- what the read path answers, compared between two systems -/
structure SameAnswers (s s0 : Sys) : Prop where
  history : ∀ hx limit, limitedHistory s hx limit = limitedHistory s0 hx limit
  utxos : ∀ hx, ∃ rows rows0, allUtxos s hx = some rows ∧ allUtxos s0 hx = some rows0 ∧
            rows.Perm rows0
  utxoCount : s.m.st.utxoCount = s0.m.st.utxoCount
  txCount : s.m.st.txCount = s0.m.st.txCount
  height : s.m.st.height = s0.m.st.height
  tip : s.m.st.tip = s0.m.st.tip
  chainSize : s.m.st.chainSize = s0.m.st.chainSize
  headers : ∀ start count, readHeaders s start count = readHeaders s0 start count
  txHashes : ∀ h, txHashesAt s h = txHashesAt s0 h

theorem observables_of_fullInv' {cfg : Cfg} {chain : List Block} {K : List Nat} {s : Sys}
    (inv : FullInv' cfg chain K s) (hf : s.m.dbst.height = s.m.st.height) :
    (∀ hx, ∃ rows, allUtxos s hx = some rows ∧
        rows.Perm (((specChain cfg.act chain).utxos.filter (·.hx == hx)).map
          (fun u => ⟨u.txnum, u.idx, u.txid, u.height, u.value⟩))) ∧
    (∀ hx limit, limitedHistory s hx limit =
        some (historyPairs (specChain cfg.act chain) hx limit)) ∧
    s.m.st.utxoCount = ((specChain cfg.act chain).utxos.length : Int) ∧
    s.m.st.txCount = (specChain cfg.act chain).txs.length ∧
    s.m.st.height = (chain.length : Int) - 1 ∧
    s.m.st.tip = (chain.getLast?.map (·.hash)).getD 0 ∧
    s.m.st.chainSize = (chain.map (·.size)).sum ∧
    (∀ start count, readHeaders s start count =
      ((chain.map (·.header)).drop start).take (min (count : Int) ((chain.length : Int) - start)).toNat) ∧
    (∀ (h : Nat) (b : Block), chain[h]? = some b → txHashesAt s h = some (b.txs.map (·.id))) := by
  obtain ⟨u1, h1, c1, t1⟩ := C01_observables inv.base (flushed_of_db inv.base hf)
  have f := inv.base.files
  refine ⟨u1, h1, c1, t1, f.height, inv.base.tip, inv.chainSize, ?_, ?_⟩
  · intro start count
    rw [readHeaders_of_files f, hf, f.height, Int.sub_add_cancel]
  · intro h b hb
    apply txHashesAt_of_files f hb
    rw [hf, f.height]
    exact Int.le_sub_one_of_lt (Int.ofNat_lt.mpr (List.getElem?_eq_some_iff.mp hb).1)

/-- both answer as the specification of the chain says, and both refuse tx hashes above the tip -/
theorem sameAnswers_of_flushed {cfg : Cfg} {chain : List Block} {K K0 : List Nat} {s s0 : Sys}
    (inv' : FullInv' cfg chain K s) (hf : s.m.dbst.height = s.m.st.height)
    (inv0' : FullInv' cfg chain K0 s0) (hf0 : s0.m.dbst.height = s0.m.st.height) :
    SameAnswers s s0 := by
  obtain ⟨u1, h1, c1, t1, hh1, tip1, cs1, hd1, tx1⟩ := observables_of_fullInv' inv' hf
  obtain ⟨u0, h0, c0, t0, hh0, tip0, cs0, hd0, tx0⟩ := observables_of_fullInv' inv0' hf0
  exact {
    history := fun hx limit => (h1 hx limit).trans (h0 hx limit).symm
    utxos := fun hx => by
      obtain ⟨r, hr, pr⟩ := u1 hx
      obtain ⟨r0, hr0, pr0⟩ := u0 hx
      exact ⟨r, r0, hr, hr0, pr.trans pr0.symm⟩
    utxoCount := c1.trans c0.symm
    txCount := t1.trans t0.symm
    height := hh1.trans hh0.symm
    tip := tip1.trans tip0.symm
    chainSize := cs1.trans cs0.symm
    headers := fun start count => (hd1 start count).trans (hd0 start count).symm
    txHashes := fun h => by
      by_cases hlt : h < chain.length
      · have hb : chain[h]? = some chain[h] := List.getElem?_eq_getElem hlt
        rw [tx1 h _ hb, tx0 h _ hb]
      · have hge : (chain.length : Int) - 1 < h :=
          Int.sub_one_lt_of_le (Int.ofNat_le.mpr (Nat.le_of_not_lt hlt))
        rw [txHashesAt_above (hf ▸ hh1 ▸ hge), txHashesAt_above (hf0 ▸ hh0 ▸ hge)] }

def IOp.to2 : IOp → IOp2
  | .adv b d => .adv b d
  | .flush fu => .flush fu

theorem runOps2_map_to2 (cfg : Cfg) (s : Sys) (ops : List IOp) :
    runOps2 cfg s (ops.map IOp.to2) = runOps cfg s ops := by
  induction ops generalizing s with
  | nil => rfl
  | cons op r ih =>
    cases op with
    | adv b d =>
      simp only [List.map_cons, IOp.to2, runOps2, stepOp2, runOps]
      cases advance cfg d s b with
      | error e => rfl
      | ok s' => exact ih s'
    | flush fu =>
      simp only [List.map_cons, IOp.to2, runOps2, stepOp2, runOps]
      cases flush s fu with
      | error e => rfl
      | ok s' => exact ih s'

theorem validOps2_map_to2 {cfg : Cfg} (ops : List IOp) (t : Track) (h : ValidOps cfg t.chain ops) :
    ValidOps2 cfg t (ops.map IOp.to2) := by
  induction ops generalizing t with
  | nil => trivial
  | cons op r ih =>
    cases op with
    | adv b d => exact ⟨h.1, ih (t.step cfg (.adv b d)) h.2⟩
    | flush fu => exact ⟨trivial, ih (t.step cfg (.flush fu)) h⟩

theorem Track.run_flushTrue (cfg : Cfg) (t : Track) (ops : List IOp2) :
    t.run cfg (ops ++ [.flush true]) =
      { t.run cfg ops with dbLen := (t.run cfg ops).chain.length } := by
  rw [Track.run_append]; rfl

theorem chainOf2_map_to2 (ops : List IOp) (c : List Block) (n : Nat) :
    chainOf2 c n (ops.map IOp.to2) = c ++ chainOf ops := by
  induction ops generalizing c n with
  | nil => simp [chainOf2, chainOf]
  | cons op r ih =>
    cases op with
    | adv b d => simp only [List.map_cons, IOp.to2, chainOf2, chainOf, ih]; simp
    | flush fu => simp only [List.map_cons, IOp.to2, chainOf2, chainOf, ih]

/-- a run of advances and flushes is the run of its image under `IOp.to2`, so `trackInv_run` is the
    run theorem for such lists too -/
theorem trackInv_runOps {cfg : Cfg} (ops : List IOp) {t : Track} {s : Sys} (ti : TrackInv cfg t s)
    (hv : ValidOps cfg t.chain ops) :
    ∃ s', runOps cfg s ops = .ok s' ∧ TrackInv cfg (t.run cfg (ops.map IOp.to2)) s' ∧
      (t.run cfg (ops.map IOp.to2)).chain = t.chain ++ chainOf ops := by
  obtain ⟨s', h, ti'⟩ := trackInv_run _ ti (validOps2_map_to2 ops t hv)
  exact ⟨s', runOps2_map_to2 cfg s ops ▸ h, ti', by rw [Track.run_chain, chainOf2_map_to2]⟩

theorem fullInv'_runOps_flushed (cfg : Cfg) (ops : List IOp) (hv : ValidOps cfg [] ops) :
    ∃ s K, runOps cfg {} (ops ++ [.flush true]) = .ok s ∧ FullInv' cfg (chainOf ops) K s ∧
      s.m.dbst.height = s.m.st.height := by
  obtain ⟨s, h, inv, hfl⟩ := fullInv'_run_flushed _ (trackInv_init cfg) (validOps2_map_to2 ops {} hv)
  rw [chainOf2_map_to2] at inv
  exact ⟨s, _, by rw [← runOps2_map_to2, List.map_append]; exact h, inv, hfl⟩

theorem fullInv_run_flushed (cfg : Cfg) (ops : List IOp) (hv : ValidOps cfg [] ops) :
    ∃ s, runOps cfg {} (ops ++ [.flush true]) = .ok s ∧ FullInv cfg (chainOf ops) s ∧ Flushed s := by
  obtain ⟨s, K, h, inv, hfl⟩ := fullInv'_runOps_flushed cfg ops hv
  exact ⟨s, h, inv.base, flushed_of_db inv.base hfl⟩

/-- `s0` is the run of `C01run_end_to_end` for the chain: a fresh index that only ever advanced it. -/
theorem fresh_of_flushed {cfg : Cfg} {chain : List Block} {K : List Nat} {s : Sys}
    (inv : FullInv' cfg chain K s) (hfl : s.m.dbst.height = s.m.st.height) :
    ∃ s0, ValidOps cfg [] (advOnly chain) ∧
      runOps cfg {} (advOnly chain ++ [.flush true]) = .ok s0 ∧ SameAnswers s s0 := by
  have hvo : ValidOps cfg [] (advOnly chain) := validOps_advOnly [] _ (by simpa using inv.valid)
  obtain ⟨s0, K0, hr0, inv0, hfl0⟩ := fullInv'_runOps_flushed cfg _ hvo
  rw [chainOf_advOnly] at inv0
  exact ⟨s0, hvo, hr0, sameAnswers_of_flushed inv hfl inv0 hfl0⟩

end EV.Index
