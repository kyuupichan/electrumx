import EV.Proofs.IndexRun

/-!
Carrier completeness, specification level: the client-visible confirmed state of a script hash
(`confState`: its history and its unspent outputs as the specification of a chain defines them —
what `C01_observables` shows the read path to answer) can only differ between a chain and the chain
with one more (or one less) block if the block touches the script hash (`touchedBy`, the flattened
per-tx lists `blockTouched`).  No validity hypothesis is needed: the specification's touched list
of a tx is by definition the script hashes of what it spends and creates.
-/
namespace EV.Index
open EV.Spec

structure ConfState where
  /-- tx numbers of the confirmed history (`History.get_txnums`) -/
  txnums : List Nat
  /-- `(tx hash, height)` pairs of the confirmed history (`limited_history`, unlimited) -/
  history : List (Hash × Nat)
  /-- unspent outputs (`all_utxos`, hence `listunspent` and the confirmed balance) -/
  utxos : List Utxo
deriving DecidableEq, Repr

def confState (act : Nat) (chain : List Block) (hx : HashX) : ConfState :=
  { txnums := historyOf (specChain act chain) hx
    history := historyPairs (specChain act chain) hx none
    utxos := utxosOf (specChain act chain) hx }

def touchedBy (act : Nat) (chain : List Block) (b : Block) : List HashX :=
  (blockTouched act chain.length (specChain act chain) b.txs).flatten

/-- so `confState`, which holds the unlimited history only, determines every limited one -/
theorem historyPairs_limit (S : St) (hx : HashX) (k : Nat) :
    historyPairs S hx (some k) = (historyPairs S hx none).take k := by
  simp [historyPairs, List.map_take]

theorem spendAll_filter_hx (U : List Utxo) (ins : List TxIn) (hx : HashX)
    (h : ∀ u ∈ (spendAll U ins).2, u.hx ≠ hx) :
    (spendAll U ins).1.filter (·.hx == hx) = U.filter (·.hx == hx) := by
  induction ins generalizing U with
  | nil => simp [spendAll]
  | cons i r ih =>
    simp only [spendAll] at h ⊢
    by_cases hg : i.isGen
    · simp only [hg, if_true] at h ⊢; exact ih U h
    · simp only [hg, Bool.false_eq_true, if_false] at h ⊢
      rw [ih _ (fun u hu => h u (List.mem_append_right _ hu)), List.filter_filter]
      apply List.filter_congr
      intro u hu
      by_cases hp : u.hx = hx
      · have hn : names i u = false := by
          cases hnm : names i u with
          | false => rfl
          | true => exact absurd hp (h u (List.mem_append_left _ (List.mem_filter.mpr ⟨hu, hnm⟩)))
        simp [hn, hp]
      · simp [hp]

theorem utxosOf_foldl (act height : Nat) (S : St) (txs : List Tx) (hx : HashX)
    (h : hx ∉ (blockTouched act height S txs).flatten) :
    utxosOf (txs.foldl (applyTx act height) S) hx = utxosOf S hx := by
  induction txs generalizing S with
  | nil => rfl
  | cons tx r ih =>
    simp only [blockTouched, List.flatten_cons, List.mem_append, not_or, List.mem_map] at h
    obtain ⟨⟨h1, h2⟩, h3⟩ := h
    rw [List.foldl_cons, ih _ h3]
    unfold utxosOf
    rw [applyTx_eq]
    simp only [List.filter_append]
    rw [spendAll_filter_hx _ _ _ (fun u hu heq => h1 ⟨u, hu, heq⟩)]
    have hnew : (newUtxos act height S.txs.length tx.id tx.outs 0).filter (·.hx == hx) = [] := by
      apply List.filter_eq_nil_iff.mpr
      intro u hu
      simp only [beq_iff_eq]
      intro heq
      exact h2 ⟨u, hu, heq⟩
    rw [hnew, List.append_nil]

theorem historyPairs_foldl_untouched (act height : Nat) (S : St) (txs : List Tx)
    (hlen : S.touched.length = S.txs.length) (hx : HashX)
    (h : hx ∉ (blockTouched act height S txs).flatten) :
    historyPairs (txs.foldl (applyTx act height) S) hx none = historyPairs S hx none := by
  simp only [historyPairs]
  rw [historyOf_foldl_untouched act height S txs hlen hx h]
  apply List.map_congr_left
  intro n hn
  have hlt : n < S.txs.length := by rw [← hlen]; exact historyOf_lt S hx n hn
  rw [foldl_txs, List.getD_eq_getElem?_getD, List.getD_eq_getElem?_getD,
    List.getElem?_append_left hlt]

theorem confState_snoc_untouched (act : Nat) (chain : List Block) (b : Block) (hx : HashX)
    (h : hx ∉ touchedBy act chain b) :
    confState act (chain ++ [b]) hx = confState act chain hx := by
  have hlen := (specOK_chain act chain).len
  have hspec := specChain_snoc_foldl act chain b
  unfold confState
  rw [hspec, historyOf_foldl_untouched act _ _ _ hlen hx h,
    historyPairs_foldl_untouched act _ _ _ hlen hx h, utxosOf_foldl act _ _ _ hx h]

theorem confState_change_advance (act : Nat) (chain : List Block) (b : Block) (hx : HashX)
    (h : confState act chain hx ≠ confState act (chain ++ [b]) hx) : hx ∈ touchedBy act chain b :=
  Decidable.byContradiction fun hn => h (confState_snoc_untouched act chain b hx hn).symm

theorem confState_change_backout (act : Nat) (chain : List Block) (b : Block) (hx : HashX)
    (h : confState act (chain ++ [b]) hx ≠ confState act chain hx) : hx ∈ touchedBy act chain b :=
  confState_change_advance act chain b hx (fun e => h e.symm)

def Cov (act : Nat) (ref c : List Block) (T : List HashX) : Prop :=
  ∀ hx, confState act ref hx ≠ confState act c hx → hx ∈ T

theorem cov_refl (act : Nat) (c : List Block) (T : List HashX) : Cov act c c T :=
  fun _ h => absurd rfl h

theorem Cov.mono {act : Nat} {ref c : List Block} {T T' : List HashX} (h : Cov act ref c T)
    (hs : ∀ hx ∈ T, hx ∈ T') : Cov act ref c T' := fun hx hne => hs hx (h hx hne)

theorem Cov.step {act : Nat} {ref c c' : List Block} {T T' : List HashX} (h : Cov act ref c T)
    (hs : ∀ hx ∈ T, hx ∈ T') (hstep : Cov act c c' T') : Cov act ref c' T' := by
  intro hx hne
  by_cases h1 : confState act ref hx = confState act c hx
  · exact hstep hx (fun e => hne (h1.trans e))
  · exact hs hx (h hx h1)

end EV.Index
