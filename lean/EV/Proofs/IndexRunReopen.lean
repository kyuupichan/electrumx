import EV.Proofs.IndexRunBackup

/-!
A restart as a step of the whole-run invariant: `_open_dbs` (`History.open_db` with `clear_excess`,
`_read_tx_counts`, `clear_excess_undo_info`) on the persistent part of ANY invariant state, all
memory dropped — a clean restart after a full flush as well as a restart (kill between operations)
that loses every block indexed since the last UTXO flush.  The result is a fully flushed invariant
state of the chain as of the last UTXO flush: `clear_excess` removes exactly the history rows written
after that flush, the meta files are read up to the committed lengths, and the undo rows below
`height − reorg_limit + 1` are pruned.

Not covered here: a crash INSIDE an operation (between the effects of a flush / back-out, or inside a
file write); that is the crash layer (`EV/Proofs/Crash*.lean`, C04/C05).
-/
namespace EV.Index
open EV.Spec

/-- the retained heights after a restart with `n` blocks committed (tip height `n − 1`) -/
def keptAfterReopen (cfg : Cfg) (n : Nat) (K : List Nat) : List Nat :=
  K.filter (fun h => decide (h < n) && decide ((n : Int) - 1 - cfg.reorgLimit + 1 ≤ h))

theorem mem_keptAfterReopen {cfg : Cfg} {n : Nat} {K : List Nat} {h : Nat} :
    h ∈ keptAfterReopen cfg n K ↔ h ∈ K ∧ h < n ∧ (n : Int) - 1 - cfg.reorgLimit + 1 ≤ h := by
  simp only [keptAfterReopen, List.mem_filter, Bool.and_eq_true, decide_eq_true_eq]

/-- the system `_open_dbs` builds on the persistent part of `s` -/
def reopenSys (cfg : Cfg) (s : Sys) : Sys :=
  { p := openStore cfg s.p,
    m := openMem (s.m.dbst, { flushCount := s.m.dbst.flushCount, compFlushCount := -1, compCursor := -1 })
      (s.p.txcounts.take (s.m.dbst.height + 1).toNat) }

theorem clearExcess_inv {cfg : Cfg} {chain : List Block} {K : List Nat} {s : Sys}
    (inv : FullInv' cfg chain K s) :
    (openStore cfg s.p).hist = histUpTo s.p.hist s.m.dbst.flushCount ∧
    ((openStore cfg s.p).hstate.getD {}).flushCount = s.m.dbst.flushCount := by
  have hus := inv.base.ustate_getD
  have hfc := inv.fcLe
  have hhs := inv.hstate
  rw [openStore_hist, openStore_hstate]
  by_cases hle : (s.p.hstate.getD {}).flushCount ≤ (s.p.ustate.getD {}).flushCount
  · rw [openStore1_of_le hle]
    rw [hus, hhs] at hle
    refine ⟨(histUpTo_self ?_).symm, by rw [hhs]; omega⟩
    intro e he
    have := inv.base.hist.wf.ids e he
    omega
  · rw [openStore1_of_gt (by omega), hus]
    exact ⟨rfl, rfl⟩

theorem txcounts_committed {chain : List Block} {s : Sys} (f : FilesInv chain s) :
    s.p.txcounts.take (s.m.dbst.height + 1).toNat =
      cumCounts (chain.take (s.m.dbst.height + 1).toNat) := by
  rw [take_of_take_eq f.txcountsFile f.dbK_le_fsK, cumCounts_take_eq chain f.dbK]

theorem openDbs_inv {cfg : Cfg} {chain : List Block} {K : List Nat} {s : Sys}
    (inv : FullInv' cfg chain K s) :
    ∃ es, openDbs cfg s.p false none = some (es, reopenSys cfg s) := by
  have f := inv.base.files
  have hus := inv.base.ustate_getD
  have htxc := openStore_txcounts cfg s.p
  have hge : (s.p.ustate.getD {}).flushCount ≤ (s.p.hstate.getD {}).flushCount := by
    rw [hus, inv.hstate]; exact inv.fcLe
  have hstate : openState s.p false =
      (s.m.dbst, { flushCount := s.m.dbst.flushCount, compFlushCount := -1, compCursor := -1 }) := by
    rw [openState_of_ge s.p hge, hus]
  have hdbK := f.dbK
  have htake := txcounts_committed f
  have htc : openTxCounts (openStore cfg s.p) s.m.dbst none =
      some (s.p.txcounts.take (s.m.dbst.height + 1).toNat) := by
    have hlen : (s.p.txcounts.take (s.m.dbst.height + 1).toNat).length =
        (s.m.dbst.height + 1).toNat := by
      rw [htake, cumCounts_length, List.length_take, Nat.min_eq_left hdbK]
    have hlast : (s.p.txcounts.take (s.m.dbst.height + 1).toNat).getLast?.getD 0 =
        s.m.dbst.txCount := by
      rw [htake, cumCounts_getLast, f.dbTx]
    simp only [openTxCounts, htxc, hlen, hlast, beq_self_eq_true, Bool.and_self, if_true]
  exact ⟨_, by rw [openDbs_eq, hstate, htc]; rfl⟩

/-- no unflushed undo list belongs to a committed height -/
theorem undoLookup_committed {cfg : Cfg} {chain : List Block} {K : List Nat} {s : Sys}
    (inv : FullInv' cfg chain K s) {h : Nat} (hh : (h : Int) ≤ s.m.dbst.height) :
    undoLookup s h = alookup h s.p.undo := by
  have hnone : alookup h ((s.m.undoU.map (fun (ui, h) => (h, ui))).reverse) = none := by
    apply alookup_none_of_not_mem_keys
    intro hm
    simp only [List.map_reverse, List.mem_reverse, List.map_map, List.mem_map,
      Function.comp] at hm
    obtain ⟨e, he, rfl⟩ := hm
    have := inv.undoUAbove e he
    omega
  simp only [undoLookup, hnone]

theorem filesInv_reopen (cfg : Cfg) {chain : List Block} {s : Sys} (f : FilesInv chain s) :
    FilesInv (chain.take (s.m.dbst.height + 1).toNat) (reopenSys cfg s) :=
  have hlen : (chain.take (s.m.dbst.height + 1).toNat).length = (s.m.dbst.height + 1).toNat :=
    List.length_take_of_le f.dbK
  filesInv_flushed_prefix f (List.take_prefix _ _) (by rw [hlen]; exact f.dbK_le_fsK)
    (openStore_headers ..) (openStore_txcounts ..) (openStore_hashes ..)
    (show s.m.dbst.height = _ by rw [hlen, f.dbK_cast, Int.add_sub_cancel]) f.dbTx rfl rfl rfl rfl
    (txcounts_committed f) rfl rfl

theorem fullInv'_reopen {cfg : Cfg} {chain : List Block} {K : List Nat} {s : Sys}
    (inv : FullInv' cfg chain K s) :
    ∃ es s', openDbs cfg s.p false none = some (es, s') ∧
      FullInv' cfg (chain.take (s.m.dbst.height + 1).toNat)
        (keptAfterReopen cfg (s.m.dbst.height + 1).toNat K) s' ∧
      s'.m.dbst.height = s'.m.st.height ∧ s'.m.dbst.height = s.m.dbst.height := by
  obtain ⟨es, hopen⟩ := openDbs_inv inv
  refine ⟨es, _, hopen, ?_, rfl, rfl⟩
  have base := inv.base
  have f := base.files
  have hh := openStore_h cfg s.p
  have hu := openStore_u cfg s.p
  obtain ⟨hhist, hhfc⟩ := clearExcess_inv (cfg := cfg) inv
  have f' := filesInv_reopen cfg f
  have hlen : (chain.take (s.m.dbst.height + 1).toNat).length = (s.m.dbst.height + 1).toNat :=
    List.length_take_of_le f.dbK
  have hsplit : chain = chain.take (s.m.dbst.height + 1).toNat ++
      chain.drop (s.m.dbst.height + 1).toNat := (List.take_append_drop _ _).symm
  have hvalid : ValidChain cfg (chain.take (s.m.dbst.height + 1).toNat) :=
    validChain_prefix (hsplit ▸ inv.valid)
  -- `clear_excess` leaves the rows with ids up to the UTXO flush count
  have hids : ∀ e ∈ (openStore cfg s.p).hist, e.1.2 ≤ s.m.dbst.flushCount := by
    intro e he
    rw [hhist] at he
    exact of_decide_eq_true (List.mem_filter.mp he).2
  -- the UTXO rows are committed ones; nothing is cached or queued
  have hnod := specChain_nodup _ hvalid
  have hw' : RepSysW (reopenSys cfg s)
      (specChain cfg.act (chain.take (s.m.dbst.height + 1).toNat)).utxos
      (specChain cfg.act (chain.take (s.m.dbst.height + 1).toNat)).utxos [] := by
    obtain ⟨D, Del, w⟩ := base.rep
    exact repSysW_of_rows (s := reopenSys cfg s)
      ⟨hnod, hh ▸ inv.db.rowsH, hu ▸ inv.db.rowsU, hu ▸ w.uKeys, resolve_spec_utxo f' rfl⟩ (hh ▸ w.hKeys) rfl rfl
  have hhistInv : HistInv (specChain cfg.act (chain.take (s.m.dbst.height + 1).toNat))
      (openStore cfg s.p) [] s.m.dbst.flushCount := by
    refine ⟨⟨?_, hids⟩, List.nodup_nil, ?_⟩
    · rw [hhist]
      exact List.Nodup.sublist (List.Sublist.map _ List.filter_sublist) base.hist.wf.keys
    · intro hx
      rw [unfOf_nil, List.append_nil, ← inv.db.hist hx]
      exact getTxnums_congr hhist hx none
  refine fullInv'_of_flushed hvalid
    (fun h hh' => by rw [hlen]; exact (mem_keptAfterReopen.mp hh').2.1) ⟨_, _, hw'⟩ hhistInv f' rfl rfl rfl
    rfl rfl base.dbTip inv.db.utxoCount inv.db.chainSize
    (show ((openStore cfg s.p).ustate = none ∧ s.m.dbst = {}) ∨
      (openStore cfg s.p).ustate = some s.m.dbst by rw [openStore_ustate]; exact base.ustate)
    hhfc (Nat.le_refl _) hids ?_
  intro h hh' pre b suf hc hl
  obtain ⟨hk, hlt, hwin⟩ := mem_keptAfterReopen.mp hh'
  rw [f.dbK_cast] at hwin
  have hc' : chain = pre ++ b :: (suf ++ chain.drop (s.m.dbst.height + 1).toNat) := by
    rw [← List.cons_append, ← List.append_assoc, ← hc]; exact hsplit
  have hlt' : (h : Int) < s.m.dbst.height + 1 := f.dbK_cast ▸ Int.ofNat_lt.mpr hlt
  rw [← inv.undo h hk pre b _ hc' hl, undoLookup_committed inv (Int.le_of_lt_add_one hlt')]
  show alookup h (openStore cfg s.p).undo = _
  rw [openStore_undo, base.ustate_getD]
  exact alookup_undoAfterOpen _ _ _ (by omega)

end EV.Index
