import EV.Proofs.Crash
import EV.Proofs.IndexOpen

/-!
Every cut of `flush_dbs` (C04).  The UTXO batch is the commit point.  A cut without it has written file records
beyond the committed lengths, which `_open_dbs` never reads, and history rows with flush ids above the UTXO flush
count, which `clear_excess` deletes: the restart is that of the pre-flush store (`RecoversSame`).  A cut with it
leaves the store of the complete flush.  There are no other cuts (`flush_cut_commit`).

The relations on stores are one: `StEq Nh Nc Nx` (equal up to file contents beyond the given lengths).  `FilesEq` is
`StEq` at the lengths the UTXO state record commits to, with the history state record equal as a whole;
`RecoversSame` is `StEq` of the two OPENED stores at those lengths (`RecoversSame.of_opened`, `.opened`), which
`_open_dbs` keeps (`StEq.opened`).
-/
namespace EV.Index

structure FlushPre (s : Sys) : Prop where
  /-- `History.flush_count` in memory is the one in the history DB's state record -/
  hfc : s.m.histFlush = (s.p.hstate.getD {}).flushCount
  /-- the history DB is not *behind* the UTXO DB (false exactly after a compaction whose final
      `set_flush_count` was lost: finding F9) -/
  ufc : (s.p.ustate.getD {}).flushCount ≤ s.m.histFlush
  /-- no history row carries a flush id above the history flush count -/
  ids : ∀ e ∈ s.p.hist, e.1.2 ≤ s.m.histFlush
  /-- the files are written ahead of the UTXO state, never behind it -/
  fsH : (s.p.ustate.getD {}).height ≤ s.m.fsHeight
  fsTx : (s.p.ustate.getD {}).txCount ≤
    (if s.m.fsHeight ≥ 0 then s.m.txCounts.getD s.m.fsHeight.toNat 0 else 0)
  /-- the files cover the committed height / tx count -/
  lenH : ((s.p.ustate.getD {}).height + 1).toNat ≤ s.p.headers.length
  lenC : ((s.p.ustate.getD {}).height + 1).toNat ≤ s.p.txcounts.length
  lenX : (s.p.ustate.getD {}).txCount ≤ s.p.hashes.length

/-- `q` differs from `p` at most in the file regions beyond what `p`'s UTXO state commits to -/
structure FilesEq (p q : Store) : Prop where
  h : q.h = p.h
  u : q.u = p.u
  undo : q.undo = p.undo
  ustate : q.ustate = p.ustate
  hist : q.hist = p.hist
  hstate : q.hstate = p.hstate
  headers : q.headers.take ((p.ustate.getD {}).height + 1).toNat =
              p.headers.take ((p.ustate.getD {}).height + 1).toNat
  txcounts : q.txcounts.take ((p.ustate.getD {}).height + 1).toNat =
               p.txcounts.take ((p.ustate.getD {}).height + 1).toNat
  hashes : q.hashes.take (p.ustate.getD {}).txCount = p.hashes.take (p.ustate.getD {}).txCount

theorem FilesEq.refl (p : Store) : FilesEq p p := ⟨rfl, rfl, rfl, rfl, rfl, rfl, rfl, rfl, rfl⟩

/-- `q` is `p` up to file contents beyond the first `Nh` headers / `Nc` counts / `Nx` hashes (and
    the compaction fields of the history state record, which nothing in a sync reads) -/
structure StEq (Nh Nc Nx : Nat) (p q : Store) : Prop where
  h : q.h = p.h
  u : q.u = p.u
  undo : q.undo = p.undo
  ustate : q.ustate = p.ustate
  hist : q.hist = p.hist
  hfc : (q.hstate.getD {}).flushCount = (p.hstate.getD {}).flushCount
  headers : q.headers.take Nh = p.headers.take Nh
  txcounts : q.txcounts.take Nc = p.txcounts.take Nc
  hashes : q.hashes.take Nx = p.hashes.take Nx

theorem StEq.refl (Nh Nc Nx : Nat) (p : Store) : StEq Nh Nc Nx p p :=
  ⟨rfl, rfl, rfl, rfl, rfl, rfl, rfl, rfl, rfl⟩

theorem StEq.trans {Nh Nc Nx : Nat} {p q r : Store} (e1 : StEq Nh Nc Nx p q) (e2 : StEq Nh Nc Nx q r) :
    StEq Nh Nc Nx p r :=
  ⟨e2.h.trans e1.h, e2.u.trans e1.u, e2.undo.trans e1.undo, e2.ustate.trans e1.ustate,
    e2.hist.trans e1.hist, e2.hfc.trans e1.hfc, e2.headers.trans e1.headers,
    e2.txcounts.trans e1.txcounts, e2.hashes.trans e1.hashes⟩

theorem StEq.mono {Nh Nc Nx Nh' Nc' Nx' : Nat} {p q : Store} (e : StEq Nh Nc Nx p q)
    (h1 : Nh' ≤ Nh) (h2 : Nc' ≤ Nc) (h3 : Nx' ≤ Nx) : StEq Nh' Nc' Nx' p q :=
  ⟨e.h, e.u, e.undo, e.ustate, e.hist, e.hfc, take_of_take_eq e.headers h1,
    take_of_take_eq e.txcounts h2, take_of_take_eq e.hashes h3⟩

theorem FilesEq.stEq {p q : Store} (hq : FilesEq p q) :
    StEq ((p.ustate.getD {}).height + 1).toNat ((p.ustate.getD {}).height + 1).toNat
      (p.ustate.getD {}).txCount p q :=
  ⟨hq.h, hq.u, hq.undo, hq.ustate, hq.hist, by rw [hq.hstate], hq.headers, hq.txcounts, hq.hashes⟩

def SafeWrite (p : Store) : Effect → Prop
  | .writeHeaders off _ =>
    ((p.ustate.getD {}).height + 1).toNat ≤ off ∧ ((p.ustate.getD {}).height + 1).toNat ≤ p.headers.length
  | .writeTxCounts off _ =>
    ((p.ustate.getD {}).height + 1).toNat ≤ off ∧ ((p.ustate.getD {}).height + 1).toNat ≤ p.txcounts.length
  | .writeHashes off _ =>
    (p.ustate.getD {}).txCount ≤ off ∧ (p.ustate.getD {}).txCount ≤ p.hashes.length
  | .histBatch _ _ _ => False
  | .utxoBatch _ _ _ _ _ _ => False
  | .putUState _ => False

theorem take_fileWrite_of_take_eq {α : Type} {p q : List α} {n off : Nat} (d : List α)
    (h : q.take n = p.take n) (h1 : n ≤ off) (h2 : n ≤ p.length) :
    (fileWrite q off d).take n = p.take n := by
  rw [take_fileWrite _ _ _ _ h1 (length_of_take_eq h h2), h]

theorem FilesEq.safeWrite {p q : Store} (hq : FilesEq p q) {e : Effect} (he : SafeWrite p e) :
    FilesEq p (applyEffect q e) := by
  cases e with
  | writeHeaders off d => exact { hq with headers := take_fileWrite_of_take_eq d hq.headers he.1 he.2 }
  | writeTxCounts off d => exact { hq with txcounts := take_fileWrite_of_take_eq d hq.txcounts he.1 he.2 }
  | writeHashes off d => exact { hq with hashes := take_fileWrite_of_take_eq d hq.hashes he.1 he.2 }
  | histBatch _ _ _ | utxoBatch _ _ _ _ _ _ | putUState _ => exact he.elim

theorem SafeWrite.torn {p : Store} (e t : Effect) (he : SafeWrite p e) (ht : t ∈ tornPrefixes e) :
    SafeWrite p t := by
  rcases mem_tornPrefixes ht with ⟨_, _, _, rfl, rfl⟩ | ⟨_, _, _, rfl, rfl⟩ | ⟨_, _, _, rfl, rfl⟩ <;> exact he

theorem FilesEq.ofCuts {p : Store} {es : List Effect} (hes : ∀ e ∈ es, SafeWrite p e)
    {c : List Effect} (hc : c ∈ cuts es) {q : Store} (hq : FilesEq p q) :
    FilesEq p (applyEffects q c) :=
  cuts_invariant (I := FilesEq p) (fun he hq => hq.safeWrite he) SafeWrite.torn hes hc hq

/-- `flush_fs` writes at the first height / tx number not yet on the files -/
theorem flushFs_safe {s : Sys} (hpre : FlushPre s) : ∀ e ∈ flushFsEffects s, SafeWrite s.p e := by
  intro e he
  simp only [flushFsEffects, List.mem_cons, List.not_mem_nil, or_false] at he
  have h1 : ((s.p.ustate.getD {}).height + 1).toNat ≤ (s.m.fsHeight + 1).toNat := by
    have := hpre.fsH; omega
  rcases he with rfl | rfl | rfl
  · exact ⟨h1, hpre.lenH⟩
  · exact ⟨h1, hpre.lenC⟩
  · exact ⟨hpre.fsTx, hpre.lenX⟩

theorem recover_eq (cfg : Cfg) (p : Store) :
    recover cfg p = (openTxCounts (openStore cfg p) (openState p false).1 none).map fun l =>
      ((clearExcessEffect p (p.hstate.getD {}) (p.ustate.getD {}).flushCount).toList ++
          openUndoEffects cfg (openStore1 p) (p.ustate.getD {}).height,
        { m := openMem (openState p false) l, p := openStore cfg p }) :=
  openDbs_eq cfg p false none

theorem recover_mem {cfg : Cfg} {p q : Store} (hst : openState q false = openState p false)
    (htc : openTxCounts (openStore cfg q) (openState q false).1 none =
      openTxCounts (openStore cfg p) (openState p false).1 none) :
    recover cfg q = (recover cfg p).map fun x =>
      ((clearExcessEffect q (q.hstate.getD {}) (q.ustate.getD {}).flushCount).toList ++
          openUndoEffects cfg (openStore1 q) (q.ustate.getD {}).height,
        { m := x.2.m, p := openStore cfg q }) := by
  rw [recover_eq, recover_eq, htc, hst, Option.map_map]
  rfl

/-- restarting on `q` yields the same committed index as restarting on `p`: identical tables, state
    records and in-memory state; identical files up to the committed lengths -/
structure RecoversSame (cfg : Cfg) (p q : Store) : Prop where
  h : (openStore cfg q).h = (openStore cfg p).h
  u : (openStore cfg q).u = (openStore cfg p).u
  undo : (openStore cfg q).undo = (openStore cfg p).undo
  ustate : (openStore cfg q).ustate = (openStore cfg p).ustate
  /-- the history table, row for row (so `get_txnums` agrees for every script hash and limit) -/
  hist : (openStore cfg q).hist = (openStore cfg p).hist
  hfc : ((openStore cfg q).hstate.getD {}).flushCount = ((openStore cfg p).hstate.getD {}).flushCount
  headers : (openStore cfg q).headers.take ((p.ustate.getD {}).height + 1).toNat =
              (openStore cfg p).headers.take ((p.ustate.getD {}).height + 1).toNat
  txcounts : (openStore cfg q).txcounts.take ((p.ustate.getD {}).height + 1).toNat =
               (openStore cfg p).txcounts.take ((p.ustate.getD {}).height + 1).toNat
  hashes : (openStore cfg q).hashes.take (p.ustate.getD {}).txCount =
             (openStore cfg p).hashes.take (p.ustate.getD {}).txCount
  /-- `DB.state` and the history counters in memory after `_open_dbs` -/
  state : openState q false = openState p false
  /-- `_read_tx_counts` succeeds iff it did, with the same result -/
  txc : openTxCounts (openStore cfg q) (openState q false).1 none =
          openTxCounts (openStore cfg p) (openState p false).1 none

theorem openTxCounts_congr {a b : Store} (st : CState)
    (h : a.txcounts.take (st.height + 1).toNat = b.txcounts.take (st.height + 1).toNat) :
    openTxCounts a st none = openTxCounts b st none := by
  simp only [openTxCounts, h]

/-- `q`'s history side is replaced by ANY `H`, `S` that `clear_excess` brings to `p`'s rows (`hhist`) and flush
    count (`hfc`): `_open_dbs` copies every other field, the undo table pruned by the UTXO state record's height. -/
theorem StEq.opened (cfg : Cfg) {Nh Nc Nx : Nat} {p q : Store} (e : StEq Nh Nc Nx p q)
    (H : List ((HashX × Nat) × List Nat)) (S : Option HState)
    (hhist : (openStore1 { q with hist := H, hstate := S }).hist = (openStore1 p).hist)
    (hfc : min (S.getD {}).flushCount (p.ustate.getD {}).flushCount =
      min (p.hstate.getD {}).flushCount (p.ustate.getD {}).flushCount) :
    StEq Nh Nc Nx (openStore cfg p) (openStore cfg { q with hist := H, hstate := S }) where
  h := by rw [openStore_h, openStore_h]; exact e.h
  u := by rw [openStore_u, openStore_u]; exact e.u
  undo := by simp only [openStore_undo, e.undo, e.ustate]
  ustate := by rw [openStore_ustate, openStore_ustate]; exact e.ustate
  hist := by rw [openStore_hist, openStore_hist, hhist]
  hfc := by simp only [openStore_hstate, openStore1_flushCount, e.ustate, hfc]
  headers := by rw [openStore_headers, openStore_headers]; exact e.headers
  txcounts := by rw [openStore_txcounts, openStore_txcounts]; exact e.txcounts
  hashes := by rw [openStore_hashes, openStore_hashes]; exact e.hashes

/-- `_open_dbs` reads, of the history state record, the flush count only -/
theorem StEq.openStore {Nh Nc Nx : Nat} {p q : Store} (cfg : Cfg) (e : StEq Nh Nc Nx p q) :
    StEq Nh Nc Nx (openStore cfg p) (openStore cfg q) :=
  e.opened cfg q.hist q.hstate
    (by show (openStore1 q).hist = _; rw [openStore1_hist, openStore1_hist, e.hist, e.hfc, e.ustate])
    (by rw [e.hfc])

/-- the two memory clauses (`state`, `txc`) follow: what `_open_dbs` puts into memory it reads off the opened
    store, below the lengths `p` commits to -/
theorem RecoversSame.of_opened {cfg : Cfg} {p q : Store}
    (e : StEq ((p.ustate.getD {}).height + 1).toNat ((p.ustate.getD {}).height + 1).toNat
      (p.ustate.getD {}).txCount (openStore cfg p) (openStore cfg q)) : RecoversSame cfg p q := by
  have hus : q.ustate = p.ustate := by
    have := e.ustate; rwa [openStore_ustate, openStore_ustate] at this
  have hst : openState q false = openState p false := by
    have := e.hfc
    rw [openStore_hstate, openStore_hstate, openStore1_flushCount, openStore1_flushCount, hus] at this
    rw [openState_eq, openState_eq, hus, this]
  exact ⟨e.h, e.u, e.undo, e.ustate, e.hist, e.hfc, e.headers, e.txcounts, e.hashes, hst,
    by rw [hst]; exact openTxCounts_congr _ e.txcounts⟩

theorem RecoversSame.opened {cfg : Cfg} {p q : Store} (R : RecoversSame cfg p q) :
    StEq ((p.ustate.getD {}).height + 1).toNat ((p.ustate.getD {}).height + 1).toNat
      (p.ustate.getD {}).txCount (openStore cfg p) (openStore cfg q) :=
  ⟨R.h, R.u, R.undo, R.ustate, R.hist, R.hfc, R.headers, R.txcounts, R.hashes⟩

theorem RecoversSame.recover {cfg : Cfg} {p q : Store} (R : RecoversSame cfg p q) :
    recover cfg q = (recover cfg p).map fun x =>
      ((clearExcessEffect q (q.hstate.getD {}) (q.ustate.getD {}).flushCount).toList ++
          openUndoEffects cfg (openStore1 q) (q.ustate.getD {}).height,
        { m := x.2.m, p := openStore cfg q }) :=
  recover_mem R.state R.txc

/-- the cut right after a history batch that only adds rows above the UTXO flush count (and before the UTXO
    batch): `clear_excess` removes exactly the rows the batch wrote, and resets the history flush count -/
theorem recoversSame_histBatch (cfg : Cfg) {p q : Store} (hq : FilesEq p q)
    {puts : List ((HashX × Nat) × List Nat)} {st : HState}
    (hufc : (p.ustate.getD {}).flushCount ≤ (p.hstate.getD {}).flushCount)
    (hids : ∀ e ∈ p.hist, e.1.2 ≤ (p.hstate.getD {}).flushCount)
    (hputs : ∀ e ∈ puts, (p.ustate.getD {}).flushCount < e.1.2)
    (hst : (p.ustate.getD {}).flushCount < st.flushCount) :
    RecoversSame cfg p (applyEffect q (.histBatch [] puts st)) := by
  refine .of_opened (hq.stEq.opened cfg _ (some st) ?_
    ((Nat.min_eq_right (Nat.le_of_lt hst)).trans (Nat.min_eq_right hufc).symm))
  simp only [openStore1_hist, hq.ustate, hq.hist, Option.getD_some, if_neg (Nat.not_le.mpr hst)]
  rw [show List.foldl _ p.hist [] = p.hist from rfl, histUpTo_foldl_ainsert_above _ _ _ hputs]
  split
  · next hle => exact histUpTo_self fun e he => Nat.le_trans (hids e he) hle
  · rfl

def flushHead (s : Sys) : List Effect := flushFsEffects s ++ [histFlushEffect s]

theorem recoversSame_of_cut (cfg : Cfg) {p : Store} {ws : List Effect} (hws : ∀ e ∈ ws, SafeWrite p e)
    {puts : List ((HashX × Nat) × List Nat)} {st : HState}
    (hufc : (p.ustate.getD {}).flushCount ≤ (p.hstate.getD {}).flushCount)
    (hids : ∀ e ∈ p.hist, e.1.2 ≤ (p.hstate.getD {}).flushCount)
    (hputs : ∀ e ∈ puts, (p.ustate.getD {}).flushCount < e.1.2)
    (hst : (p.ustate.getD {}).flushCount < st.flushCount) {c : List Effect}
    (hc : c ∈ cuts (ws ++ [.histBatch [] puts st])) : RecoversSame cfg p (applyEffects p c) := by
  rcases mem_cuts_commit rfl hc with h1 | ⟨c', hc', rfl⟩
  · exact .of_opened ((FilesEq.ofCuts hws h1 (FilesEq.refl _)).stEq.openStore cfg)
  · cases List.mem_singleton.mp hc'
    rw [applyEffects_append]
    exact recoversSame_histBatch cfg (FilesEq.ofCuts hws (self_mem_cuts _) (FilesEq.refl _)) hufc hids hputs hst

theorem recoversSame_of_cut_head (cfg : Cfg) {s : Sys} (hpre : FlushPre s) {c : List Effect}
    (hc : c ∈ cuts (flushHead s)) : RecoversSame cfg s.p (applyEffects s.p c) := by
  refine recoversSame_of_cut cfg (flushFs_safe hpre) (hpre.hfc ▸ hpre.ufc)
    (fun e he => hpre.hfc ▸ hpre.ids e he) (fun e he => ?_) (Nat.lt_succ_of_le hpre.ufc) hc
  obtain ⟨x, -, rfl⟩ := List.mem_map.mp he
  exact Nat.lt_succ_of_le hpre.ufc

theorem flushDbs_cases {s : Sys} {fu : Bool} {es : List Effect} {m' : Mem}
    (h : flushDbs s fu = some (es, m')) :
    (es = [] ∧ m' = s.m) ∨
    (s.m.st.height ≠ s.m.dbst.height ∧ flushFsAsserts s = true ∧
      m'.fsHeight = s.m.st.height ∧ m'.fsTxCount = s.m.st.txCount ∧
      (es = flushHead s ∨
       es = flushHead s ++ [utxoBatchEffect s { s.m.st with flushCount := s.m.histFlush + 1 },
                            .putUState { s.m.st with flushCount := s.m.histFlush + 1 }])) := by
  rw [flushDbs] at h
  by_cases h1 : s.m.st.height = s.m.dbst.height
  · rw [if_pos h1] at h
    by_cases h2 : assertFlushed s = true
    · rw [if_pos h2] at h
      cases h
      exact .inl ⟨rfl, rfl⟩
    · rw [if_neg h2] at h
      cases h
  · rw [if_neg h1] at h
    cases h2 : flushFsAsserts s
    · rw [h2, if_pos (show (!false) = true from rfl)] at h
      cases h
    · rw [h2, if_neg (show ¬(!true) = true from Bool.false_ne_true)] at h
      cases fu <;> cases h
      · exact .inr ⟨h1, rfl, rfl, rfl, .inl rfl⟩
      · exact .inr ⟨h1, rfl, rfl, rfl, .inr rfl⟩

theorem no_utxoBatch_in_cut {es c : List Effect} (hes : ∀ e ∈ es, e.isUtxoBatch = false)
    (hc : c ∈ cuts es) : ∀ e ∈ c, e.isUtxoBatch = false := by
  refine forall_mem_cuts (fun e t _ ht => ?_) hes hc
  rcases mem_tornPrefixes ht with ⟨_, _, _, -, rfl⟩ | ⟨_, _, _, -, rfl⟩ | ⟨_, _, _, -, rfl⟩ <;> rfl

theorem flushHead_no_utxoBatch (s : Sys) : ∀ e ∈ flushHead s, e.isUtxoBatch = false := by
  intro e he
  simp only [flushHead, flushFsEffects, histFlushEffect, List.cons_append, List.nil_append,
    List.mem_cons, List.not_mem_nil, or_false] at he
  rcases he with rfl | rfl | rfl | rfl <;> rfl

/-- the trailing direct `put` of the state record repeats what the UTXO batch already wrote -/
theorem putUState_idem (p : Store) (d : List DelKey) (hp : List (HKey × HashX)) (up : List (UKey × Nat))
    (ud : List Nat) (upp : List (Nat × List CacheVal)) (st : CState) :
    applyEffect (applyEffect p (.utxoBatch d hp up ud upp (some st))) (.putUState st) =
      applyEffect p (.utxoBatch d hp up ud upp (some st)) := by
  simp [applyEffect]

/-- the UTXO batch is the commit point of a flush; the second case holds with the trailing `put` or without -/
theorem flush_cut_commit {s : Sys} {fu : Bool} {es : List Effect} {m' : Mem}
    (hf : flushDbs s fu = some (es, m')) {c : List Effect} (hc : c ∈ cuts es) :
    (c ∈ cuts (flushHead s) ∧ ∀ e ∈ c, e.isUtxoBatch = false) ∨
      ((∃ e ∈ c, e.isUtxoBatch = true) ∧ applyEffects s.p c = applyEffects s.p es) := by
  have hhead {c : List Effect} (h : c ∈ cuts (flushHead s)) :=
    And.intro h (no_utxoBatch_in_cut (flushHead_no_utxoBatch s) h)
  rcases flushDbs_cases hf with ⟨rfl, -⟩ | ⟨-, -, -, -, rfl | rfl⟩
  · cases List.mem_singleton.mp hc
    exact .inl (hhead (nil_mem_cuts _))
  · exact .inl (hhead hc)
  · rcases mem_cuts_commit (e := utxoBatchEffect s _) rfl hc with h1 | ⟨c', hc', rfl⟩
    · exact .inl (hhead h1)
    · refine .inr ⟨⟨_, List.mem_append_right _ List.mem_cons_self, rfl⟩, ?_⟩
      rcases mem_cuts_atomic (Or.inr ⟨_, rfl, rfl⟩) hc' with rfl | rfl
      · rw [applyEffects_append, applyEffects_append]
        exact (putUState_idem ..).symm
      · rfl

end EV.Index
