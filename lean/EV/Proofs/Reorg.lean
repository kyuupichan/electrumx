import EV.Model.Reorg

/-! `_calc_reorg_range` finds exactly the fork point when the chain is at least twice as high as
the fork is deep. -/
namespace EV.Reorg

/-- the two chains agree below `f` and differ from `f` on (distinct blocks never re-converge) -/
structure ForkAt (mine daemon : Nat → Hash) (f : Nat) : Prop where
  same : ∀ h, h < f → mine h = daemon h
  diff : ∀ h, f ≤ h → mine h ≠ daemon h

section loops
variable {mine daemon : Nat → Hash} {f : Nat}

theorem diffPosFrom_succ (start r i : Nat) :
    diffPosFrom mine daemon start (r + 1) i =
      if mine (start + i) = daemon (start + i) then diffPosFrom mine daemon start r (i + 1) else i := by
  rw [diffPosFrom]
  by_cases h : mine (start + i) = daemon (start + i)
  · rw [if_pos h, if_neg (by simp [h])]
  · rw [if_neg h, if_pos (by simpa using h)]

theorem diffPos_zero {start count : Nat} (hf : ForkAt mine daemon f)
    (hs : f ≤ start) (hc : 0 < count) : diffPos mine daemon start count = 0 := by
  obtain ⟨c, rfl⟩ := Nat.exists_eq_succ_of_ne_zero (Nat.ne_of_gt hc)
  rw [diffPos, diffPosFrom_succ, if_neg (hf.diff _ (Nat.le_add_right_of_le hs))]

theorem diffPosFrom_find {start : Nat} (hf : ForkAt mine daemon f)
    (r i : Nat) (hlo : start + i ≤ f) (hhi : f ≤ start + i + r) :
    start + diffPosFrom mine daemon start r i = f := by
  induction r generalizing i with
  | zero => rw [diffPosFrom]; exact Nat.le_antisymm hlo hhi
  | succ r ih =>
    rw [diffPosFrom_succ]
    by_cases heq : start + i = f
    · rw [if_neg (hf.diff _ (Nat.le_of_eq heq.symm))]; exact heq
    · rw [if_pos (hf.same _ (Nat.lt_of_le_of_ne hlo heq))]
      exact ih (i + 1) (Nat.lt_of_le_of_ne hlo heq)
        (by rw [← Nat.add_assoc, Nat.add_right_comm]; exact hhi)

theorem diffPos_find {start count : Nat} (hf : ForkAt mine daemon f)
    (hs : start < f) (hle : f ≤ start + count) : start + diffPos mine daemon start count = f :=
  diffPosFrom_find hf count 0 (Nat.le_of_lt hs) hle

theorem calcLoop_succ (fuel count : Nat) {start : Nat} (hs : 0 < start) :
    calcLoop mine daemon (fuel + 1) start count =
      if diffPos mine daemon start count > 0 then start + diffPos mine daemon start count
      else calcLoop mine daemon fuel (start - min (count * 2) start) (min (count * 2) start) := by
  rw [calcLoop, if_pos hs]

/-! The loop invariant: every window `[start, start + count)` the loop looks at ends at or above the
fork (`hwin`) and satisfies `start + 2·count = height + 1`; with `height + 2 ≤ 2·f` (the chain is
twice as high as the fork is deep) that is `hhi`.  The next two lemmas are its arithmetic. -/

theorem window_pos {start count : Nat} (hwin : f ≤ start + count)
    (hhi : start + count * 2 + 1 ≤ 2 * f) : 0 < start := by omega

/-- above the fork the doubled look-back is not clamped -/
theorem window_clamp {start count : Nat} (hge : f ≤ start) (hhi : start + count * 2 + 1 ≤ 2 * f) :
    count * 2 ≤ start := by omega

theorem calcLoop_exact (hf : ForkAt mine daemon f) (fuel start count : Nat)
    (hwin : f ≤ start + count) (hhi : start + count * 2 + 1 ≤ 2 * f) (hfuel : start ≤ fuel)
    (hc : 0 < count) : calcLoop mine daemon fuel start count = f := by
  have hpos := window_pos hwin hhi
  induction fuel generalizing start count with
  | zero => exact absurd hpos (Nat.not_lt.mpr hfuel)
  | succ fuel ih =>
    rw [calcLoop_succ fuel count hpos]
    by_cases hsf : start < f
    · have hd := diffPos_find hf hsf hwin
      have hdpos : 0 < diffPos mine daemon start count :=
        Nat.pos_of_ne_zero fun h0 => Nat.ne_of_lt hsf (by rw [← hd, h0]; rfl)
      rw [if_pos hdpos, hd]
    · -- the next window is `[start', start' + 2·count)` with `start = start' + 2·count`
      have hge := Nat.le_of_not_lt hsf
      have hclamp := window_clamp hge hhi
      obtain ⟨start', rfl⟩ : ∃ s, start = s + count * 2 := ⟨_, (Nat.sub_add_cancel hclamp).symm⟩
      have hc' : 0 < count * 2 := Nat.mul_pos hc Nat.two_pos
      rw [diffPos_zero hf hge hc, if_neg (Nat.lt_irrefl 0), Nat.min_eq_left hclamp,
        Nat.add_sub_cancel]
      have hhi' : start' + count * 2 * 2 + 1 ≤ 2 * f := by
        rw [Nat.mul_two, ← Nat.add_assoc]; exact hhi
      exact ih _ _ hge hhi' (Nat.le_of_add_le_add_right (Nat.le_trans hfuel
        (Nat.add_le_add_left hc' fuel))) hc' (window_pos hge hhi')

end loops

/-- **Reorg range (natural reorg).**  Server at height `n`, chains agreeing below `f` and differing
from `f` on, `1 ≤ f ≤ n`, and the chain at least twice as high as the fork is deep
(`2·(n − f + 1) ≤ n`): `_calc_reorg_range(-1)` returns exactly `(f, n − f + 1)`. -/
theorem calcReorgRange_exact {mine daemon : Nat → Hash} {f n : Nat} (hf : ForkAt mine daemon f)
    (hf1 : 1 ≤ f) (hfn : f ≤ n) (hcond : 2 * (n - f + 1) ≤ n) :
    calcReorgRange mine daemon n (-1) = ((f : Int), (n : Int) - f + 1) := by
  obtain ⟨m, rfl⟩ := Nat.exists_eq_add_of_le' (Nat.le_trans hf1 hfn)
  have hloop : calcLoop mine daemon (m + 1) m 1 = f :=
    calcLoop_exact hf (m + 1) m 1 hfn (by omega) (Nat.le_succ m) Nat.one_pos
  rw [calcReorgRange, if_pos (by decide), Nat.add_sub_cancel, hloop]

theorem calcReorgRange_forced (mine daemon : Nat → Hash) (n : Nat) (k : Nat) :
    calcReorgRange mine daemon n k = ((n : Int) - k + 1, (k : Int)) := by
  rw [calcReorgRange, if_neg (Int.not_lt.mpr (Int.natCast_nonneg k))]

/-- the hypothesis "twice as high as deep" cannot be dropped: height 7, fork at 4 (depth 4) makes
    the look-back overrun to 0 without comparing -/
theorem calcReorgRange_counterexample_shallow_chain :
    calcReorgRange (fun h => h) (fun h => if h < 4 then h else h + 100) 7 (-1) = (0, 8) := by
  decide +kernel

/-- …while height 8, depth 4 is exact (non-vacuity of the hypotheses) -/
example : calcReorgRange (fun h => h) (fun h => if h < 5 then h else h + 100) 8 (-1) = (5, 4) := by
  decide +kernel

end EV.Reorg
