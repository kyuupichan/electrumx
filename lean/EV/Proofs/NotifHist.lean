import EV.Proofs.Notif
import EV.Proofs.ListX

/-! What a reachable state of `Notifications` knows about the history of reports that led to it. -/
namespace EV.Notif

def Op.height : Op → Int
  | .start h => h
  | .mempool _ h => h
  | .block _ h => h

/-- height of the last `on_block` or `start` in the history, if any -/
def lastBlockLike (ops : List Op) : Option Int :=
  ops.reverse.findSome? fun
    | .start h => some h
    | .block _ h => some h
    | .mempool _ _ => none

def lastMempool (ops : List Op) : Option Int :=
  ops.reverse.findSome? fun
    | .mempool _ h => some h
    | _ => none

theorem lastBlockLike_snoc (ops : List Op) (op : Op) :
    lastBlockLike (ops ++ [op]) =
      match op with
      | .start h => some h
      | .block _ h => some h
      | .mempool _ _ => lastBlockLike ops := by
  unfold lastBlockLike
  rw [List.reverse_append]
  cases op <;> rfl

theorem lastBlockLike_mem {ops : List Op} {h : Int} (hl : lastBlockLike ops = some h) :
    (∃ t, Op.block t h ∈ ops) ∨ Op.start h ∈ ops := by
  obtain ⟨o, ho, hf⟩ := List.exists_of_findSome?_eq_some hl
  rw [List.mem_reverse] at ho
  cases o with
  | start h' => cases hf; exact Or.inr ho
  | block t h' => cases hf; exact Or.inl ⟨t, ho⟩
  | mempool => nomatch hf

/-- `start h` only ever follows block reports at heights `≤ h` (the session manager starts
    notifications with the DB height; during a reorganisation that can be below an earlier block report:
    `C20_startok_counterexample`). -/
def StartOK (ops : List Op) : Prop :=
  ∀ pre h post, ops = pre ++ Op.start h :: post → ∀ t k, Op.block t k ∈ pre → k ≤ h

theorem StartOK_prefix {a b : List Op} (h : StartOK (a ++ b)) : StartOK a := by
  intro pre h' post heq t k hk
  exact h pre h' (post ++ b) (by rw [heq]; simp) t k hk

/-- `bpLe` is conditional: a `start` below an earlier block report leaves a height above `_highest_block`
    pending in `_touched_bp` (`C20_startok_counterexample`) -/
structure HInv (ops : List Op) (s : St) : Prop where
  mpK : ∀ k ∈ keys s.mp, ∃ t, Op.mempool t k ∈ ops
  bpK : ∀ k ∈ keys s.bp, ∃ t, Op.block t k ∈ ops
  hi : s.highest = (lastBlockLike ops).getD (-1)
  bpLe : StartOK ops → ∀ k ∈ keys s.bp, k ≤ s.highest

theorem hinv_init : HInv [] init :=
  ⟨fun _ h => (nomatch h), fun _ h => (nomatch h), rfl, fun _ _ h => (nomatch h)⟩

theorem hinv_prep {ops : List Op} {s : St} (hs : HInv ops s) (op : Op) :
    HInv (ops ++ [op]) (prep s op) := by
  have last : op ∈ ops ++ [op] := List.mem_append_right _ (List.mem_singleton_self _)
  have mp' := fun k hk => (hs.mpK k hk).imp fun _ => List.mem_append_left [op]
  have bp' := fun k hk => (hs.bpK k hk).imp fun _ => List.mem_append_left [op]
  cases op with
  | start h =>
    exact ⟨mp', bp', by rw [lastBlockLike_snoc]; rfl,
      fun hok k hk => (hs.bpK k hk).elim fun t => hok ops h [] rfl t k⟩
  | mempool t h =>
    refine ⟨fun k hk => ?_, bp', by rw [lastBlockLike_snoc]; exact hs.hi,
      fun hok => hs.bpLe (StartOK_prefix hok)⟩
    rcases (mem_keys_cons_dropKeys_le h _ s.mp k).mp hk with rfl | ⟨h1, _⟩
    · exact ⟨t, last⟩
    · exact mp' k h1
  | block t h =>
    refine ⟨fun k hk => mp' k ((keys_prep_block_mp s t h k).mp hk).1, fun k hk => ?_,
      by rw [lastBlockLike_snoc]; rfl, fun _ _ => le_of_mem_keys_cons_dropKeys_le⟩
    rcases (mem_keys_cons_dropKeys_le h _ s.bp k).mp hk with rfl | ⟨h1, _⟩
    · exact ⟨t, last⟩
    · exact bp' k h1

theorem hinv_maybeNotify {ops : List Op} {s : St} (hs : HInv ops s) : HInv ops (maybeNotify s).1 where
  mpK k hk := hs.mpK k ((maybeNotify_keys s k).1 hk)
  bpK k hk := hs.bpK k ((maybeNotify_keys s k).2 hk)
  hi := (maybeNotify_highest s).trans hs.hi
  bpLe hok k hk := maybeNotify_highest s ▸ hs.bpLe hok k ((maybeNotify_keys s k).2 hk)

/-- A reachable state: besides `HInv`, no height is pending in both dicts, since every `_maybe_notify`
    leaves it so and `start` touches neither. -/
theorem hinv_run (ops : List Op) :
    HInv ops (run init ops).1 ∧ ∀ k ∈ keys (run init ops).1.mp, k ∉ keys (run init ops).1.bp := by
  induction ops using List.snoc_induction with
  | nil => exact ⟨hinv_init, fun _ h => nomatch h⟩
  | snoc l a ih =>
    rw [run_snoc]
    rcases step_cases (run init l).1 a with ⟨h, rfl, e⟩ | e <;> rw [e]
    · exact ⟨hinv_prep ih.1 _, ih.2⟩
    · exact ⟨hinv_maybeNotify (hinv_prep ih.1 a), maybeNotify_disjoint _⟩

/-- Where a notification comes from; the last disjunct: no block-like report at all, and `e.1` is the
initial `_highest_block`. -/
theorem emit_at {ops : List Op} {p : St} {e : Emit} (hp : HInv ops p)
    (he : (maybeNotify p).2 = some e) :
    (∃ t, Op.mempool t e.1 ∈ ops) ∧
      ((∃ t, Op.block t e.1 ∈ ops) ∨ Op.start e.1 ∈ ops ∨ (e.1 = -1 ∧ lastBlockLike ops = none)) := by
  obtain ⟨hm, hb | ⟨_, hhi, _⟩⟩ := pickHeight_eq_some.mp (maybeNotify_emit he)
  · exact ⟨hp.mpK _ hm, Or.inl (hp.bpK _ hb.1)⟩
  · refine ⟨hp.mpK _ hm, ?_⟩
    rw [hp.hi] at hhi
    cases hl : lastBlockLike ops with
    | none => exact Or.inr (Or.inr ⟨by rw [hhi, hl]; rfl, rfl⟩)
    | some H =>
      obtain rfl : e.1 = H := by rw [hhi, hl]; rfl
      exact (lastBlockLike_mem hl).imp_right Or.inl

end EV.Notif
