/-! Small list facts shared by the proof files. -/
namespace EV

theorem List.snoc_induction {α : Type _} {P : List α → Prop} (nil : P [])
    (snoc : ∀ l a, P l → P (l ++ [a])) : ∀ l, P l := by
  intro l
  rw [← List.reverse_reverse l]
  induction l.reverse with
  | nil => simpa using nil
  | cons a r ih => rw [List.reverse_cons]; exact snoc _ _ ih

theorem takeWhile_eq_filter {α : Type _} (p : α → Bool) {l : List α}
    (h : l.Pairwise (fun a b => p b = true → p a = true)) : l.takeWhile p = l.filter p := by
  induction l with
  | nil => rfl
  | cons a l ih =>
    rw [List.pairwise_cons] at h
    rw [List.takeWhile_cons, List.filter_cons, ih h.2]
    cases ha : p a
    · exact (List.filter_eq_nil_iff.mpr fun b hb hpb => by simp [h.1 b hb hpb] at ha).symm
    · rfl

theorem takeWhile_append_of_nil {α : Type _} {p : α → Bool} {l₂ : List α} (h : l₂.takeWhile p = [])
    (l₁ : List α) : (l₁ ++ l₂).takeWhile p = l₁.takeWhile p := by
  induction l₁ with
  | nil => exact h
  | cons a l ih => rw [List.cons_append, List.takeWhile_cons, List.takeWhile_cons, ih]

theorem mem_foldl_iff {α δ : Type _} {step : List α → δ → List α} {P : δ → α → Prop}
    (h : ∀ t d e, e ∈ step t d ↔ e ∈ t ∧ ¬ P d e) (ds : List δ) (t : List α) (e : α) :
    e ∈ ds.foldl step t ↔ e ∈ t ∧ ∀ d ∈ ds, ¬ P d e := by
  induction ds generalizing t with
  | nil => simp
  | cons d ds ih => rw [List.foldl_cons, ih, h, and_assoc, List.forall_mem_cons]

theorem getElem?_idxOf {α : Type _} [BEq α] [LawfulBEq α] {l : List α} {a : α} (h : l.idxOf a < l.length) :
    l[l.idxOf a]? = some a := by
  rw [List.getElem?_eq_getElem h, List.getElem_idxOf h]

theorem mapM_option_length {α β : Type} (f : α → Option β) (l : List α) (r : List β)
    (h : l.mapM f = some r) : r.length = l.length := by
  induction l generalizing r with
  | nil => cases h; rfl
  | cons a l ih =>
    simp only [List.mapM_cons, Option.pure_def, Option.bind_eq_bind, Option.bind_eq_some_iff,
      Option.some.injEq] at h
    obtain ⟨b, _, r', hl, rfl⟩ := h
    exact congrArg (· + 1) (ih r' hl)

theorem mapM_option_eq_some {α β : Type} (f : α → Option β) (g : α → β) (l : List α)
    (h : ∀ x ∈ l, f x = some (g x)) : l.mapM f = some (l.map g) := by
  induction l with
  | nil => simp
  | cons a l ih =>
    rw [List.mapM_cons, h a (by simp), ih (fun x hx => h x (List.mem_cons_of_mem _ hx))]
    rfl

theorem foldl_sublist {α δ : Type _} {step : List α → δ → List α}
    (h : ∀ t d, (step t d).Sublist t) (ds : List δ) (t : List α) : (ds.foldl step t).Sublist t :=
  List.foldlRecOn (motive := (·.Sublist t)) ds step (List.Sublist.refl t) fun t' ht d _ => (h t' d).trans ht

theorem eq_of_nodup_map {α β : Type _} {f : α → β} {l : List α} (hn : (l.map f).Nodup) {a b : α}
    (ha : a ∈ l) (hb : b ∈ l) (h : f a = f b) : a = b :=
  have hp := List.pairwise_map.mp hn
  List.Pairwise.forall_of_forall_of_flip (R := fun x y => f x = f y → x = y) (fun _ _ _ => rfl)
    (hp.imp fun hne heq => absurd heq hne) (hp.imp fun hne heq => absurd heq.symm hne) ha hb h

theorem nodup_of_nodup_map {α β : Type _} (f : α → β) {l : List α} (h : (l.map f).Nodup) : l.Nodup :=
  List.Pairwise.of_map f (fun _ _ hab heq => hab (congrArg f heq)) h

theorem nodup_snoc {α : Type _} {l : List α} {a : α} (hn : l.Nodup) (ha : a ∉ l) : (l ++ [a]).Nodup :=
  List.nodup_append.mpr ⟨hn, List.pairwise_singleton _ a,
    fun _ hb _ hc hbc => ha (List.mem_singleton.mp hc ▸ hbc ▸ hb)⟩

theorem nodup_eraseDups_aux {α : Type _} [BEq α] [LawfulBEq α] (n : Nat) :
    ∀ (l : List α), l.length ≤ n → l.eraseDups.Nodup := by
  induction n with
  | zero =>
    intro l h
    cases l with
    | nil => simp
    | cons a as => simp at h
  | succ n ih =>
    intro l h
    cases l with
    | nil => simp
    | cons a as =>
      rw [List.eraseDups_cons, List.nodup_cons]
      refine ⟨?_, ih _ ?_⟩
      · simp [List.mem_eraseDups]
      · have := List.length_filter_le (fun b => !b == a) as
        simp only [List.length_cons] at h
        omega

theorem nodup_eraseDups {α : Type _} [BEq α] [LawfulBEq α] (l : List α) : l.eraseDups.Nodup :=
  nodup_eraseDups_aux l.length l (Nat.le_refl _)

theorem nodup_map_snoc {α β : Type _} {f : α → β} {l : List α} {a : α} (hn : (l.map f).Nodup)
    (hf : ∀ x ∈ l, f x ≠ f a) : ((l ++ [a]).map f).Nodup := by
  rw [List.map_append]
  refine nodup_snoc hn fun h => ?_
  obtain ⟨x, hx, heq⟩ := List.mem_map.mp h
  exact hf x hx heq

theorem nodup_map_of_keys {α β γ : Type} (g : α → γ) (f : α → β) (l : List α)
    (hn : (l.map g).Nodup) (hinj : ∀ a ∈ l, ∀ b ∈ l, f a = f b → g a = g b) :
    (l.map f).Nodup := by
  induction l with
  | nil => simp
  | cons a l ih =>
    simp only [List.map_cons, List.nodup_cons] at hn ⊢
    refine ⟨?_, ih hn.2 (fun x hx y hy => hinj x (List.mem_cons_of_mem _ hx) y (List.mem_cons_of_mem _ hy))⟩
    intro hmem
    obtain ⟨b, hb, hfb⟩ := List.mem_map.mp hmem
    have := hinj a (by simp) b (List.mem_cons_of_mem _ hb) hfb.symm
    exact hn.1 (this ▸ List.mem_map.mpr ⟨b, hb, rfl⟩)

theorem take_of_prefix {α : Type _} {l m : List α} (h : l <+: m) {n : Nat} (hn : n ≤ l.length) :
    m.take n = l.take n := by
  obtain ⟨t, rfl⟩ := h
  exact List.take_append_of_le_length hn

theorem take_succ_of_getElem? {α : Type} {l : List α} {h : Nat} {b : α} (hb : l[h]? = some b) :
    l.take (h + 1) = l.take h ++ [b] := by
  rw [List.take_add_one, hb]; rfl

theorem append_cons_eq_snoc {α : Type} {chain pre suf : List α} {x b : α}
    (h : chain ++ [x] = pre ++ b :: suf) :
    (suf = [] ∧ pre = chain ∧ b = x) ∨ (∃ suf', suf = suf' ++ [x] ∧ chain = pre ++ b :: suf') := by
  rcases List.eq_nil_or_concat suf with rfl | ⟨suf', y, rfl⟩
  · obtain ⟨h1, h2⟩ := List.append_inj' h rfl
    exact .inl ⟨rfl, h1.symm, (List.singleton_inj.mp h2).symm⟩
  · rw [List.concat_eq_append] at h ⊢
    rw [← List.cons_append, ← List.append_assoc] at h
    obtain ⟨h1, h2⟩ := List.append_inj' h rfl
    exact .inr ⟨suf', congrArg (suf' ++ ·) h2.symm, h1⟩

theorem filter_lt_append {A B : List Nat} {n : Nat} (hA : ∀ a ∈ A, a < n) (hB : ∀ b ∈ B, n ≤ b) :
    (A ++ B).filter (· < n) = A := by
  rw [List.filter_append]
  have h1 : A.filter (· < n) = A := List.filter_eq_self.mpr (by intro a ha; simpa using hA a ha)
  have h2 : B.filter (· < n) = [] := List.filter_eq_nil_iff.mpr (by
    intro b hb; simp only [decide_eq_true_eq]; have := hB b hb; omega)
  rw [h1, h2, List.append_nil]

/-! Two lists that agree on their first `k` entries (`l.take k = l'.take k`): a file and what it should
    hold up to the committed length, two stores after a crash. -/

theorem drop_take_of_take_eq {α : Type _} {l l' : List α} {k : Nat} (h : l.take k = l'.take k)
    {a d : Nat} (had : a + d ≤ k) : (l.drop a).take d = (l'.drop a).take d := by
  have h1 : ∀ m : List α, (m.drop a).take d = ((m.take k).drop a).take d := by
    intro m
    rw [List.drop_take, List.take_take, Nat.min_eq_left (by omega)]
  rw [h1 l, h1 l', h]

theorem take_of_take_eq {α : Type _} {l l' : List α} {n m : Nat} (h : l.take n = l'.take n)
    (hm : m ≤ n) : l.take m = l'.take m :=
  drop_take_of_take_eq h (a := 0) (by omega)

theorem getElem?_eq_of_take_eq {α : Type _} {l l' : List α} {k n : Nat} (h : l.take k = l'.take k)
    (hn : n < k) : l[n]? = l'[n]? := by
  rw [← List.getElem?_take_of_lt hn, h, List.getElem?_take_of_lt hn]

theorem length_of_take_eq {α : Type _} {l l' : List α} {k : Nat} (h : l.take k = l'.take k)
    (hl : k ≤ l'.length) : k ≤ l.length := by
  have := congrArg List.length h
  simp only [List.length_take] at this
  omega

/-- `count` entries from `start`, cut at `height` (`read_headers`): the segment read lies below
    `(height + 1).toNat` -/
theorem drop_take_min_of_take_eq {α : Type _} {l l' : List α} {k : Nat} (h : l.take k = l'.take k)
    (start count : Nat) {height : Int} (hk : (height + 1).toNat ≤ k) :
    (l.drop start).take (min (count : Int) (height + 1 - start)).toNat =
      (l'.drop start).take (min (count : Int) (height + 1 - start)).toNat := by
  have h1 : min (count : Int) (height + 1 - start) ≤ height + 1 - start := Int.min_le_right ..
  generalize min (count : Int) (height + 1 - start) = d at h1 ⊢
  by_cases h0 : d.toNat = 0
  · rw [h0, List.take_zero, List.take_zero]
  · exact drop_take_of_take_eq h (by omega)

theorem forall_mem_set {α : Type _} {P : α → Prop} {l : List α} {i : Nat} {x : α} (hl : ∀ a ∈ l, P a)
    (hx : P x) : ∀ a ∈ l.set i x, P a :=
  fun a ha => (List.mem_or_eq_of_mem_set ha).elim (hl a) fun h => h ▸ hx

/-- Python's `set.add` on a list kept duplicate-free -/
theorem mem_setAdd {α : Type _} [BEq α] [LawfulBEq α] {s : List α} {a b : α} :
    b ∈ (if s.contains a = true then s else s ++ [a]) ↔ b ∈ s ∨ b = a := by
  split
  · rename_i hc
    exact ⟨Or.inl, fun h => h.elim id (fun h => h ▸ List.contains_iff_mem.mp hc)⟩
  · rw [List.mem_append, List.mem_singleton]

theorem nodup_setAdd {α : Type _} [BEq α] [LawfulBEq α] {s : List α} (a : α) (hn : s.Nodup) :
    (if s.contains a = true then s else s ++ [a]) ≠ [] ∧
      (if s.contains a = true then s else s ++ [a]).Nodup := by
  split
  · rename_i hc
    exact ⟨List.ne_nil_of_mem (List.contains_iff_mem.mp hc), hn⟩
  · rename_i hc
    exact ⟨List.append_ne_nil_of_right_ne_nil _ (List.cons_ne_nil _ _),
      nodup_snoc hn (fun hm => hc (List.contains_iff_mem.mpr hm))⟩

theorem keyLe_trans {α : Type _} (f : α → Nat) (a b c : α) (h1 : decide (f a ≤ f b) = true)
    (h2 : decide (f b ≤ f c) = true) : decide (f a ≤ f c) = true :=
  decide_eq_true (Nat.le_trans (of_decide_eq_true h1) (of_decide_eq_true h2))

theorem keyLe_total {α : Type _} (f : α → Nat) (a b : α) :
    (decide (f a ≤ f b) || decide (f b ≤ f a)) = true := by
  simpa using Nat.le_total (f a) (f b)

end EV
