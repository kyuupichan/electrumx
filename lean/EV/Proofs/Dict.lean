import EV.Proofs.ListX

/-! A Python dict is modelled as an association list in which the first entry of a key counts.  The
models import nothing, so each carries its own copy of `d.get(k)`; `IsLookup` says what makes a function
such a copy (each model's is one by `rfl`), and what the proofs need of a lookup is proved from that here,
once.  A lookup is the library's `find?` on the key (`eq_find?`); the facts about `find?` by a key that the
library lacks come first, for any key function, so that a list of records searched by a field is served too. -/
namespace EV

section Keyed
variable {α κ : Type _} [DecidableEq κ] {key : α → κ}

theorem find?_key_filter (q : κ → Bool) (k : κ) (l : List α) :
    (l.filter fun a => q (key a)).find? (fun a => decide (key a = k)) =
      if q k then l.find? (fun a => decide (key a = k)) else none := by
  have : (fun a : α => decide (q (key a) = true ∧ decide (key a = k) = true)) =
      fun a => q k && decide (key a = k) := by
    funext a; by_cases ha : key a = k <;> simp [ha]
  rw [List.find?_filter, this]
  cases q k <;> simp

theorem find?_key_of_mem {l : List α} (hn : (l.map key).Nodup) {a : α} (ha : a ∈ l) :
    l.find? (fun x => decide (key x = key a)) = some a := by
  cases h : l.find? (fun x => decide (key x = key a)) with
  | none => exact absurd (decide_eq_true rfl) (List.find?_eq_none.mp h a ha)
  | some x =>
    have hx := List.find?_some h
    exact congrArg some (eq_of_nodup_map hn (List.mem_of_find?_eq_some h) ha (of_decide_eq_true hx))

theorem filter_key_of_mem {U : List α} (hn : (U.map key).Nodup) {u : α} (hu : u ∈ U) :
    U.filter (fun x => decide (key x = key u)) = [u] := by
  induction U with
  | nil => simp at hu
  | cons x U ih =>
    simp only [List.map_cons, List.nodup_cons] at hn
    rcases List.mem_cons.mp hu with rfl | hu'
    · simp only [List.filter_cons, decide_true, if_true]
      congr 1
      apply List.filter_eq_nil_iff.mpr
      intro y hy
      simp only [decide_eq_true_eq]
      intro heq
      exact hn.1 (heq ▸ List.mem_map.mpr ⟨y, hy, rfl⟩)
    · have hne : key x ≠ key u := by
        intro heq
        exact hn.1 (heq ▸ List.mem_map.mpr ⟨u, hu', rfl⟩)
      simp only [List.filter_cons, hne, decide_false]
      exact ih hn.2 hu'

theorem find?_key_perm {l l' : List α} (hn : (l.map key).Nodup) (hp : l.Perm l') (k : κ) :
    l.find? (fun x => decide (key x = k)) = l'.find? (fun x => decide (key x = k)) := by
  cases h : l.find? (fun x => decide (key x = k)) with
  | none => exact (List.find?_eq_none.mpr fun x hx => List.find?_eq_none.mp h x (hp.mem_iff.mpr hx)).symm
  | some a =>
    have ha := List.find?_some h
    obtain rfl : key a = k := of_decide_eq_true ha
    exact (find?_key_of_mem ((hp.map key).nodup_iff.mp hn) (hp.subset (List.mem_of_find?_eq_some h))).symm
end Keyed

/-- `get` is `d.get(k)` on an association list: the first entry of the key counts -/
structure IsLookup {κ ν : Type} [DecidableEq κ] (get : κ → List (κ × ν) → Option ν) : Prop where
  nil : ∀ k, get k [] = none
  cons : ∀ k k' v l, get k ((k', v) :: l) = if k' = k then some v else get k l

namespace IsLookup

variable {κ ν : Type} [DecidableEq κ] {get : κ → List (κ × ν) → Option ν} (hg : IsLookup get)
include hg

theorem eq_find? (k : κ) (l : List (κ × ν)) :
    get k l = (l.find? (fun e => decide (e.1 = k))).map (·.2) := by
  induction l with
  | nil => exact hg.nil k
  | cons e l ih =>
    rw [hg.cons, List.find?_cons, ih]
    by_cases h : e.1 = k
    · rw [if_pos h, decide_eq_true h]; rfl
    · rw [if_neg h, decide_eq_false h]

theorem some_mem {k : κ} {v : ν} {l : List (κ × ν)} (h : get k l = some v) : (k, v) ∈ l := by
  rw [hg.eq_find?] at h
  obtain ⟨e, he, rfl⟩ := Option.map_eq_some_iff.mp h
  have hk := List.find?_some he
  rw [← of_decide_eq_true hk]
  exact List.mem_of_find?_eq_some he

theorem isSome_iff {k : κ} {l : List (κ × ν)} : (get k l).isSome ↔ k ∈ l.map (·.1) := by
  rw [hg.eq_find?, Option.isSome_map, List.find?_isSome, List.mem_map]
  simp only [decide_eq_true_eq]

theorem eq_none_iff {k : κ} {l : List (κ × ν)} : get k l = none ↔ k ∉ l.map (·.1) := by
  rw [← hg.isSome_iff, Option.not_isSome_iff_eq_none]

theorem of_mem {k : κ} {v : ν} {l : List (κ × ν)} (hn : (l.map (·.1)).Nodup) (h : (k, v) ∈ l) :
    get k l = some v := by
  rw [hg.eq_find?, find?_key_of_mem (key := Prod.fst) hn h]; rfl

theorem filter (q : κ → Bool) (k : κ) (l : List (κ × ν)) :
    get k (l.filter fun e => q e.1) = if q k then get k l else none := by
  rw [hg.eq_find?, hg.eq_find?, find?_key_filter (key := Prod.fst)]
  split <;> rfl

/-- `d.pop(k')`: the filter that `aerase`, `dErase`, `dictErase` unfold to -/
theorem erase (k k' : κ) (l : List (κ × ν)) :
    get k (l.filter fun e => !decide (e.1 = k')) = if k' = k then none else get k l := by
  rw [hg.filter (fun a => !decide (a = k'))]
  by_cases h : k = k' <;> simp [h, eq_comm]

/-- `d[k'] = v` as `ainsert`, `dSet`, `put` write it: a cons on the erased list -/
theorem insert (k k' : κ) (v : ν) (l : List (κ × ν)) :
    get k ((k', v) :: l.filter fun e => !decide (e.1 = k')) =
      if k' = k then some v else get k l := by
  rw [hg.cons, hg.erase]
  split <;> rfl

end IsLookup

end EV
