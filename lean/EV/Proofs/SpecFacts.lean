import EV.Proofs.IndexFlushUtxo

/-!
Facts about the specification itself: every UTXO's tx number indexes its own transaction in the tx
table (so tx numbers determine txids — the hypothesis `TxnumFun` of the flush lemma), and there is
one touched entry per transaction (the hypothesis `hlen` of the history lemmas).
-/
namespace EV.Index
open EV.Spec

structure SpecOK (S : St) : Prop where
  len : S.touched.length = S.txs.length
  utxoTx : ∀ u ∈ S.utxos, S.txs[u.txnum]? = some (u.txid, u.height)

theorem specOK_empty : SpecOK {} := ⟨rfl, by simp⟩

theorem specOK_applyTx {act height : Nat} {S : St} (h : SpecOK S) (tx : Tx) :
    SpecOK (applyTx act height S tx) := by
  rw [applyTx_eq]
  refine ⟨by simp [h.len], ?_⟩
  intro u hu
  simp only [List.mem_append] at hu
  rcases hu with hu | hu
  · have := h.utxoTx u ((spendAll_sublist _ _).subset hu)
    have hlt : u.txnum < S.txs.length := by
      rcases Nat.lt_or_ge u.txnum S.txs.length with hlt | hge
      · exact hlt
      · rw [List.getElem?_eq_none hge] at this; simp at this
    simp only
    rw [List.getElem?_append_left hlt]; exact this
  · obtain ⟨h1, -, h2, h3⟩ := newUtxos_mem hu
    simp only
    rw [h2, List.getElem?_append_right (Nat.le_refl _)]
    simp [h1, h3]

theorem specOK_foldl {act height : Nat} (txs : List Tx) {S : St} (h : SpecOK S) :
    SpecOK (txs.foldl (applyTx act height) S) :=
  List.foldlRecOn txs _ h fun _ h tx _ => specOK_applyTx h tx

theorem specOK_specFrom (act : Nat) (chain : List Block) {S : St} (height : Nat) (h : SpecOK S) :
    SpecOK (specFrom act S height chain) := by
  induction chain generalizing S height with
  | nil => exact h
  | cons b r ih => exact ih (height + 1) (specOK_foldl b.txs h)

theorem specOK_chain (act : Nat) (chain : List Block) : SpecOK (specChain act chain) :=
  specOK_specFrom act chain 0 specOK_empty

theorem txnumFun_of_specOK {S : St} (h : SpecOK S) : TxnumFun S.utxos := by
  intro a ha b hb hab
  have h1 := h.utxoTx a ha
  have h2 := h.utxoTx b hb
  rw [hab, h2] at h1
  simp at h1
  exact h1.1.symm

end EV.Index
