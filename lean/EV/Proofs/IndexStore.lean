import EV.Proofs.IndexRows

/-!
The concrete store (UTXO cache + `h`/`u` rows + queued deletes, with 4-byte prefix collisions
resolved through the tx-number ↦ hash files) implements the representation interface.
-/
namespace EV.Index
open EV.Spec

/-- `s` represents the UTXO list `U`: witnesses `D` (the UTXOs resident in the rows) and
    `Del ⊆ D` (those queued for deletion).  The last three clauses tie `U` to cache and rows:
    `inU` — every UTXO is in the cache, or resident, not queued for deletion and not cached;
    `cacheU` — the cache holds nothing stale (every entry is a UTXO with exactly that value);
    `dbU` — resident and not queued for deletion implies live and NOT cached, so a cache hit in
    `spend_utxo` is authoritative: no row has to be deleted for it. -/
structure RepSysW (s : Sys) (U D Del : List Utxo) : Prop where
  uNodup : (U.map opOf).Nodup
  dNodup : (D.map opOf).Nodup
  hRows : ∀ e, e ∈ s.p.h ↔ ∃ u ∈ D, e = (hkey u, u.hx)
  uRows : ∀ e, e ∈ s.p.u ↔ ∃ u ∈ D, e = (ukey u, u.value)
  hKeys : (s.p.h.map (·.1)).Nodup
  uKeys : (s.p.u.map (·.1)).Nodup
  cacheKeys : (s.m.cache.map (·.1)).Nodup
  res : ∀ u ∈ D, resolve s u.txnum = some u.txid
  delSub : ∀ u ∈ Del, u ∈ D
  dels : ∀ dk, dk ∈ s.m.deletes ↔ ∃ u ∈ Del, dk = .h (hkey u) ∨ dk = .u (ukey u)
  inU : ∀ u ∈ U, alookup (opOf u) s.m.cache = some (cvOf u) ∨
                  (alookup (opOf u) s.m.cache = none ∧ u ∈ D ∧ u ∉ Del)
  cacheU : ∀ op cv, alookup op s.m.cache = some cv → ∃ u ∈ U, opOf u = op ∧ cvOf u = cv
  dbU : ∀ u ∈ D, u ∉ Del → u ∈ U ∧ alookup (opOf u) s.m.cache = none

def RepSys (s : Sys) (U : List Utxo) : Prop := ∃ D Del, RepSysW s U D Del

theorem repSysW_congr {s s' : Sys} {U D Del : List Utxo} (w : RepSysW s U D Del)
    (hh : s'.p.h = s.p.h) (hu : s'.p.u = s.p.u) (hc : s'.m.cache = s.m.cache)
    (hd : s'.m.deletes = s.m.deletes)
    (hr : ∀ u ∈ D, resolve s' u.txnum = some u.txid) : RepSysW s' U D Del where
  uNodup := w.uNodup
  dNodup := w.dNodup
  hRows := by rw [hh]; exact w.hRows
  uRows := by rw [hu]; exact w.uRows
  hKeys := by rw [hh]; exact w.hKeys
  uKeys := by rw [hu]; exact w.uKeys
  cacheKeys := by rw [hc]; exact w.cacheKeys
  res := hr
  delSub := w.delSub
  dels := by rw [hd]; exact w.dels
  inU := by rw [hc]; exact w.inU
  cacheU := by rw [hc]; exact w.cacheU
  dbU := by rw [hc]; exact w.dbU

theorem RepSysW.rowsOf {s : Sys} {U D Del : List Utxo} (w : RepSysW s U D Del) : RowsOf s D :=
  ⟨w.dNodup, w.hRows, w.uRows, w.uKeys, w.res⟩

theorem repSysW_of_rows {s : Sys} {U : List Utxo} (r : RowsOf s U)
    (hKh : (s.p.h.map (·.1)).Nodup) (hc : s.m.cache = []) (hd : s.m.deletes = []) :
    RepSysW s U U [] where
  uNodup := r.nodup
  dNodup := r.nodup
  hRows := r.hRows
  uRows := r.uRows
  hKeys := hKh
  uKeys := r.uKeys
  cacheKeys := hc ▸ List.nodup_nil
  res := r.res
  delSub := fun _ h => absurd h List.not_mem_nil
  dels := fun _ =>
    ⟨fun h => absurd (hd ▸ h) List.not_mem_nil, fun ⟨_, h, _⟩ => absurd h List.not_mem_nil⟩
  inU := fun _ hu' => Or.inr ⟨hc ▸ rfl, hu', List.not_mem_nil⟩
  cacheU := fun _ _ hl => absurd (hc ▸ hl) nofun
  dbU := fun _ hu' _ => ⟨hu', hc ▸ rfl⟩

theorem spendUtxo_cache {s : Sys} {txid : Hash} {idx : Nat} {cv : CacheVal}
    (h : alookup (txid, idx) s.m.cache = some cv) :
    spendUtxo s txid idx =
      .ok (cv, { s with m := { s.m with cache := aerase (txid, idx) s.m.cache } }) := by
  simp [spendUtxo, h]

theorem repSys_perm {s : Sys} {U U' : List Utxo} (h : RepSys s U) (hp : U.Perm U') : RepSys s U' := by
  obtain ⟨D, Del, w⟩ := h
  refine ⟨D, Del, { w with
    uNodup := (hp.map opOf).nodup_iff.mp w.uNodup
    inU := fun u hu => w.inU u (hp.mem_iff.mpr hu)
    cacheU := ?_
    dbU := ?_ }⟩
  · intro op cv h
    obtain ⟨u, hu, h1, h2⟩ := w.cacheU op cv h
    exact ⟨u, hp.mem_iff.mp hu, h1, h2⟩
  · intro u hu hnd
    obtain ⟨h1, h2⟩ := w.dbU u hu hnd
    exact ⟨hp.mem_iff.mp h1, h2⟩

theorem mem_filter_ne {U : List Utxo} {u x : Utxo} :
    x ∈ U.filter (fun y => !decide (opOf y = opOf u)) ↔ x ∈ U ∧ opOf x ≠ opOf u := by
  simp [List.mem_filter]

theorem repSys_spend {s : Sys} {U : List Utxo} {u : Utxo} (h : RepSys s U) (hu : u ∈ U) :
    ∃ s', sysOps.spend s u.txid u.idx = .ok (cvOf u, s') ∧
          RepSys s' (U.filter (fun x => !decide (opOf x = opOf u))) := by
  obtain ⟨D, Del, w⟩ := h
  have hnodup' : ((U.filter (fun x => !decide (opOf x = opOf u))).map opOf).Nodup :=
    List.Nodup.sublist (List.Sublist.map _ List.filter_sublist) w.uNodup
  rcases w.inU u hu with hc | ⟨hc, hD, hnDel⟩
  · -- cache hit
    refine ⟨_, spendUtxo_cache (show alookup (u.txid, u.idx) s.m.cache = some (cvOf u) from hc), D, Del, ?_⟩
    refine { w with uNodup := hnodup', cacheKeys := nodup_keys_aerase _ w.cacheKeys,
                    inU := ?_, cacheU := ?_, dbU := ?_ }
    · intro x hx
      obtain ⟨hxU, hne⟩ := mem_filter_ne.mp hx
      have : alookup (opOf x) (aerase (u.txid, u.idx) s.m.cache) = alookup (opOf x) s.m.cache := by
        rw [alookup_aerase, if_neg (fun h => hne h.symm)]
      simp only [this]
      exact w.inU x hxU
    · intro op cv hl
      simp only [alookup_aerase] at hl
      by_cases hop : (u.txid, u.idx) = op
      · simp [hop] at hl
      · simp only [hop, if_false] at hl
        obtain ⟨x, hx, h1, h2⟩ := w.cacheU op cv hl
        exact ⟨x, mem_filter_ne.mpr ⟨hx, by rw [h1]; exact fun h => hop h.symm⟩, h1, h2⟩
    · intro x hx hnd
      obtain ⟨h1, h2⟩ := w.dbU x hx hnd
      have hne : opOf x ≠ opOf u := by
        intro heq
        have := eq_of_nodup_map w.uNodup h1 hu heq
        subst this
        rw [hc] at h2; simp at h2
      refine ⟨mem_filter_ne.mpr ⟨h1, hne⟩, ?_⟩
      simp only [alookup_aerase]
      rw [if_neg (fun h => hne h.symm)]
      exact h2
  · -- from the rows
    refine ⟨_, spendUtxo_rows w.rowsOf hc hD, D, Del ++ [u], ?_⟩
    refine { w with uNodup := hnodup', delSub := ?_, dels := ?_, inU := ?_, cacheU := ?_, dbU := ?_ }
    · intro x hx
      rcases List.mem_append.mp hx with hx | hx
      · exact w.delSub x hx
      · simp at hx; subst hx; exact hD
    · intro dk
      simp only [List.mem_append, List.mem_cons, List.not_mem_nil, or_false, w.dels dk]
      constructor
      · rintro (⟨x, hx, h⟩ | h | h)
        · exact ⟨x, Or.inl hx, h⟩
        · exact ⟨u, Or.inr rfl, Or.inl h⟩
        · exact ⟨u, Or.inr rfl, Or.inr h⟩
      · rintro ⟨x, hx | hx, h⟩
        · exact Or.inl ⟨x, hx, h⟩
        · subst hx; rcases h with h | h
          · exact Or.inr (Or.inl h)
          · exact Or.inr (Or.inr h)
    · intro x hx
      obtain ⟨hxU, hne⟩ := mem_filter_ne.mp hx
      rcases w.inU x hxU with h | ⟨h1, h2, h3⟩
      · exact Or.inl h
      · refine Or.inr ⟨h1, h2, ?_⟩
        intro hmem
        rcases List.mem_append.mp hmem with hm | hm
        · exact h3 hm
        · simp at hm; subst hm; exact hne rfl
    · intro op cv hl
      have hl' : alookup op s.m.cache = some cv := hl
      obtain ⟨x, hx, h1, h2⟩ := w.cacheU op cv hl'
      refine ⟨x, mem_filter_ne.mpr ⟨hx, ?_⟩, h1, h2⟩
      intro heq
      have hxu := eq_of_nodup_map w.uNodup hx hu heq
      rw [← h1, hxu, hc] at hl'
      simp at hl'
    · intro x hx hnd
      have hnd1 : x ∉ Del := fun h => hnd (List.mem_append_left _ h)
      have hxu : x ≠ u := fun h => hnd (List.mem_append_right _ (by simp [h]))
      obtain ⟨h1, h2⟩ := w.dbU x hx hnd1
      refine ⟨mem_filter_ne.mpr ⟨h1, ?_⟩, h2⟩
      intro heq
      exact hxu (eq_of_nodup_map w.uNodup h1 hu heq)

theorem repSys_add {s : Sys} {U : List Utxo} (u : Utxo) (h : RepSys s U)
    (hf : ∀ x ∈ U, opOf x ≠ opOf u) :
    RepSys (sysOps.add s u.txid u.idx (cvOf u)) (U ++ [u]) := by
  obtain ⟨D, Del, w⟩ := h
  refine ⟨D, Del, ?_⟩
  have hadd : (sysOps.add s u.txid u.idx (cvOf u)) =
      { s with m := { s.m with cache := ainsert (opOf u) (cvOf u) s.m.cache } } := rfl
  rw [hadd]
  refine { w with uNodup := nodup_map_snoc w.uNodup hf,
                  cacheKeys := nodup_keys_ainsert _ _ w.cacheKeys,
                  inU := ?_, cacheU := ?_, dbU := ?_ }
  · intro x hx
    simp only [alookup_ainsert]
    rcases List.mem_append.mp hx with hx | hx
    · rw [if_neg (fun h => hf x hx h.symm)]
      exact w.inU x hx
    · simp at hx; subst hx; simp
  · intro op cv hl
    simp only [alookup_ainsert] at hl
    by_cases hop : opOf u = op
    · simp only [hop, if_true, Option.some.injEq] at hl
      exact ⟨u, by simp, hop, hl⟩
    · simp only [hop, if_false] at hl
      obtain ⟨x, hx, h1, h2⟩ := w.cacheU op cv hl
      exact ⟨x, List.mem_append_left _ hx, h1, h2⟩
  · intro x hx hnd
    obtain ⟨h1, h2⟩ := w.dbU x hx hnd
    refine ⟨List.mem_append_left _ h1, ?_⟩
    simp only [alookup_ainsert]
    rw [if_neg (fun h => hf x h1 h.symm)]
    exact h2

/-- **Storage layer.**  The concrete store implements the representation interface, so every
theorem of the logic layer holds for the real cache/rows/deletes layout. -/
theorem sysIface : RepIface sysOps RepSys where
  nodup := fun ⟨_, _, w⟩ => w.uNodup
  perm := repSys_perm
  spend := repSys_spend
  add := fun u h hf => repSys_add u h hf

end EV.Index
