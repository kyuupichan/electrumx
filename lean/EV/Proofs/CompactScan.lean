import EV.Proofs.CompactHashX

/-!
`_compact_prefix` and the prefix loop of `_compact_history` as a sequence of `_compact_hashX`
calls: which calls are made (`callsP`, `callsRange`), and - for a table without duplicate keys -
that every call gets exactly the rows of its hashX in flush-id order, no hashX is called twice and
no hashX of a scanned prefix is left out.
-/
namespace EV.Compact
open EV.Index

abbrev Call := HashX × List Row

def histRows : List ScanItem → List Row
  | [] => []
  | .row r :: t => r :: histRows t
  | .other :: t => histRows t

/-- the `_compact_hashX` calls the loop of `_compact_prefix` makes -/
def callsP : List ScanItem → Option HashX → List Row → List Call
  | [], none, _ => []
  | [], some hx, pend => [(hx, pend)]
  | .other :: rest, prior, pend => callsP rest prior pend
  | .row r :: rest, none, pend => callsP rest (some r.1.1) (pend ++ [r])
  | .row r :: rest, some hx, pend =>
    if r.1.1 ≠ hx then (hx, pend) :: callsP rest (some r.1.1) [r]
    else callsP rest (some r.1.1) (pend ++ [r])

def foldCalls (maxRow : Nat) : List Call → CAcc → Except CErr CAcc
  | [], acc => .ok acc
  | c :: rest, acc =>
    match compactHashX maxRow c.1 c.2 acc with
    | .error e => .error e
    | .ok (acc', _) => foldCalls maxRow rest acc'

theorem foldCalls_append (maxRow : Nat) (a b : List Call) (acc : CAcc) :
    foldCalls maxRow (a ++ b) acc =
      match foldCalls maxRow a acc with
      | .error e => .error e
      | .ok acc' => foldCalls maxRow b acc' := by
  induction a generalizing acc with
  | nil => rfl
  | cons c cs ih =>
    simp only [List.cons_append, foldCalls]
    cases compactHashX maxRow c.1 c.2 acc with
    | error e => rfl
    | ok r => exact ih r.1

theorem prefixLoop_acc (maxRow : Nat) (items : List ScanItem) (prior : Option HashX) (pend : List Row)
    (acc : CAcc) (ws : Nat) :
    (prefixLoop maxRow items prior pend acc ws).map (·.1) = foldCalls maxRow (callsP items prior pend) acc := by
  induction items generalizing prior pend acc ws with
  | nil =>
    cases prior with
    | none => rfl
    | some hx =>
      simp only [prefixLoop, callsP, foldCalls]
      cases compactHashX maxRow hx pend acc <;> rfl
  | cons it rest ih =>
    cases it with
    | other => exact ih _ _ _ _
    | row r =>
      cases prior with
      | none => exact ih _ _ _ _
      | some hx =>
        simp only [prefixLoop, callsP]
        split
        · simp only [foldCalls]
          cases compactHashX maxRow hx pend acc with
          | error e => rfl
          | ok r' => exact ih _ _ _ _
        · exact ih _ _ _ _

/-- the calls made for the prefixes `c, c+1, …, c+k-1` -/
def callsRange (p : Store) : Nat → Nat → List Call
  | 0, _ => []
  | k + 1, c => callsP (scanPrefix p c) none [] ++ callsRange p k (c + 1)

theorem histLoop_calls (maxRow limit : Nat) (p : Store) (fuel : Nat) (cursor : Int) (acc : CAcc) (ws : Nat)
    (cursor' : Int) (acc' : CAcc) (ws' : Nat)
    (h : histLoop maxRow limit p fuel cursor acc ws = .ok (cursor', acc', ws')) :
    ∃ k : Nat, cursor' = cursor + k ∧ k ≤ fuel ∧ (0 < k → 0 ≤ cursor) ∧
      (0 < fuel → ws < limit → cursor < 65536 → 0 < k) ∧
      foldCalls maxRow (callsRange p k cursor.toNat) acc = .ok acc' := by
  induction fuel generalizing cursor acc ws with
  | zero =>
    rw [histLoop] at h
    cases h
    exact ⟨0, by omega, Nat.le_refl _, by omega, by omega, rfl⟩
  | succ f ih =>
    simp only [histLoop] at h
    split at h
    · split at h
      · cases h
      · have hp := prefixLoop_acc maxRow (scanPrefix p cursor.toNat) none [] acc 0
        unfold compactPrefix at h
        cases hr : prefixLoop maxRow (scanPrefix p cursor.toNat) none [] acc 0 with
        | error e => rw [hr] at h; cases h
        | ok r =>
          rw [hr] at h hp
          obtain ⟨k, h1, h2, _, _, h4⟩ := ih _ _ _ h
          refine ⟨k + 1, by omega, by omega, by omega, by omega, ?_⟩
          rw [callsRange, foldCalls_append, ← hp]
          rwa [show (cursor + 1).toNat = cursor.toNat + 1 by omega] at h4
    · next hcond =>
      cases h
      exact ⟨0, by omega, Nat.zero_le _, by omega, fun _ h1 h2 => absurd ⟨h1, h2⟩ hcond, rfl⟩

/-- the calls cut the scanned rows into runs of one hashX each; on a scan sorted by hashX the runs are
    maximal, which is why the hashXs of the calls increase strictly -/
theorem callsP_spec (items : List ScanItem) (prior : Option HashX) (pend : List Row)
    (hs : (pend ++ histRows items).Pairwise (fun a b => a.1.1 ≤ b.1.1))
    (hnone : prior = none → pend = [])
    (hsome : ∀ h, prior = some h → pend ≠ [] ∧ ∀ r ∈ pend, r.1.1 = h) :
    (callsP items prior pend).flatMap (·.2) = pend ++ histRows items ∧
    (∀ c ∈ callsP items prior pend, c.2 ≠ [] ∧ ∀ r ∈ c.2, r.1.1 = c.1) ∧
    ((callsP items prior pend).map (·.1)).Pairwise (· < ·) := by
  induction items generalizing prior pend with
  | nil =>
    cases prior with
    | none => rw [hnone rfl]; exact ⟨rfl, fun _ h => (nomatch h), List.Pairwise.nil⟩
    | some h => exact ⟨rfl, List.forall_mem_singleton.mpr (hsome h rfl), List.pairwise_singleton _ _⟩
  | cons it rest ih =>
    cases it with
    | other => exact ih prior pend hs hnone hsome
    | row r =>
      have happ : pend ++ histRows (ScanItem.row r :: rest) = (pend ++ [r]) ++ histRows rest := by
        simp [histRows]
      have hjoin : (∀ x ∈ pend, x.1.1 = r.1.1) →
          (callsP rest (some r.1.1) (pend ++ [r])).flatMap (·.2) = pend ++ histRows (ScanItem.row r :: rest) ∧
          (∀ c ∈ callsP rest (some r.1.1) (pend ++ [r]), c.2 ≠ [] ∧ ∀ r ∈ c.2, r.1.1 = c.1) ∧
          ((callsP rest (some r.1.1) (pend ++ [r])).map (·.1)).Pairwise (· < ·) := by
        intro hall
        rw [happ] at hs ⊢
        refine ih (some r.1.1) (pend ++ [r]) hs nofun fun h hh => ?_
        cases hh
        exact ⟨by simp, fun x hx => (List.mem_append.mp hx).elim (hall x) fun hx => by rw [List.mem_singleton.mp hx]⟩
      cases prior with
      | none => exact hjoin (by rw [hnone rfl]; exact fun _ h => nomatch h)
      | some h =>
        obtain ⟨hne, hall⟩ := hsome h rfl
        simp only [callsP]
        split
        · next hrh =>
          -- `pend` is complete: every later row, hence every later call, has a larger hashX
          rw [happ, List.append_assoc] at hs
          obtain ⟨_, hR, hcross⟩ := List.pairwise_append.mp hs
          obtain ⟨i1, i2, i3⟩ := ih (some r.1.1) [r] hR nofun (fun h' hh => by cases hh; simp)
          obtain ⟨a0, ha0⟩ := List.exists_mem_of_ne_nil pend hne
          have hgt : ∀ b ∈ [r] ++ histRows rest, h < b.1.1 := by
            intro b hb
            have h1 := hcross a0 ha0 r (by simp)
            have h2 : r.1.1 ≤ b.1.1 := by
              rcases List.mem_cons.mp hb with rfl | hb
              · exact Nat.le_refl _
              · exact (List.pairwise_cons.mp hR).1 b hb
            rw [hall a0 ha0] at h1
            exact Nat.lt_of_lt_of_le (Nat.lt_of_le_of_ne h1 (Ne.symm hrh)) h2
          refine ⟨by rw [List.flatMap_cons, i1, happ, List.append_assoc],
            List.forall_mem_cons.mpr ⟨⟨hne, hall⟩, i2⟩, ?_⟩
          rw [List.map_cons, List.pairwise_cons]
          refine ⟨fun hx' hm => ?_, i3⟩
          obtain ⟨c, hc, rfl⟩ := List.mem_map.mp hm
          obtain ⟨b, hb⟩ := List.exists_mem_of_ne_nil _ (i2 c hc).1
          rw [← (i2 c hc).2 b hb]
          exact hgt b (i1 ▸ List.mem_flatMap.mpr ⟨c, hc, hb⟩)
        · next hrh => exact hjoin fun x hx => (hall x hx).trans (Decidable.not_not.mp hrh).symm

def sortedScan (hist : List Row) (c : Nat) : List Row :=
  (hist.filter (fun e => prefixOf e.1.1 == c)).mergeSort keyLE

theorem histRows_scanPrefix (p : Store) (c : Nat) : histRows (scanPrefix p c) = sortedScan p.hist c := by
  have h1 : ∀ l : List Row, ∀ t : List ScanItem, histRows (l.map ScanItem.row ++ t) = l ++ histRows t := by
    intro l t
    induction l with
    | nil => rfl
    | cons a r ih => simp [histRows, ih]
  unfold scanPrefix sortedScan
  rw [h1]
  split <;> simp [histRows]

theorem keyLE_iff {a b : Row} :
    keyLE a b = true ↔ a.1.1 < b.1.1 ∨ (a.1.1 = b.1.1 ∧ a.1.2 ≤ b.1.2) := by
  simp only [keyLE, Bool.or_eq_true, Bool.and_eq_true, decide_eq_true_eq, beq_iff_eq]

theorem keyLE_trans (a b c : Row) : keyLE a b = true → keyLE b c = true → keyLE a c = true := by
  simp only [keyLE_iff]; homega

theorem keyLE_total (a b : Row) : (keyLE a b || keyLE b a) = true := by
  simp only [Bool.or_eq_true, keyLE_iff]; homega

theorem sortedScan_pairwise (hist : List Row) (c : Nat) :
    (sortedScan hist c).Pairwise (fun a b => keyLE a b = true) :=
  List.pairwise_mergeSort keyLE_trans keyLE_total _

theorem mem_sortedScan {hist : List Row} {c : Nat} {e : Row} :
    e ∈ sortedScan hist c ↔ e ∈ hist ∧ prefixOf e.1.1 = c := by
  simp [sortedScan, List.mem_filter]

theorem sortedScan_ids_lt {hist : List Row} (hn : NodupKeys hist) {c : Nat} {L : List Row} {hx : HashX}
    (hsub : L.Sublist (sortedScan hist c)) (hhom : ∀ r ∈ L, r.1.1 = hx) :
    L.Pairwise (fun a b => a.1.2 < b.1.2) := by
  have h2 : (sortedScan hist c).Pairwise (· ≠ ·) := nodup_of_nodup_map _ (nodupKeys_sort_filter hn _ _)
  refine (((sortedScan_pairwise hist c).and h2).sublist hsub).imp_of_mem ?_
  intro a b ha hb ⟨hle, hne⟩
  have hab : a.1.1 = b.1.1 := (hhom a ha).trans (hhom b hb).symm
  refine Nat.lt_of_le_of_ne (by have := keyLE_iff.mp hle; homega) fun hid => hne ?_
  exact eq_of_nodup_map hn (mem_sortedScan.mp (hsub.subset ha)).1 (mem_sortedScan.mp (hsub.subset hb)).1
    (Prod.ext hab hid)

/-- what is known about the `_compact_hashX` calls made for the prefixes `lo … hi-1` -/
structure CallsOK (hist : List Row) (calls : List Call) (lo hi : Nat) : Prop where
  rows : ∀ c ∈ calls, c.2 = rowsOf hist c.1 ∧ c.2 ≠ [] ∧ lo ≤ prefixOf c.1 ∧ prefixOf c.1 < hi
  nodup : (calls.map (·.1)).Nodup
  complete : ∀ e ∈ hist, lo ≤ prefixOf e.1.1 → prefixOf e.1.1 < hi → e.1.1 ∈ calls.map (·.1)

theorem CallsOK.rows_hx {hist : List Row} {calls : List Call} {lo hi : Nat} (hok : CallsOK hist calls lo hi) :
    ∀ c ∈ calls, ∀ e ∈ c.2, e.1.1 = c.1 := by
  intro c hc e he
  rw [(hok.rows c hc).1] at he
  exact (mem_rowsOf.mp he).2

theorem callsP_ok (p : Store) (hn : NodupKeys p.hist) (c : Nat) :
    CallsOK p.hist (callsP (scanPrefix p c) none []) c (c + 1) := by
  have hs : ([] ++ histRows (scanPrefix p c)).Pairwise (fun (a b : Row) => a.1.1 ≤ b.1.1) := by
    rw [List.nil_append, histRows_scanPrefix]
    exact (sortedScan_pairwise p.hist c).imp fun h => by have := keyLE_iff.mp h; homega
  obtain ⟨h1, h2, h3⟩ := callsP_spec (scanPrefix p c) none [] hs (fun _ => rfl) nofun
  rw [List.nil_append, histRows_scanPrefix] at h1
  have hsub : ∀ cl ∈ callsP (scanPrefix p c) none [], cl.2.Sublist (sortedScan p.hist c) :=
    fun cl hcl => h1 ▸ List.sublist_flatten_of_mem (List.mem_map_of_mem hcl)
  have hnd : ((callsP (scanPrefix p c) none []).map (·.1)).Nodup := h3.imp Nat.ne_of_lt
  have hfind : ∀ e ∈ p.hist, prefixOf e.1.1 = c →
      ∃ cl ∈ callsP (scanPrefix p c) none [], e ∈ cl.2 ∧ cl.1 = e.1.1 := by
    intro e he hpre
    obtain ⟨cl, hcl, he'⟩ := List.mem_flatMap.mp (h1 ▸ mem_sortedScan.mpr ⟨he, hpre⟩)
    exact ⟨cl, hcl, he', ((h2 cl hcl).2 e he').symm⟩
  refine ⟨fun cl hcl => ?_, hnd, fun e he hlo hhi => ?_⟩
  · obtain ⟨hne, hhom⟩ := h2 cl hcl
    obtain ⟨b, hb⟩ := List.exists_mem_of_ne_nil _ hne
    have hpre : prefixOf cl.1 = c := by
      rw [← hhom b hb]; exact (mem_sortedScan.mp ((hsub cl hcl).subset hb)).2
    -- a one-hashX sublist of the scan is id-sorted, and no other call has rows of this hashX (`hnd`)
    refine ⟨(rowsOf_char hn cl.1 cl.2 (sortedScan_ids_lt hn (hsub cl hcl) hhom) fun e => ⟨fun he => ?_, ?_⟩).symm,
      hne, by omega, by omega⟩
    · exact ⟨(mem_sortedScan.mp ((hsub cl hcl).subset he)).1, hhom e he⟩
    · rintro ⟨he, hex⟩
      obtain ⟨cl', hcl', he', hx'⟩ := hfind e he (by rw [hex, hpre])
      rwa [eq_of_nodup_map hnd hcl' hcl (hx'.trans hex)] at he'
  · obtain ⟨cl, hcl, _, hx⟩ := hfind e he (by omega)
    exact List.mem_map.mpr ⟨cl, hcl, hx⟩

theorem callsOK_append {hist : List Row} {a b : List Call} {lo mid hi : Nat}
    (ha : CallsOK hist a lo mid) (hb : CallsOK hist b mid hi) (h1 : lo ≤ mid) (h2 : mid ≤ hi) :
    CallsOK hist (a ++ b) lo hi := by
  refine ⟨?_, ?_, ?_⟩
  · intro c hc
    rcases List.mem_append.mp hc with hc | hc
    · obtain ⟨j1, j2, j3, j4⟩ := ha.rows c hc; exact ⟨j1, j2, j3, by omega⟩
    · obtain ⟨j1, j2, j3, j4⟩ := hb.rows c hc; exact ⟨j1, j2, by omega, j4⟩
  · rw [List.map_append, List.nodup_append]
    refine ⟨ha.nodup, hb.nodup, ?_⟩
    intro x hx y hy hxy
    obtain ⟨ca, hca, rfl⟩ := List.mem_map.mp hx
    obtain ⟨cb, hcb, rfl⟩ := List.mem_map.mp hy
    have := (ha.rows ca hca).2.2.2
    have := (hb.rows cb hcb).2.2.1
    rw [hxy] at *
    omega
  · intro e he hlo hhi
    rw [List.map_append, List.mem_append]
    by_cases hm : prefixOf e.1.1 < mid
    · exact Or.inl (ha.complete e he hlo hm)
    · exact Or.inr (hb.complete e he (by omega) hhi)

theorem callsRange_ok (p : Store) (hn : NodupKeys p.hist) (k c : Nat) :
    CallsOK p.hist (callsRange p k c) c (c + k) := by
  induction k generalizing c with
  | zero =>
    refine ⟨by simp [callsRange], by simp [callsRange], ?_⟩
    intro e _ h1 h2; omega
  | succ k ih =>
    simp only [callsRange]
    have := ih (c + 1)
    rw [show c + 1 + k = c + (k + 1) by omega] at this
    exact callsOK_append (callsP_ok p hn c) this (by omega) (by omega)

end EV.Compact
