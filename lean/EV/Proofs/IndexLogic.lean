import EV.Proofs.AList
import EV.Spec.Chain

/-!
The transaction loops of `advance_block`, run over any UTXO store that satisfies `RepIface`, compute
exactly the specification's fold (`Spec.applyTx`), for every valid block.  On the specification's side:
the fold of one transaction in explicit form (`spendAll`, `applyTx_eq`), and that valid transactions keep
outpoints distinct (`applyTx_nodup`), which is what makes every output added, forward or on the way back,
a new one (`fresh_of_nodup`).
-/
namespace EV.Index
open EV.Spec

def cvOf (u : Utxo) : CacheVal := ⟨u.hx, u.txnum, u.value⟩
def opOf (u : Utxo) : Hash × Nat := (u.txid, u.idx)

theorem names_eq (i : TxIn) (u : Utxo) : names i u = decide (opOf u = (i.prev, i.idx)) := by
  rw [Bool.eq_iff_iff]
  simp only [names, Bool.and_eq_true, beq_iff_eq, decide_eq_true_eq, opOf, Prod.mk.injEq]
  constructor
  · rintro ⟨h1, h2⟩; exact ⟨h1.symm, h2.symm⟩
  · rintro ⟨h1, h2⟩; exact ⟨h1.symm, h2.symm⟩

theorem fresh_of_nodup {A B : List Utxo} {u : Utxo} (hn : ((A ++ u :: B).map opOf).Nodup) :
    ∀ x ∈ A ++ B, opOf x ≠ opOf u := by
  rw [List.map_append, List.map_cons, List.nodup_append, List.nodup_cons] at hn
  intro x hx heq
  rcases List.mem_append.mp hx with hx | hx
  · exact hn.2.2 _ (List.mem_map_of_mem hx) _ List.mem_cons_self heq
  · exact hn.2.1.1 (heq ▸ List.mem_map_of_mem hx)

/-! The loops are proved correct for *any* UTXO store `ops : UOps σ` with a relation `RepS s U`
("store `s` represents the UTXO list `U`") that satisfies four facts; `sysIface` establishes them for
the concrete system (cache + rows + queued deletes, with prefix collisions), `mapIface` for a plain map. -/

structure RepIface {σ : Type} (ops : UOps σ) (RepS : σ → List Utxo → Prop) : Prop where
  nodup : ∀ {s U}, RepS s U → (U.map opOf).Nodup
  perm : ∀ {s U U'}, RepS s U → U.Perm U' → RepS s U'
  spend : ∀ {s U u}, RepS s U → u ∈ U →
    ∃ s', ops.spend s u.txid u.idx = .ok (cvOf u, s') ∧
          RepS s' (U.filter (fun x => !decide (opOf x = opOf u)))
  add : ∀ {s U} (u : Utxo), RepS s U → (∀ x ∈ U, opOf x ≠ opOf u) →
    RepS (ops.add s u.txid u.idx (cvOf u)) (U ++ [u])

/-- remaining UTXOs and the spent ones, in input order -/
def spendAll : List Utxo → List TxIn → List Utxo × List Utxo
  | U, [] => (U, [])
  | U, i :: r =>
    if i.isGen then spendAll U r
    else ((spendAll (U.filter (fun u => !names i u)) r).1,
          U.filter (names i) ++ (spendAll (U.filter (fun u => !names i u)) r).2)

theorem foldl_spendInput (ins : List TxIn) (U : List Utxo) (acc : List HashX) :
    ins.foldl spendInput (U, acc) = ((spendAll U ins).1, acc ++ (spendAll U ins).2.map (·.hx)) := by
  induction ins generalizing U acc with
  | nil => simp [spendAll]
  | cons i r ih =>
    simp only [List.foldl_cons, spendInput, spendAll]
    by_cases hg : i.isGen
    · simp [hg, ih]
    · simp [hg, ih, List.append_assoc]

def InputsOK : List Utxo → List TxIn → Prop
  | _, [] => True
  | U, i :: r =>
    if i.isGen then InputsOK U r
    else (∃ u ∈ U, opOf u = (i.prev, i.idx)) ∧ InputsOK (U.filter (fun u => !names i u)) r

theorem spendAll_cons_of_ok {U : List Utxo} (hn : (U.map opOf).Nodup) {i : TxIn} {r : List TxIn}
    (hg : ¬ i.isGen) (hok : InputsOK U (i :: r)) :
    ∃ u ∈ U, i.prev = u.txid ∧ i.idx = u.idx ∧
      InputsOK (U.filter fun x => !decide (opOf x = opOf u)) r ∧
      spendAll U (i :: r) = ((spendAll (U.filter fun x => !decide (opOf x = opOf u)) r).1,
        u :: (spendAll (U.filter fun x => !decide (opOf x = opOf u)) r).2) := by
  rw [InputsOK, if_neg hg] at hok
  obtain ⟨⟨u, hu, hop⟩, hrest⟩ := hok
  have hnames : names i = fun x => decide (opOf x = opOf u) := funext fun x => by rw [names_eq, hop]
  simp only [hnames] at hrest
  refine ⟨u, hu, (congrArg Prod.fst hop).symm, (congrArg Prod.snd hop).symm, hrest, ?_⟩
  simp only [spendAll, if_neg hg, hnames, filter_key_of_mem hn hu, List.singleton_append]

theorem spendInputs_spec {σ : Type} {ops : UOps σ} {RepS : σ → List Utxo → Prop}
    (I : RepIface ops RepS) (ins : List TxIn) (U : List Utxo) (a : Acc σ) (hxs : List HashX)
    (hrep : RepS a.s U) (hok : InputsOK U ins) :
    ∃ s', RepS s' (spendAll U ins).1 ∧
      spendInputs ops ins a hxs =
        .ok ({ a with s := s', undo := a.undo ++ (spendAll U ins).2.map cvOf,
                      delta := a.delta - ((spendAll U ins).2.length : Int) },
             hxs ++ (spendAll U ins).2.map (·.hx)) := by
  induction ins generalizing U a hxs with
  | nil => exact ⟨a.s, hrep, by simp [spendInputs, spendAll]⟩
  | cons i r ih =>
    by_cases hg : i.isGen
    · simp only [InputsOK, spendAll, spendInputs, hg, if_true] at hok ⊢
      exact ih U a hxs hrep hok
    · obtain ⟨u, hu, hp1, hp2, hrest, hall⟩ := spendAll_cons_of_ok (I.nodup hrep) hg hok
      obtain ⟨s1, hsp, hrep1⟩ := I.spend hrep hu
      simp only [spendInputs, hg, hp1, hp2, hsp, hall, Bool.false_eq_true, if_false]
      -- the accumulator of the recursive call is read off the goal
      refine (ih _ _ _ hrep1 hrest).imp fun s' h => ⟨h.1, h.2.trans ?_⟩
      simp only [List.map_cons, List.length_cons, List.append_assoc, List.singleton_append]
      congr 3
      omega

theorem addOutputs_spec {σ : Type} {ops : UOps σ} {RepS : σ → List Utxo → Prop}
    (I : RepIface ops RepS) (cfg : Cfg) (height : Nat) (txid : Hash) (n : Nat) (outs : List TxOut)
    (idx : Nat) (U : List Utxo) (a : Acc σ) (hxs : List HashX) (hrep : RepS a.s U)
    (hn : ((U ++ newUtxos cfg.act height n txid outs idx).map opOf).Nodup) :
    ∃ s', RepS s' (U ++ newUtxos cfg.act height n txid outs idx) ∧
      addOutputs ops cfg height txid n outs idx a hxs =
        ({ a with s := s',
                  delta := a.delta + ((newUtxos cfg.act height n txid outs idx).length : Int) },
         hxs ++ (newUtxos cfg.act height n txid outs idx).map (·.hx)) := by
  induction outs generalizing idx U a hxs with
  | nil => exact ⟨a.s, by simpa [newUtxos] using hrep, by simp [addOutputs, newUtxos]⟩
  | cons o r ih =>
    by_cases hun : unspendable cfg.act height o.kind
    · simp only [newUtxos, addOutputs, hun, if_true] at hn ⊢
      exact ih (idx + 1) U a hxs hrep hn
    · simp only [newUtxos, hun, Bool.false_eq_true, if_false] at hn
      have hrep' : RepS (ops.add a.s txid idx ⟨o.hx, n, o.value⟩)
          (U ++ [⟨txid, idx, n, height, o.value, o.hx⟩]) :=
        I.add ⟨txid, idx, n, height, o.value, o.hx⟩ hrep fun x hx =>
          fresh_of_nodup hn x (List.mem_append_left _ hx)
      simp only [addOutputs, newUtxos, hun, Bool.false_eq_true, if_false]
      refine (ih (idx + 1) _ _ _ hrep' (by simpa using hn)).imp fun s' h =>
        ⟨by simpa [List.append_assoc] using h.1, h.2.trans ?_⟩
      simp only [List.map_cons, List.length_cons, List.append_assoc, List.singleton_append]
      congr 2
      omega

/-- validity of a list of txs on top of a spec state: inputs exist when consumed, txids are new -/
def ValidTxs (act height : Nat) : St → List Tx → Prop
  | _, [] => True
  | S, tx :: r =>
    InputsOK S.utxos tx.ins ∧ (∀ u ∈ S.utxos, u.txid ≠ tx.id) ∧
    ValidTxs act height (applyTx act height S tx) r

def blockUndo (act height : Nat) : St → List Tx → List CacheVal
  | _, [] => []
  | S, tx :: r =>
    (spendAll S.utxos tx.ins).2.map cvOf ++ blockUndo act height (applyTx act height S tx) r

def blockDelta (act height : Nat) : St → List Tx → Int
  | _, [] => 0
  | S, tx :: r =>
    ((newUtxos act height S.txs.length tx.id tx.outs 0).length : Int)
      - ((spendAll S.utxos tx.ins).2.length : Int) + blockDelta act height (applyTx act height S tx) r

theorem applyTx_eq (act height : Nat) (S : St) (tx : Tx) :
    applyTx act height S tx =
      { utxos := (spendAll S.utxos tx.ins).1 ++ newUtxos act height S.txs.length tx.id tx.outs 0,
        touched := S.touched ++ [(spendAll S.utxos tx.ins).2.map (·.hx) ++
                     (newUtxos act height S.txs.length tx.id tx.outs 0).map (·.hx)],
        txs := S.txs ++ [(tx.id, height)] } := by
  simp [applyTx, foldl_spendInput]

theorem spendAll_sublist (U : List Utxo) (ins : List TxIn) : (spendAll U ins).1.Sublist U := by
  induction ins generalizing U with
  | nil => simp [spendAll]
  | cons i r ih =>
    simp only [spendAll]
    by_cases hg : i.isGen
    · simp only [hg, if_true]; exact ih U
    · simp only [hg, Bool.false_eq_true, if_false]
      exact (ih _).trans List.filter_sublist

theorem newUtxos_out {act height n : Nat} {txid : Hash} {outs : List TxOut} {idx : Nat} {x : Utxo}
    (hx : x ∈ newUtxos act height n txid outs idx) :
    ∃ i o, outs[i]? = some o ∧ unspendable act height o.kind = false ∧
      x = ⟨txid, idx + i, n, height, o.value, o.hx⟩ := by
  induction outs generalizing idx with
  | nil => exact absurd hx List.not_mem_nil
  | cons o r ih =>
    have tail : x ∈ newUtxos act height n txid r (idx + 1) →
        ∃ i o', (o :: r)[i]? = some o' ∧ unspendable act height o'.kind = false ∧
          x = ⟨txid, idx + i, n, height, o'.value, o'.hx⟩ := by
      intro h
      obtain ⟨i, o', h1, h2, h3⟩ := ih h
      exact ⟨i + 1, o', h1, h2, by rw [h3, Nat.add_assoc, Nat.add_comm 1 i]⟩
    rw [newUtxos] at hx
    split at hx
    · exact tail hx
    · next hun =>
      rcases List.mem_cons.mp hx with rfl | hx
      · exact ⟨0, o, rfl, Bool.eq_false_iff.mpr hun, rfl⟩
      · exact tail hx

theorem newUtxos_mem {act height n : Nat} {txid : Hash} {outs : List TxOut} {idx : Nat} {x : Utxo}
    (hx : x ∈ newUtxos act height n txid outs idx) :
    x.txid = txid ∧ idx ≤ x.idx ∧ x.txnum = n ∧ x.height = height := by
  obtain ⟨i, o, -, -, rfl⟩ := newUtxos_out hx
  exact ⟨rfl, Nat.le_add_right _ _, rfl, rfl⟩

theorem newUtxos_nodup (act height n : Nat) (txid : Hash) (outs : List TxOut) (idx : Nat) :
    ((newUtxos act height n txid outs idx).map opOf).Nodup := by
  induction outs generalizing idx with
  | nil => simp [newUtxos]
  | cons o r ih =>
    simp only [newUtxos]
    by_cases hun : unspendable act height o.kind
    · simp only [hun, if_true]; exact ih (idx + 1)
    · simp only [hun, Bool.false_eq_true, if_false, List.map_cons, List.nodup_cons]
      refine ⟨?_, ih (idx + 1)⟩
      intro hmem
      obtain ⟨x, hx, heq⟩ := List.mem_map.mp hmem
      have := newUtxos_mem hx
      simp only [opOf, Prod.mk.injEq] at heq
      omega

theorem applyTx_nodup {act height : Nat} {S : St} {tx : Tx} (hS : (S.utxos.map opOf).Nodup)
    (hfresh : ∀ u ∈ S.utxos, u.txid ≠ tx.id) :
    ((applyTx act height S tx).utxos.map opOf).Nodup := by
  rw [applyTx_eq]
  simp only [List.map_append, List.nodup_append]
  refine ⟨List.Nodup.sublist (List.Sublist.map _ (spendAll_sublist _ _)) hS, newUtxos_nodup _ _ _ _ _ _, ?_⟩
  intro a ha b hb heq
  obtain ⟨x, hx, rfl⟩ := List.mem_map.mp ha
  obtain ⟨y, hy, rfl⟩ := List.mem_map.mp hb
  have h1 := hfresh x ((spendAll_sublist _ _).subset hx)
  have h2 := (newUtxos_mem hy).1
  simp only [opOf, Prod.mk.injEq] at heq
  exact h1 (heq.1.trans h2)

theorem foldl_applyTx_nodup {act height : Nat} (txs : List Tx) {S : St}
    (hS : (S.utxos.map opOf).Nodup) (hv : ValidTxs act height S txs) :
    ((txs.foldl (applyTx act height) S).utxos.map opOf).Nodup := by
  induction txs generalizing S with
  | nil => simpa using hS
  | cons tx r ih =>
    obtain ⟨_, hfresh, hrest⟩ := hv
    exact ih (applyTx_nodup hS hfresh) hrest

def blockTouched (act height : Nat) : St → List Tx → List (List HashX)
  | _, [] => []
  | S, tx :: r =>
    ((spendAll S.utxos tx.ins).2.map (·.hx) ++
        (newUtxos act height S.txs.length tx.id tx.outs 0).map (·.hx)) ::
      blockTouched act height (applyTx act height S tx) r

theorem foldl_touched (act height : Nat) (S : St) (txs : List Tx) :
    (txs.foldl (applyTx act height) S).touched = S.touched ++ blockTouched act height S txs := by
  induction txs generalizing S with
  | nil => simp [blockTouched]
  | cons tx r ih =>
    simp only [List.foldl_cons, ih, blockTouched]
    rw [applyTx_eq]
    simp

theorem foldl_txs (act height : Nat) (S : St) (txs : List Tx) :
    (txs.foldl (applyTx act height) S).txs = S.txs ++ txs.map (fun t => (t.id, height)) := by
  induction txs generalizing S with
  | nil => simp
  | cons tx r ih =>
    simp only [List.foldl_cons, ih, List.map_cons]
    rw [applyTx_eq]
    simp

/-- **Logic layer.**  On a valid block, the loop of `advance_block` over a store that represents
the spec's UTXO set succeeds and yields: a store representing the spec's UTXO set after the block,
the spec's touched lists as `hashXs_by_tx`, the block's txids, the undo list, and the counters. -/
theorem advanceTxs_spec {σ : Type} {ops : UOps σ} {RepS : σ → List Utxo → Prop}
    (I : RepIface ops RepS) (cfg : Cfg) (height : Nat) (txs : List Tx) (S : St) (a : Acc σ)
    (hrep : RepS a.s S.utxos) (hn : a.txNum = S.txs.length)
    (hv : ValidTxs cfg.act height S txs) :
    ∃ a', advanceTxs ops cfg height txs a = .ok a' ∧
      RepS a'.s (txs.foldl (applyTx cfg.act height) S).utxos ∧
      a'.txNum = S.txs.length + txs.length ∧
      a'.hashXsByTx = a.hashXsByTx ++ blockTouched cfg.act height S txs ∧
      a'.txHashes = a.txHashes ++ txs.map (·.id) ∧
      a'.undo = a.undo ++ blockUndo cfg.act height S txs ∧
      a'.delta = a.delta + blockDelta cfg.act height S txs ∧
      a'.touched = a.touched ++ (blockTouched cfg.act height S txs).flatten := by
  induction txs generalizing S a with
  | nil => exact ⟨a, by simp [advanceTxs, blockUndo, blockDelta, blockTouched, hrep, hn]⟩
  | cons tx r ih =>
    obtain ⟨hin, hfresh, hrest⟩ := hv
    obtain ⟨s1, hrep1, hs1⟩ := spendInputs_spec I tx.ins S.utxos a [] hrep hin
    have hS := applyTx_eq cfg.act height S tx
    have hnd := applyTx_nodup (act := cfg.act) (height := height) (I.nodup hrep) hfresh
    rw [hS] at hnd
    obtain ⟨s2, hrep2, hs2⟩ := addOutputs_spec I cfg height tx.id S.txs.length tx.outs 0
      (spendAll S.utxos tx.ins).1
      { a with s := s1, undo := a.undo ++ (spendAll S.utxos tx.ins).2.map cvOf,
               delta := a.delta - ((spendAll S.utxos tx.ins).2.length : Int) }
      ([] ++ (spendAll S.utxos tx.ins).2.map (·.hx)) hrep1 hnd
    rw [hn] at hs2
    simp only [advanceTxs, hs1, hn]
    rw [hs2]
    generalize hfin : finishTx _ tx.id = a2
    obtain ⟨a', h1, h2, h3, h4, h5, h6, h7, h8⟩ := ih (applyTx cfg.act height S tx) a2
      (by rw [← hfin, hS]; exact hrep2) (by rw [← hfin, hS]; simp [finishTx]) hrest
    subst hfin
    refine ⟨a', h1, by simpa using h2, ?_, ?_, ?_, ?_, ?_, ?_⟩
    · rw [h3, hS]; simp; omega
    · rw [h4]; simp [finishTx, blockTouched]
    · rw [h5]; simp [finishTx]
    · rw [h6]; simp [finishTx, blockUndo, List.append_assoc]
    · rw [h7]; simp only [finishTx, blockDelta]; omega
    · rw [h8]; simp [finishTx, blockTouched, List.append_assoc]

end EV.Index
