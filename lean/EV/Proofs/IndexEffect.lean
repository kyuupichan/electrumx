import EV.Model.Index
import EV.Proofs.ListX

/-!
What each `Effect` writes.  An effect acts on every field of the store separately: the new value of a
field is a function of its old value alone (`applyEffect_eq`), and `Effect.act` is the table of those
functions, each constructor naming the fields it writes.  Footprint ("a history batch leaves `u` alone")
and congruence ("the `h` table after a UTXO batch depends on the `h` table before only") are both read
off it; so is commutation with any change of another field.

`fileWrite` at its two seams: up to the end of the write the file is the old prefix and the data
(`take_fileWrite_add`), from there on it is the old file (`drop_fileWrite_add`), wherever the write starts; a
write at or beyond `n` leaves the first `n` records alone (`take_fileWrite`).
-/
namespace EV.Index

structure StoreMap where
  h : List (HKey × HashX) → List (HKey × HashX) := id
  u : List (UKey × Nat) → List (UKey × Nat) := id
  undo : List (Nat × List CacheVal) → List (Nat × List CacheVal) := id
  ustate : Option CState → Option CState := id
  hist : List ((HashX × Nat) × List Nat) → List ((HashX × Nat) × List Nat) := id
  hstate : Option HState → Option HState := id
  headers : List Nat → List Nat := id
  txcounts : List Nat → List Nat := id
  hashes : List Hash → List Hash := id

def StoreMap.app (f : StoreMap) (p : Store) : Store :=
  ⟨f.h p.h, f.u p.u, f.undo p.undo, f.ustate p.ustate, f.hist p.hist, f.hstate p.hstate,
    f.headers p.headers, f.txcounts p.txcounts, f.hashes p.hashes⟩

def delH (t : List (HKey × HashX)) : DelKey → List (HKey × HashX)
  | .h k => aerase k t
  | .u _ => t

def delU (t : List (UKey × Nat)) : DelKey → List (UKey × Nat)
  | .h _ => t
  | .u k => aerase k t

def Effect.act : Effect → StoreMap
  | .writeHeaders off d => { headers := (fileWrite · off d) }
  | .writeTxCounts off d => { txcounts := (fileWrite · off d) }
  | .writeHashes off d => { hashes := (fileWrite · off d) }
  | .histBatch dels puts st =>
    { hist := fun t => puts.foldl (fun hs (k, v) => ainsert k v hs) (dels.foldl (fun hs k => aerase k hs) t)
      hstate := fun _ => some st }
  | .utxoBatch dels hputs uputs undoDels undoPuts st =>
    { h := fun t => hputs.foldl (fun t (k, v) => ainsert k v t) (dels.foldl delH t)
      u := fun t => uputs.foldl (fun t (k, v) => ainsert k v t) (dels.foldl delU t)
      undo := fun t => undoPuts.foldl (fun t (k, v) => ainsert k v t) (undoDels.foldl (fun t k => aerase k t) t)
      ustate := fun o => match st with | some x => some x | none => o }
  | .putUState st => { ustate := fun _ => some st }

theorem foldl_applyDelKey (dels : List DelKey) (p : Store) :
    dels.foldl applyDelKey p = { p with h := dels.foldl delH p.h, u := dels.foldl delU p.u } := by
  induction dels generalizing p with
  | nil => rfl
  | cons d r ih => cases d <;> exact ih _

theorem applyEffect_eq (p : Store) (e : Effect) : applyEffect p e = e.act.app p := by
  cases e with
  | utxoBatch dels hputs uputs undoDels undoPuts st => simp only [applyEffect, foldl_applyDelKey]; rfl
  | _ => rfl

theorem applyEffects_append (p : Store) (a b : List Effect) :
    applyEffects p (a ++ b) = applyEffects (applyEffects p a) b := by
  simp [applyEffects, List.foldl_append]

theorem utxoBatch_hu_congr (p q : Store) (hh : p.h = q.h) (hu : p.u = q.u) (d : List DelKey)
    (hp : List (HKey × HashX)) (up : List (UKey × Nat)) (ud : List Nat) (upp : List (Nat × List CacheVal))
    (st : Option CState) :
    (applyEffect p (.utxoBatch d hp up ud upp st)).h = (applyEffect q (.utxoBatch d hp up ud upp st)).h ∧
    (applyEffect p (.utxoBatch d hp up ud upp st)).u = (applyEffect q (.utxoBatch d hp up ud upp st)).u := by
  rw [applyEffect_eq, applyEffect_eq]
  exact ⟨congrArg (Effect.utxoBatch d hp up ud upp st).act.h hh,
    congrArg (Effect.utxoBatch d hp up ud upp st).act.u hu⟩

theorem take_fileWrite {α : Type} (file : List α) (off : Nat) (data : List α) (n : Nat)
    (h1 : n ≤ off) (h2 : n ≤ file.length) : (fileWrite file off data).take n = file.take n := by
  unfold fileWrite
  rw [List.append_assoc, List.take_append_of_le_length (by simp; omega), List.take_take]
  congr 1
  omega

theorem take_fileWrite_add {α : Type} (f : List α) (off : Nat) (d : List α) :
    (fileWrite f off d).take (off + d.length) = f.take off ++ d := by
  unfold fileWrite
  by_cases h : off ≤ f.length
  · exact List.take_left' (by simp [List.length_take, Nat.min_eq_left h])
  · have h1 : f.take off = f := List.take_of_length_le (by omega)
    have h2 : f.drop (off + d.length) = [] := List.drop_of_length_le (by omega)
    rw [h1, h2, List.append_nil]
    exact List.take_of_length_le (by simp; omega)

theorem drop_fileWrite_add {α : Type} (f : List α) (off : Nat) (d : List α) :
    (fileWrite f off d).drop (off + d.length) = f.drop (off + d.length) := by
  unfold fileWrite
  by_cases h : off ≤ f.length
  · exact List.drop_left' (by simp [List.length_take, Nat.min_eq_left h])
  · have h1 : f.take off = f := List.take_of_length_le (by omega)
    have h2 : f.drop (off + d.length) = [] := List.drop_of_length_le (by omega)
    rw [h1, h2, List.append_nil]
    exact List.drop_of_length_le (by simp; omega)

theorem fileWrite_drop {α : Type} {file data : List α} {off : Nat}
    (h : file.take off = data.take off) :
    (fileWrite file off (data.drop off)).take data.length = data := by
  have hlen : (data.take off ++ data.drop off).length = data.length := by
    rw [List.take_append_drop]
  unfold fileWrite
  rw [h, List.take_append_of_le_length (Nat.le_of_eq hlen.symm), ← hlen, List.take_length,
    List.take_append_drop]

theorem fileWrite_take_congr {α : Type} {a b : List α} {off N : Nat} (d : List α)
    (h : b.take off = a.take off) (hN : N ≤ off + d.length) :
    (fileWrite b off d).take N = (fileWrite a off d).take N := by
  apply take_of_take_eq _ hN
  rw [take_fileWrite_add, take_fileWrite_add, h]

end EV.Index
