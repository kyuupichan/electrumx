import EV.Model.Index

/-!
The loops of `advance_block` and `backup_block` are written over an abstract UTXO store (`UOps`).
A map between two such stores that respects `spend_utxo` / `put_utxo` (`UHom`) is respected by all
six loops, errors included: the run on the image is the image of the run.
-/
namespace EV.Index

def Acc.map {σ τ : Type} (f : σ → τ) (a : Acc σ) : Acc τ := { a with s := f a.s }

structure UHom {σ τ : Type} (o₁ : UOps σ) (o₂ : UOps τ) (f : σ → τ) : Prop where
  spend : ∀ s h i, o₂.spend (f s) h i = (o₁.spend s h i).map (fun r => (r.1, f r.2))
  add : ∀ s h i cv, o₂.add (f s) h i cv = f (o₁.add s h i cv)

section
variable {σ τ : Type} {o₁ : UOps σ} {o₂ : UOps τ} {f : σ → τ} (H : UHom o₁ o₂ f)
include H

theorem spendInputs_hom (ins : List TxIn) (a : Acc σ) (hxs : List HashX) :
    spendInputs o₂ ins (a.map f) hxs =
      (spendInputs o₁ ins a hxs).map (fun r => (r.1.map f, r.2)) := by
  induction ins generalizing a hxs with
  | nil => rfl
  | cons i rest ih =>
    simp only [spendInputs]
    split
    · exact ih a hxs
    · rw [show (a.map f).s = f a.s from rfl, H.spend]
      cases o₁.spend a.s i.prev i.idx with
      | error e => rfl
      | ok r => exact ih { a with s := r.2, undo := a.undo ++ [r.1], delta := a.delta - 1 } _

theorem addOutputs_hom (cfg : Cfg) (height : Nat) (txid : Hash) (txNum : Nat) (outs : List TxOut)
    (idx : Nat) (a : Acc σ) (hxs : List HashX) :
    addOutputs o₂ cfg height txid txNum outs idx (a.map f) hxs =
      ((addOutputs o₁ cfg height txid txNum outs idx a hxs).1.map f,
       (addOutputs o₁ cfg height txid txNum outs idx a hxs).2) := by
  induction outs generalizing idx a hxs with
  | nil => rfl
  | cons o rest ih =>
    simp only [addOutputs]
    split
    · exact ih _ a hxs
    · rw [show (a.map f).s = f a.s from rfl, H.add]
      exact ih _ { a with s := o₁.add a.s txid idx ⟨o.hx, txNum, o.value⟩, delta := a.delta + 1 } _

theorem advanceTxs_hom (cfg : Cfg) (height : Nat) (txs : List Tx) (a : Acc σ) :
    advanceTxs o₂ cfg height txs (a.map f) = (advanceTxs o₁ cfg height txs a).map (Acc.map f) := by
  induction txs generalizing a with
  | nil => rfl
  | cons tx rest ih =>
    simp only [advanceTxs, spendInputs_hom H]
    cases spendInputs o₁ tx.ins a [] with
    | error e => rfl
    | ok r =>
      show advanceTxs o₂ cfg height rest
        (finishTx (addOutputs o₂ cfg height tx.id r.1.txNum tx.outs 0 (r.1.map f) r.2) tx.id) = _
      rw [addOutputs_hom H]
      exact ih (finishTx (addOutputs o₁ cfg height tx.id r.1.txNum tx.outs 0 r.1 r.2) tx.id)

theorem spendOutputs_hom (cfg : Cfg) (height : Nat) (txid : Hash) (outs : List TxOut) (idx : Nat)
    (a : Acc σ) :
    spendOutputs o₂ cfg height txid outs idx (a.map f) =
      (spendOutputs o₁ cfg height txid outs idx a).map (Acc.map f) := by
  induction outs generalizing idx a with
  | nil => rfl
  | cons o rest ih =>
    simp only [spendOutputs]
    split
    · exact ih _ a
    · rw [show (a.map f).s = f a.s from rfl, H.spend]
      cases o₁.spend a.s txid idx with
      | error e => rfl
      | ok r => exact ih _ { a with s := r.2, touched := a.touched ++ [r.1.hx], delta := a.delta - 1 }

theorem restoreInputs_hom (ins : List TxIn) (undo : List CacheVal) (a : Acc σ) :
    restoreInputs o₂ ins undo (a.map f) =
      (restoreInputs o₁ ins undo a).map (fun r => (r.1.map f, r.2)) := by
  induction ins generalizing undo a with
  | nil => rfl
  | cons i rest ih =>
    simp only [restoreInputs]
    split
    · exact ih undo a
    · cases undo.getLast? with
      | none => rfl
      | some cv =>
        show restoreInputs o₂ rest undo.dropLast
          { a.map f with s := o₂.add (f a.s) i.prev i.idx cv, touched := a.touched ++ [cv.hx],
                         delta := a.delta + 1 } = _
        rw [H.add]
        exact ih _ { a with s := o₁.add a.s i.prev i.idx cv, touched := a.touched ++ [cv.hx],
                            delta := a.delta + 1 }

theorem backupTxs_hom (cfg : Cfg) (height : Nat) (txs : List Tx) (undo : List CacheVal) (a : Acc σ) :
    backupTxs o₂ cfg height txs undo (a.map f) =
      (backupTxs o₁ cfg height txs undo a).map (fun r => (r.1.map f, r.2)) := by
  induction txs generalizing undo a with
  | nil => rfl
  | cons tx rest ih =>
    simp only [backupTxs, spendOutputs_hom H]
    cases spendOutputs o₁ cfg height tx.id tx.outs 0 a with
    | error e => rfl
    | ok a1 =>
      simp only [Except.map, restoreInputs_hom H]
      cases restoreInputs o₁ tx.ins.reverse undo a1 with
      | none => rfl
      | some r => exact ih r.2 { r.1 with txNum := r.1.txNum + 1 }

end

end EV.Index
