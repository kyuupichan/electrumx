import EV.Proofs.RpcExec

/-! For C16/C17: how a request can end (`Ends`: refused before the handler body, or one walk through
`exec`), and read off it the totality of `dispatch`, what a request does to the shared caches
(`CacheGrowth`) and what an error reply leaves alone.  The same walk shows that a body uses the manager
for the two cache lookups only (`Alike`, `exec_alike`), so that replies do not depend on what coherent
caches (`CacheOK`) happen to hold. -/
namespace EV.Rpc

section Dict
variable {α β : Type} [DecidableEq α]

theorem dGet_isLookup : IsLookup (dGet (α := α) (β := β)) := ⟨fun _ => rfl, fun _ _ _ _ => rfl⟩

theorem dGet_filter (p : α → Bool) (k : α) (d : List (α × β)) :
    dGet k (d.filter (fun e => p e.1)) = if p k then dGet k d else none :=
  dGet_isLookup.filter p k d

theorem dGet_dErase (k k' : α) (d : List (α × β)) :
    dGet k' (dErase k d) = if k = k' then none else dGet k' d :=
  dGet_isLookup.erase k' k d

theorem dGet_dSet (k k' : α) (v : β) (d : List (α × β)) :
    dGet k' (dSet k v d) = if k = k' then some v else dGet k' d :=
  dGet_isLookup.insert k' k v d

theorem dGet_dErase_self (k : α) (d : List (α × β)) : dGet k (dErase k d) = none := by
  rw [dGet_dErase, if_pos rfl]

theorem dGet_dErase_ne {k k' : α} (h : k' ≠ k) (d : List (α × β)) :
    dGet k' (dErase k d) = dGet k' d := by
  rw [dGet_dErase, if_neg h.symm]

theorem dGet_dErase_some {k k' : α} {d : List (α × β)} {v : β}
    (h : dGet k' (dErase k d) = some v) : dGet k' d = some v := by
  by_cases hk : k' = k
  · rw [hk, dGet_dErase_self] at h; cases h
  · rw [dGet_dErase_ne hk] at h; exact h

theorem dGet_dSet_self (k : α) (v : β) (d : List (α × β)) : dGet k (dSet k v d) = some v := by
  rw [dGet_dSet, if_pos rfl]

theorem dGet_dSet_ne {k k' : α} (h : k' ≠ k) (v : β) (d : List (α × β)) :
    dGet k' (dSet k v d) = dGet k' d := by
  rw [dGet_dSet, if_neg h.symm]

end Dict

theorem mem_addKey {k x : Nat} {l : List Nat} : x ∈ addKey k l ↔ x = k ∨ x ∈ l := by
  unfold addKey
  split
  · rename_i h
    constructor
    · intro hx; exact Or.inr hx
    · rintro (rfl | hx)
      · simpa using h
      · exact hx
  · simp

/-- The caches only gain entries, and only entries that agree with the index: a cached history is
    what a miss computes, cached tx hashes belong to a block on disk, a merkle cache to a block of
    200+ transactions.  Nothing is evicted or overwritten (the model has no LRU capacity). -/
structure CacheGrowth (w : World) (m m' : Mgr) : Prop where
  histKeep : ∀ hx r, dGet hx m.histCache = some r → dGet hx m'.histCache = some r
  histNew : ∀ hx r, dGet hx m'.histCache = some r →
    dGet hx m.histCache = some r ∨ r = histCompute w hx
  txKeep : ∀ h, h ∈ m.txCache → h ∈ m'.txCache
  txNew : ∀ h, h ∈ m'.txCache → h ∈ m.txCache ∨ h ≤ w.height
  mkKeep : ∀ h, h ∈ m.merkleCache → h ∈ m'.merkleCache
  mkNew : ∀ h, h ∈ m'.merkleCache → h ∈ m.merkleCache ∨ 200 ≤ (w.blockTxs h).length

theorem CacheGrowth.refl (w : World) (m : Mgr) : CacheGrowth w m m :=
  ⟨fun _ _ h => h, fun _ _ h => Or.inl h, fun _ h => h, fun _ h => Or.inl h, fun _ h => h,
   fun _ h => Or.inl h⟩

theorem CacheGrowth.trans {w : World} {a b c : Mgr} (h1 : CacheGrowth w a b)
    (h2 : CacheGrowth w b c) : CacheGrowth w a c where
  histKeep hx r h := h2.histKeep hx r (h1.histKeep hx r h)
  histNew hx r h := (h2.histNew hx r h).elim (h1.histNew hx r) Or.inr
  txKeep h hh := h2.txKeep h (h1.txKeep h hh)
  txNew h hh := (h2.txNew h hh).elim (h1.txNew h) Or.inr
  mkKeep h hh := h2.mkKeep h (h1.mkKeep h hh)
  mkNew h hh := (h2.mkNew h hh).elim (h1.mkNew h) Or.inr

theorem limitedHistory_growth (w : World) (m : Mgr) (hx : Bytes) :
    CacheGrowth w m (limitedHistory w m hx).1 := by
  unfold limitedHistory
  split
  · exact CacheGrowth.refl w m
  · rename_i hnone
    refine { CacheGrowth.refl w m with histKeep := ?_, histNew := ?_ } <;> intro hx' r h <;>
      dsimp only at h ⊢
    · have hne : hx' ≠ hx := by
        intro heq; rw [heq, hnone] at h; cases h
      rw [dGet_dSet_ne hne]; exact h
    · by_cases heq : hx' = hx
      · rw [heq, dGet_dSet_self] at h
        cases h
        exact Or.inr (by rw [heq])
      · rw [dGet_dSet_ne heq] at h
        exact Or.inl h

theorem limitedHistory_spec (w : World) (m : Mgr) (hx : Bytes) :
    ∃ m', CacheGrowth w m m' ∧
      (limitedHistory w m hx = (m', .error (.rpcError Gen.badRequest)) ∨
       ∃ hist, limitedHistory w m hx = (m', .ok hist)) := by
  refine ⟨_, limitedHistory_growth w m hx, ?_⟩
  obtain ⟨r, hr⟩ : ∃ r : HistRes, (limitedHistory w m hx).2 = r.toExcept := by
    unfold limitedHistory; split <;> exact ⟨_, rfl⟩
  cases r
  · exact .inr ⟨_, Prod.ext rfl hr⟩
  · exact .inl (Prod.ext rfl hr)

theorem txHashesAt_spec (w : World) (m : Mgr) (h : Nat) :
    ∃ m', CacheGrowth w m m' ∧
      (txHashesAt w m h = (m', .error (.rpcError Gen.badRequest)) ∨
       txHashesAt w m h = (m', .ok (w.blockTxs h))) := by
  unfold txHashesAt
  split
  · exact ⟨m, CacheGrowth.refl w m, .inr rfl⟩
  · split
    · exact ⟨m, CacheGrowth.refl w m, .inl rfl⟩
    · refine ⟨{ m with txCache := addKey h m.txCache },
        { CacheGrowth.refl w m with txKeep := ?_, txNew := ?_ }, .inr rfl⟩
      · intro x hx; exact mem_addKey.mpr (Or.inr hx)
      · intro x hx
        rcases mem_addKey.mp hx with rfl | hx
        · exact Or.inr (by omega)
        · exact Or.inl hx

theorem merkleBranch_growth (w : World) (m : Mgr) (h : Nat) :
    CacheGrowth w m (merkleBranch m h (w.blockTxs h).length) := by
  unfold merkleBranch
  split
  · rename_i h200
    refine { CacheGrowth.refl w m with mkKeep := ?_, mkNew := ?_ }
    · intro x hx; exact mem_addKey.mpr (Or.inr hx)
    · intro x hx
      rcases mem_addKey.mp hx with rfl | hx
      · exact Or.inr h200
      · exact Or.inl hx
  · exact CacheGrowth.refl w m

theorem execGetHistory_snd (w : World) (st : St) (hx : Bytes) :
    (execGetHistory w st hx).2 =
      match (limitedHistory w st.mgr hx).2 with
      | .ok hist => .ok (.history hist (w.mempool hx))
      | .error e => .error e := by
  unfold execGetHistory
  split <;> (rename_i heq; simp [heq])

theorem addressStatus_mgr (w : World) (st : St) (hx : Bytes) :
    (addressStatus w st hx).1.mgr = (limitedHistory w st.mgr hx).1 := by
  unfold addressStatus
  split <;> (rename_i heq; simp [heq])

theorem addressStatus_snd (w : World) (st : St) (hx : Bytes) :
    (addressStatus w st hx).2 =
      match (limitedHistory w st.mgr hx).2 with
      | .ok hist => .ok (statusOf hist (w.mempool hx))
      | .error e => .error e := by
  unfold addressStatus
  split <;> (rename_i heq; simp [heq])

theorem addressStatus_sess (w : World) (st : St) (hx : Bytes) :
    (addressStatus w st hx).1.sess =
      match (limitedHistory w st.mgr hx).2 with
      | .ok hist =>
        { st.sess with
          mpStatus := if (w.mempool hx).isEmpty then dErase hx st.sess.mpStatus
                      else dSet hx (statusOf hist (w.mempool hx)) st.sess.mpStatus }
      | .error _ => st.sess := by
  unfold addressStatus
  split <;> (rename_i heq; simp [heq])

theorem addressStatus_subs (w : World) (st : St) (hx : Bytes) :
    (addressStatus w st hx).1.sess.subs = st.sess.subs ∧
    (addressStatus w st hx).1.sess.subHeaders = st.sess.subHeaders ∧
    (addressStatus w st hx).1.sess.svSeen = st.sess.svSeen ∧
    (addressStatus w st hx).1.sess.isPeer = st.sess.isPeer ∧
    (addressStatus w st hx).1.sess.ptuple = st.sess.ptuple := by
  rw [addressStatus_sess]
  split <;> simp

/-- every cached entry agrees with the index -/
structure CacheOK (w : World) (m : Mgr) : Prop where
  hist : ∀ hx r, dGet hx m.histCache = some r → r = histCompute w hx
  tx : ∀ h, h ∈ m.txCache → h ≤ w.height

theorem CacheOK.empty (w : World) : CacheOK w {} :=
  ⟨fun _ _ h => by simp [dGet] at h, fun _ h => by simp at h⟩

theorem CacheOK.single {w : World} {hx : Bytes} {r : HistRes} (h : r = histCompute w hx) :
    CacheOK w { histCache := [(hx, r)] } := by
  refine ⟨fun hx' r' hr => ?_, fun _ hm => by cases hm⟩
  simp only [dGet] at hr
  split at hr
  · cases hr
    rename_i heq
    rw [← heq]; exact h
  · cases hr

theorem CacheOK.of_growth {w : World} {m m' : Mgr} (hg : CacheGrowth w m m') (h : CacheOK w m) :
    CacheOK w m' where
  hist hx r hr := (hg.histNew hx r hr).elim (h.hist hx r) id
  tx x hx := (hg.txNew x hx).elim (h.tx x) id

theorem limitedHistory_snd {w : World} {m : Mgr} (h : CacheOK w m) (hx : Bytes) :
    (limitedHistory w m hx).2 = (histCompute w hx).toExcept := by
  unfold limitedHistory
  split
  · rename_i r hr
    rw [h.hist hx r hr]
  · rfl

theorem txHashesAt_snd {w : World} {m : Mgr} (h : CacheOK w m) (ht : Nat) :
    (txHashesAt w m ht).2 =
      if w.height < ht then .error (.rpcError Gen.badRequest) else .ok (w.blockTxs ht) := by
  unfold txHashesAt
  split
  · rename_i hc
    have : ht ≤ w.height := h.tx ht (by simpa using hc)
    have hn : ¬ w.height < ht := by omega
    simp [hn]
  · split
    · simp
    · simp

/-- for `exec_alike`: with `e` the lookup on `m` evaluated and `h` from `Alike`, rewrites the lookup on
    `m'` to a pair with the same answer (`rw [e, snd_eq h e]`) -/
theorem snd_eq {α β : Type} {p q : α × β} {a : α} {x : β} (h : p.2 = q.2) (e : p = (a, x)) :
    q = (q.1, x) := by
  subst e; exact Prod.ext rfl h.symm

/-- The two cache lookups answer alike from `m` and from `m'`: so do two coherent caches
    (`CacheOK.alike`), and so does a cache and itself.  It is all a handler body can tell about the
    manager it runs on (`exec_alike`). -/
structure Alike (w : World) (m m' : Mgr) : Prop where
  hist : ∀ hx, (limitedHistory w m hx).2 = (limitedHistory w m' hx).2
  tx : ∀ h, (txHashesAt w m h).2 = (txHashesAt w m' h).2

theorem Alike.refl (w : World) (m : Mgr) : Alike w m m := ⟨fun _ => rfl, fun _ => rfl⟩

theorem CacheOK.alike {w : World} {m m' : Mgr} (h : CacheOK w m) (h' : CacheOK w m') : Alike w m m' :=
  ⟨fun hx => (limitedHistory_snd h hx).trans (limitedHistory_snd h' hx).symm,
   fun ht => (txHashesAt_snd h ht).trans (txHashesAt_snd h' ht).symm⟩

/-- How a request can end, given the outcome `pr` of everything before the handler body
    (`parseRequest`).  Refused there: nothing has changed.  Otherwise the body ran.  A result: the
    caches have at most grown, and the only client value in it is the target of `get_tsc_merkle`.
    An `RPCError`: the session is as it was.  Any other error is one of three, each excluded by a
    closed fact about the generated constants or by the assumption on the resolver (`Ends.good`);
    `sv_seen` can only have been set by `server.version`, `is_peer` only by `server.add_peer`. -/
inductive Ends (w : World) (st : St) (pr : Except PyExc Req) : St × Except PyExc Res → Prop
  | refused {e : PyExc} (hr : pr = .error e) : Ends w st pr (st, .error e)
  | ok {st' : St} {res : Res} (hg : CacheGrowth w st.mgr st'.mgr)
      (htsc : ∀ j, res = .tsc j → ∃ t h b, pr = .ok (.getTscMerkle t h b j)) :
      Ends w st pr (st', .ok res)
  | rpc {st' : St} (c : Int) (hs : st'.sess = st.sess) (hg : CacheGrowth w st.mgr st'.mgr) :
      Ends w st pr (st', .error (.rpcError c))
  | overflow (hu : Gen.headersCostUnclamped = true) : Ends w st pr (st, .error .overflowError)
  | resolver {f : J} {host : String} {e : PyExc} (hr : pr = .ok (.addPeer f))
      (he : w.resolve host = .error e) (hn : Gen.addPeerCaught.contains e.name = false) :
      Ends w st pr ({ st with sess := { st.sess with isPeer := true } }, .error e)
  | version {n p : J} {e : PyExc} (hr : pr = .ok (.version n p))
      (he : e = .replyAndDisconnect Gen.badRequest ∨
        protocolVersion w.intOfStr p Gen.protocolMin Gen.protocolMax = .error e) :
      Ends w st pr ({ st with sess := { st.sess with svSeen := true } }, .error e)

/-- The one walk through the handler bodies: how a validated request ends, and that a run of the same
    session on a manager whose lookups answer alike gives the same reply and leaves the session in the
    same state: a body passes the manager to the two lookups and does nothing else with it. -/
theorem exec_alike (w : World) (s : Sess) {m m' : Mgr} (ha : Alike w m m') (r : Req) :
    Ends w { sess := s, mgr := m } (.ok r) (exec w { sess := s, mgr := m } r) ∧
    (exec w { sess := s, mgr := m } r).2 = (exec w { sess := s, mgr := m' } r).2 ∧
    (exec w { sess := s, mgr := m } r).1.sess = (exec w { sess := s, mgr := m' } r).1.sess := by
  cases r <;>
    dsimp only [exec, execGetHistory, execSubscribe, addressStatus, execGetMerkle, execGetTscMerkle,
      execIdFromPos]
  case blockHeader h cp =>
    rcases blockHeaderCore_cases w h cp with e | ⟨_, _, e⟩ <;> rw [e]
    · exact ⟨.rpc _ rfl (.refl w _), rfl, rfl⟩
    · exact ⟨.ok (.refl w _) nofun, rfl, rfl⟩
  case blockHeaders start c cp =>
    rcases blockHeadersCore_cases Gen.headersCostUnclamped Gen.maxChunkSize w start c cp with
      ⟨hu, e⟩ | e | ⟨_, _, _, e⟩ <;> rw [e]
    · exact ⟨.overflow hu, rfl, rfl⟩
    · exact ⟨.rpc _ rfl (.refl w _), rfl, rfl⟩
    · exact ⟨.ok (.refl w _) nofun, rfl, rfl⟩
  case getHistory hx | subscribe hx a =>
    obtain ⟨m1, hg, e | ⟨_, e⟩⟩ := limitedHistory_spec w m hx <;> rw [e, snd_eq (ha.hist hx) e]
    · exact ⟨.rpc _ rfl hg, rfl, rfl⟩
    · exact ⟨.ok hg nofun, rfl, rfl⟩
  case broadcast raw | txGet t =>
    split
    · exact ⟨.ok (.refl w _) nofun, rfl, rfl⟩
    · exact ⟨.rpc _ rfl (.refl w _), rfl, rfl⟩
  case getMerkle t h =>
    obtain ⟨m1, hg, e | e⟩ := txHashesAt_spec w m h <;> rw [e, snd_eq (ha.tx h) e]
    · exact ⟨.rpc _ rfl hg, rfl, rfl⟩
    · dsimp only
      cases indexOf t (w.blockTxs h)
      · exact ⟨.rpc _ rfl hg, rfl, rfl⟩
      · exact ⟨.ok (hg.trans (merkleBranch_growth w m1 h)) nofun, rfl, rfl⟩
  case getTscMerkle t h b j =>
    obtain ⟨m1, hg, e | e⟩ := txHashesAt_spec w m h <;> rw [e, snd_eq (ha.tx h) e]
    · exact ⟨.rpc _ rfl hg, rfl, rfl⟩
    · have hg' := hg.trans (merkleBranch_growth w m1 h)
      dsimp only
      cases indexOf t (w.blockTxs h)
      · exact ⟨.rpc _ rfl hg, rfl, rfl⟩
      · dsimp only
        refine (rawHeader_refuses w h).elim ⟨.rpc _ rfl hg', rfl, rfl⟩ fun _ => ?_
        dsimp only
        split
        · exact ⟨.rpc _ rfl hg', rfl, rfl⟩
        · exact ⟨.ok hg' fun _ hj => ⟨t, h, b, by cases hj; rfl⟩, rfl, rfl⟩
  case idFromPos h p b =>
    obtain ⟨m1, hg, e | e⟩ := txHashesAt_spec w m h <;> rw [e, snd_eq (ha.tx h) e]
    · exact ⟨.rpc _ rfl hg, rfl, rfl⟩
    · dsimp only
      split
      · exact ⟨.rpc _ rfl hg, rfl, rfl⟩
      · split
        · exact ⟨.ok (hg.trans (merkleBranch_growth w m1 h)) nofun, rfl, rfl⟩
        · exact ⟨.ok hg nofun, rfl, rfl⟩
  case addPeer f =>
    obtain ⟨_, e, ⟨_, rfl⟩ | ⟨_, _, he, hn, rfl⟩⟩ := execAddPeerWith_eq Gen.addPeerCaught w f <;>
      rw [e, e]
    · exact ⟨.ok (.refl w _) nofun, rfl, rfl⟩
    · exact ⟨.resolver rfl he hn, rfl, rfl⟩
  case version n p =>
    rcases execVersion_cases w s n p with e | ⟨_, e, he⟩ | ⟨_, e⟩ <;> rw [e, e]
    · exact ⟨.rpc _ rfl (.refl w _), rfl, rfl⟩
    · exact ⟨.version rfl he, rfl, rfl⟩
    · exact ⟨.ok (.refl w _) nofun, rfl, rfl⟩
  all_goals exact ⟨.ok (.refl w _) nofun, rfl, rfl⟩

theorem dispatch_alike (w : World) (s : Sess) {m m' : Mgr} (ha : Alike w m m') (mth : String)
    (args : Args) :
    Ends w { sess := s, mgr := m } (parseRequest w { sess := s, mgr := m } mth args)
      (dispatch w { sess := s, mgr := m } mth args) ∧
    (dispatch w { sess := s, mgr := m } mth args).2 = (dispatch w { sess := s, mgr := m' } mth args).2 ∧
    (dispatch w { sess := s, mgr := m } mth args).1.sess =
      (dispatch w { sess := s, mgr := m' } mth args).1.sess := by
  -- validation reads the session only
  have hp : parseRequest w { sess := s, mgr := m' } mth args =
      parseRequest w { sess := s, mgr := m } mth args := rfl
  unfold dispatch
  rw [hp]
  cases parseRequest w { sess := s, mgr := m } mth args with
  | error e => exact ⟨.refused rfl, rfl, rfl⟩
  | ok r => exact exec_alike w s ha r

theorem dispatch_ends (w : World) (st : St) (m : String) (args : Args) :
    Ends w st (parseRequest w st m args) (dispatch w st m args) :=
  (dispatch_alike w st.sess (.refl w st.mgr) m args).1

section
variable {w : World} {st : St} {pr : Except PyExc Req} {out : St × Except PyExc Res}

theorem Ends.growth (h : Ends w st pr out) : CacheGrowth w st.mgr out.1.mgr := by
  cases h with
  | ok hg | rpc _ _ hg => exact hg
  | refused | overflow | resolver | version => exact CacheGrowth.refl w _

theorem Ends.good {raises : List String} (h : Ends w st pr out) (hc : CaughtOK) (hb : BodyOK raises)
    (hres : ResolverRaises raises w) (hpr : Good pr) : Good out.2 := by
  cases h with
  | refused hr => intro e he; cases he; exact hpr _ hr
  | ok => exact good_ok _
  | rpc => exact good_rpc _
  | overflow hu => rw [hb.1] at hu; cases hu
  | resolver _ he hn =>
    rw [hb.2 _ (by simpa using hres _ _ he)] at hn; cases hn
  | version _ he =>
    rcases he with rfl | he
    · exact good_disc _
    · obtain ⟨_, hr⟩ := protocolVersion_ok hc w.intOfStr _ Gen.protocolMin Gen.protocolMax
      rw [hr] at he; cases he

end

theorem dispatch_good {raises : List String} (hc : CaughtOK) (ht : TableOK) (hb : BodyOK raises)
    {w : World} (hres : ResolverRaises raises w) (st : St) (m : String) (args : Args) :
    Good (dispatch w st m args).2 :=
  (dispatch_ends w st m args).good hc hb hres (parseRequest_good hc ht w st m args)

end EV.Rpc
