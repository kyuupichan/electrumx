import EV.Proofs.IndexLogic
import EV.Model.IndexSplit

/-!
The read interface of the UTXO rows.  `RowsOf s V`: the `h` / `u` rows of `s` are those of the UTXO
list `V` (distinct outpoints, every tx number resolving through `fs_tx_hash` to its txid).  Every reader
of the rows is characterised over it, once: `lookup_hashX` / `lookup_utxo` (the two jobs of
`DB.lookup_utxos`), and the DB branch of `spend_utxo`, which is `lookup_hashX` + the `u` row + queueing
the two deletes (`spendUtxo_rows`); `all_utxos` in `IndexObs` (`allUtxos_rows`).  What the scan over
the candidates of a 4-byte prefix finds, collisions included, is `RowsOf.find_cand`.  Every `RepSysW`
state is such a state for its resident list (`RepSysW.rowsOf`); so is a flushed `FullInv` state for the
specification's UTXO set (`rowsOf_flushed`) and any `FullInv'` state for that of the committed chain
(`rowsOf_committed`).
-/
namespace EV.Index
open EV.Spec

def hkey (u : Utxo) : HKey := (pfx u.txid, u.idx, u.txnum)
def ukey (u : Utxo) : UKey := (u.hx, u.idx, u.txnum)

def resolve (s : Sys) (n : Nat) : Option Hash := (fsTxHash s n).1

def outAt (V : List Utxo) (txid : Hash) (idx : Nat) : Option Utxo :=
  V.find? (fun u => u.txid == txid && u.idx == idx)

def lookupIn (V : List Utxo) (txid : Hash) (idx : Nat) : Option (HashX × Nat) :=
  (outAt V txid idx).map (fun u => (u.hx, u.value))

theorem lookup_eq_lookupIn (S : St) (txid : Hash) (idx : Nat) :
    EV.Spec.lookup S txid idx = lookupIn S.utxos txid idx := rfl

theorem outAt_some {V : List Utxo} {txid : Hash} {idx : Nat} {u : Utxo}
    (h : outAt V txid idx = some u) : u ∈ V ∧ u.txid = txid ∧ u.idx = idx := by
  have hp := List.find?_some h
  simp only [Bool.and_eq_true, beq_iff_eq] at hp
  exact ⟨List.mem_of_find?_eq_some h, hp⟩

theorem outAt_eq_none_iff {V : List Utxo} {txid : Hash} {idx : Nat} :
    outAt V txid idx = none ↔ ∀ u ∈ V, ¬ (u.txid = txid ∧ u.idx = idx) := by
  simp only [outAt, List.find?_eq_none, Bool.and_eq_true, beq_iff_eq]

theorem outAt_of_mem {V : List Utxo} (hn : (V.map opOf).Nodup) {u : Utxo} (hu : u ∈ V) :
    outAt V u.txid u.idx = some u := by
  cases h : outAt V u.txid u.idx with
  | none => exact absurd ⟨rfl, rfl⟩ (outAt_eq_none_iff.mp h u hu)
  | some x =>
    obtain ⟨hx, h1, h2⟩ := outAt_some h
    exact congrArg some (eq_of_nodup_map hn hx hu (Prod.ext h1 h2))

theorem lookupIn_eq_none_iff {V : List Utxo} {txid : Hash} {idx : Nat} :
    lookupIn V txid idx = none ↔ ∀ u ∈ V, ¬ (u.txid = txid ∧ u.idx = idx) := by
  rw [lookupIn, Option.map_eq_none_iff, outAt_eq_none_iff]

theorem lookupIn_of_mem {V : List Utxo} (hn : (V.map opOf).Nodup) {u : Utxo} (hu : u ∈ V) :
    lookupIn V u.txid u.idx = some (u.hx, u.value) := by
  rw [lookupIn, outAt_of_mem hn hu, Option.map_some]

theorem lookupIn_some_mem {V : List Utxo} {txid : Hash} {idx : Nat} {r : HashX × Nat}
    (h : lookupIn V txid idx = some r) :
    ∃ u ∈ V, u.txid = txid ∧ u.idx = idx ∧ r = (u.hx, u.value) := by
  obtain ⟨u, hf, rfl⟩ := Option.map_eq_some_iff.mp h
  obtain ⟨hu, h1, h2⟩ := outAt_some hf
  exact ⟨u, hu, h1, h2, rfl⟩

theorem lookupIn_eq_some_iff {V : List Utxo} (hn : (V.map opOf).Nodup) {txid : Hash} {idx : Nat}
    {hx : HashX} {v : Nat} :
    lookupIn V txid idx = some (hx, v) ↔
      ∃ u ∈ V, u.txid = txid ∧ u.idx = idx ∧ u.hx = hx ∧ u.value = v := by
  constructor
  · intro h
    obtain ⟨u, hu, h1, h2, h3⟩ := lookupIn_some_mem h
    exact ⟨u, hu, h1, h2, (Prod.mk.inj h3).1.symm, (Prod.mk.inj h3).2.symm⟩
  · rintro ⟨u, hu, rfl, rfl, rfl, rfl⟩
    exact lookupIn_of_mem hn hu

/-- `lookup_hashX` + `lookup_utxo`, with `fs_tx_hash` written as `resolve` -/
theorem lookupUtxo_unfold (s : Sys) (txid : Hash) (idx : Nat) :
    lookupUtxo s txid idx =
      match (s.p.h.filter (fun e => e.1.1 == pfx txid && e.1.2.1 == idx)).find?
          (fun e => resolve s e.1.2.2 == some txid) with
      | none => none
      | some (hk, hx) =>
        match alookup (hx, idx, hk.2.2) s.p.u with
        | none => none
        | some v => some (hx, v) := rfl

theorem lookupHashX_unfold (s : Sys) (txid : Hash) (idx : Nat) :
    lookupHashX s txid idx =
      match (s.p.h.filter (fun e => e.1.1 == pfx txid && e.1.2.1 == idx)).find?
          (fun e => resolve s e.1.2.2 == some txid) with
      | none => none
      | some (hk, hx) => some (hx, hk.2.2) := rfl

theorem lookupValue_unfold (b : Bool) (s : Sys) (txid : Hash) (idx : Nat) (hx : HashX) (n : Nat) :
    lookupValue b s txid idx (some (hx, n)) =
      match alookup (hx, idx, n) s.p.u with
      | none => none
      | some v => if b && resolve s n != some txid then none else some (hx, v) := rfl

/-- the re-check repeats the comparison that selected the row -/
theorem lookupUtxoSplit_self (b : Bool) (s : Sys) (txid : Hash) (idx : Nat) :
    lookupUtxoSplit b s s txid idx = lookupUtxo s txid idx := by
  rw [lookupUtxo_unfold, lookupUtxoSplit, lookupHashX_unfold]
  cases hf : (s.p.h.filter (fun e => e.1.1 == pfx txid && e.1.2.1 == idx)).find?
      (fun e => resolve s e.1.2.2 == some txid) with
  | none => rfl
  | some e =>
    obtain ⟨hk, hx⟩ := e
    have hp := List.find?_some hf
    simp only [beq_iff_eq] at hp
    simp only [lookupValue_unfold, hp, bne_self_eq_false, Bool.and_false, Bool.false_eq_true,
      if_false]

structure RowsOf (s : Sys) (V : List Utxo) : Prop where
  nodup : (V.map opOf).Nodup
  hRows : ∀ e, e ∈ s.p.h ↔ ∃ u ∈ V, e = (hkey u, u.hx)
  uRows : ∀ e, e ∈ s.p.u ↔ ∃ u ∈ V, e = (ukey u, u.value)
  -- no such clause for `h`: that table is only scanned by prefix, `u` is looked up by key
  uKeys : (s.p.u.map (·.1)).Nodup
  res : ∀ u ∈ V, resolve s u.txnum = some u.txid

theorem RowsOf.alookup_of_mem {s : Sys} {V : List Utxo} (r : RowsOf s V) {u : Utxo} (hu : u ∈ V) :
    alookup (u.hx, u.idx, u.txnum) s.p.u = some u.value :=
  alookup_of_mem_nodup r.uKeys ((r.uRows _).mpr ⟨u, hu, rfl⟩)

/-- the row answers for `y`'s OWN transaction id; whether that is the id asked for is what each
    reader of the row has to establish -/
theorem RowsOf.uRow_answer {s : Sys} {V : List Utxo} (r : RowsOf s V) {hx : HashX} {idx n v : Nat}
    (hl : alookup (hx, idx, n) s.p.u = some v) :
    ∃ y ∈ V, y.txnum = n ∧ lookupIn V y.txid idx = some (hx, v) := by
  obtain ⟨y, hy, hrow⟩ := (r.uRows _).mp (alookup_some_mem hl)
  simp only [ukey, Prod.mk.injEq] at hrow
  obtain ⟨⟨rfl, rfl, rfl⟩, rfl⟩ := hrow
  exact ⟨y, hy, rfl, lookupIn_of_mem r.nodup hy⟩
/-- the tx number resolves to the txid, so it stands for it in the outpoint -/
theorem RowsOf.eq_of_idx_txnum {s : Sys} {V : List Utxo} (r : RowsOf s V) {a b : Utxo}
    (ha : a ∈ V) (hb : b ∈ V) (hidx : a.idx = b.idx) (hnum : a.txnum = b.txnum) : a = b :=
  eq_of_nodup_map r.nodup ha hb (Prod.ext
    (Option.some.inj ((r.res a ha).symm.trans (hnum ▸ r.res b hb))) hidx)

/-- Candidates sharing the 4-byte prefix and the output index are told apart by the full-hash
comparison: every candidate row belongs to some `x ∈ V` whose tx number resolves to `x.txid`, so a
row is selected iff it is the row of the output asked for, which is unique because outpoints are
distinct. -/
theorem RowsOf.find_cand {s : Sys} {V : List Utxo} (r : RowsOf s V) (txid : Hash) (idx : Nat) :
    (s.p.h.filter (fun e => e.1.1 == pfx txid && e.1.2.1 == idx)).find?
        (fun e => resolve s e.1.2.2 == some txid) =
      (outAt V txid idx).map (fun u => (hkey u, u.hx)) := by
  cases hf : (s.p.h.filter (fun e => e.1.1 == pfx txid && e.1.2.1 == idx)).find?
      (fun e => resolve s e.1.2.2 == some txid) with
  | none =>
    -- the row of a resident output with that outpoint would have been selected
    have hnone : outAt V txid idx = none := by
      rw [outAt_eq_none_iff]
      rintro u hu ⟨h1, h2⟩
      refine List.find?_eq_none.mp hf (hkey u, u.hx)
        (List.mem_filter.mpr ⟨(r.hRows _).mpr ⟨u, hu, rfl⟩, ?_⟩) ?_
      · simp only [hkey, h1, h2, beq_self_eq_true, Bool.and_self]
      · simp only [hkey, r.res u hu, h1, beq_self_eq_true]
    rw [hnone, Option.map_none]
  | some e =>
    obtain ⟨he, hsel⟩ := List.mem_filter.mp (List.mem_of_find?_eq_some hf)
    obtain ⟨x, hx, rfl⟩ := (r.hRows e).mp he
    have hres := List.find?_some hf
    simp only [hkey, Bool.and_eq_true, beq_iff_eq, r.res x hx, Option.some.injEq] at hsel hres
    rw [← hres, ← hsel.2, outAt_of_mem r.nodup hx, Option.map_some]

theorem lookupHashX_rows {s : Sys} {V : List Utxo} (r : RowsOf s V) (txid : Hash) (idx : Nat) :
    lookupHashX s txid idx = (outAt V txid idx).map (fun u => (u.hx, u.txnum)) := by
  rw [lookupHashX_unfold, r.find_cand]
  cases outAt V txid idx <;> rfl

theorem lookupUtxo_rows {s : Sys} {V : List Utxo} (r : RowsOf s V) (txid : Hash) (idx : Nat) :
    lookupUtxo s txid idx = lookupIn V txid idx := by
  rw [← lookupUtxoSplit_self false, lookupUtxoSplit, lookupHashX_rows r, lookupIn]
  cases h : outAt V txid idx with
  | none => rfl
  | some u =>
    obtain ⟨hu, -, rfl⟩ := outAt_some h
    rw [Option.map_some, lookupValue_unfold, r.alookup_of_mem hu]
    rfl

theorem spendFromDb_skip {s : Sys} {txid : Hash} {idx ncand : Nat} (hn : ncand > 1)
    {pre : List (HKey × HashX)}
    (hpre : ∀ e ∈ pre, ∃ t, resolve s e.1.2.2 = some t ∧ t ≠ txid) (L : List (HKey × HashX)) :
    spendFromDb s txid idx ncand (pre ++ L) = spendFromDb s txid idx ncand L := by
  induction pre with
  | nil => rfl
  | cons e pre ih =>
    obtain ⟨t, ht, hne⟩ := hpre e List.mem_cons_self
    rw [resolve] at ht
    simp only [List.cons_append, spendFromDb, if_pos hn, ht, bne_iff_ne.mpr hne]
    exact ih fun e he => hpre e (List.mem_cons_of_mem _ he)

theorem spendFromDb_hit {s : Sys} {txid : Hash} {idx ncand : Nat} {hk : HKey} {hx : HashX} {v : Nat}
    (hres : ncand > 1 → resolve s hk.2.2 = some txid)
    (hv : alookup (hx, idx, hk.2.2) s.p.u = some v) (L : List (HKey × HashX)) :
    spendFromDb s txid idx ncand ((hk, hx) :: L) =
      .ok (some (⟨hx, hk.2.2, v⟩, hk, (hx, idx, hk.2.2))) := by
  rw [spendFromDb]
  by_cases hn : ncand > 1
  · have := hres hn
    rw [resolve] at this
    simp only [hn, if_true, this, bne_self_eq_false, hv]
  · simp only [hn, if_false, hv]

/-- `spend_utxo` from the rows is `lookup_hashX` followed by the `u` row: the candidates before the
    row `lookup_hashX` selects fail the hash check, the selected one passes it -/
theorem spendUtxo_rows {s : Sys} {V : List Utxo} (r : RowsOf s V) {u : Utxo}
    (hc : alookup (opOf u) s.m.cache = none) (hu : u ∈ V) :
    spendUtxo s u.txid u.idx =
      .ok (cvOf u, { s with m := { s.m with deletes := s.m.deletes ++ [.h (hkey u), .u (ukey u)] } }) := by
  have hf := r.find_cand u.txid u.idx
  rw [outAt_of_mem r.nodup hu, Option.map_some] at hf
  obtain ⟨-, pre, post, hcands, hpre⟩ := List.find?_eq_some_iff_append.mp hf
  have hit := fun n => spendFromDb_hit (s := s) (txid := u.txid) (idx := u.idx) (hk := hkey u)
    (ncand := n) (fun _ => r.res u hu) (r.alookup_of_mem hu) post
  rw [spendUtxo, show alookup (u.txid, u.idx) s.m.cache = none from hc, hcands]
  by_cases hn : (pre ++ (hkey u, u.hx) :: post).length > 1
  · rw [spendFromDb_skip hn, hit]
    · rfl
    · intro e he
      obtain ⟨x, hx, rfl⟩ := (r.hRows e).mp
        (List.mem_filter.mp (hcands ▸ List.mem_append_left _ he)).1
      refine ⟨x.txid, r.res x hx, fun h => ?_⟩
      have := hpre _ he
      rw [show resolve s (hkey x, x.hx).1.2.2 = some x.txid from r.res x hx, h] at this
      exact absurd this (by simp)
  · obtain rfl : pre = [] := List.eq_nil_of_length_eq_zero (by
      rw [List.length_append, List.length_cons] at hn; omega)
    rw [List.nil_append, hit]
    rfl

end EV.Index
