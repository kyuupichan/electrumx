import EV.Proofs.CrashFlush

/-!
If two restarted systems have the same memory, the same tables, and files that agree up to the
committed height / tx count, every function of the read path gives the same answer on both: the
read path never looks beyond the committed lengths (`fs_tx_hash` returns no hash above
`DB.state.height`; `bisect_right` on a non-decreasing `tx_counts` bounds the tx number).
-/
namespace EV.Index

/-- every answer of the read path (and the state it reports) -/
structure ObsEq (a b : Sys) : Prop where
  state : b.m.dbst = a.m.dbst
  fsTxHash : ∀ n, fsTxHash b n = fsTxHash a n
  utxos : ∀ hx, allUtxos b hx = allUtxos a hx
  hist : ∀ hx limit, limitedHistory b hx limit = limitedHistory a hx limit
  lookup : ∀ txid idx, lookupUtxo b txid idx = lookupUtxo a txid idx
  txHashes : ∀ height, txHashesAt b height = txHashesAt a height
  headers : ∀ start count, readHeaders b start count = readHeaders a start count

theorem le_getLast_of_pairwise {c : Nat} {cs : List Nat} (h : (c :: cs).Pairwise (· ≤ ·)) :
    c ≤ (c :: cs).getLast?.getD 0 := by
  cases cs with
  | nil => simp
  | cons d ds =>
    have hmem : (c :: d :: ds).getLast?.getD 0 ∈ d :: ds := by
      rw [List.getLast?_cons_cons]
      have := List.getLast?_eq_some_getLast (l := d :: ds) (by simp)
      rw [this]
      exact List.getLast_mem _
    exact (List.pairwise_cons.mp h).1 _ hmem

theorem lt_getD_bisectRight (tc : List Nat) (n : Nat) (h : bisectRight tc n < tc.length) :
    n < tc.getD (bisectRight tc n) 0 := by
  induction tc with
  | nil => cases h
  | cons c cs ih =>
    unfold bisectRight at h ⊢
    split
    · next hc =>
      rw [if_pos hc, List.length_cons] at h
      rw [Nat.add_comm, List.getD_cons_succ]
      exact ih (by omega)
    · next hc => exact Nat.lt_of_not_le hc

theorem getD_le_getLast (tc : List Nat) (hm : tc.Pairwise (· ≤ ·)) (i : Nat) :
    tc.getD i 0 ≤ tc.getLast?.getD 0 := by
  induction tc generalizing i with
  | nil => simp
  | cons c cs ih =>
    cases i with
    | zero => simpa using le_getLast_of_pairwise hm
    | succ i =>
      simp only [List.getD_cons_succ]
      cases cs with
      | nil => simp
      | cons d ds =>
        rw [List.getLast?_cons_cons]
        exact ih (List.pairwise_cons.mp hm).2 i

theorem obsEq_of_reads {a b : Sys} (hm : b.m = a.m) (hh : b.p.h = a.p.h) (hu : b.p.u = a.p.u)
    (hhist : b.p.hist = a.p.hist) (hfs : ∀ n, fsTxHash b n = fsTxHash a n)
    (htx : ∀ height, txHashesAt b height = txHashesAt a height)
    (hhdr : ∀ start count, readHeaders b start count = readHeaders a start count) : ObsEq a b := by
  have hfun : fsTxHash b = fsTxHash a := funext hfs
  refine ⟨by rw [hm], hfs, ?_, ?_, ?_, htx, hhdr⟩
  · intro hx
    simp only [allUtxos, hu, hfun]
  · intro hx limit
    simp only [limitedHistory, getTxnums, hhist, hfun]
  · intro txid idx
    simp only [lookupUtxo, hh, hu, hfun]

/-- `hle`: no committed block's cumulative tx count is above the committed tx count (so a tx number that
    `bisect_right` places in a committed block is below it). -/
theorem obsEq_of_committed {a b : Sys} (hm : b.m = a.m) (hh : b.p.h = a.p.h) (hu : b.p.u = a.p.u)
    (hhist : b.p.hist = a.p.hist)
    (hhdr : b.p.headers.take (a.m.dbst.height + 1).toNat = a.p.headers.take (a.m.dbst.height + 1).toNat)
    (hhsh : b.p.hashes.take a.m.dbst.txCount = a.p.hashes.take a.m.dbst.txCount)
    (hlen : (a.m.dbst.height + 1).toNat ≤ a.m.txCounts.length)
    (hle : ∀ i : Nat, (i : Int) ≤ a.m.dbst.height → a.m.txCounts.getD i 0 ≤ a.m.dbst.txCount) :
    ObsEq a b := by
  refine obsEq_of_reads hm hh hu hhist (fun n => ?_) (fun height => ?_) (fun start count => ?_)
  · simp only [fsTxHash, hm]
    split
    · rfl
    · next hgt =>
      have hk : (bisectRight a.m.txCounts n : Int) ≤ a.m.dbst.height := Int.not_lt.mp hgt
      rw [getElem?_eq_of_take_eq hhsh
        (Nat.lt_of_lt_of_le (lt_getD_bisectRight _ n (by omega)) (hle _ hk))]
  · rw [txHashesAt, txHashesAt, hm]
    by_cases hgt : (height : Int) > a.m.dbst.height
    · rw [if_pos hgt, if_pos hgt]
    · rw [if_neg hgt, if_neg hgt]
      refine congrArg some ?_
      -- the block's hashes end at its cumulative count
      generalize (if height > 0 then a.m.txCounts.getD (height - 1) 0 else 0) = first
      by_cases hf : first ≤ a.m.txCounts.getD height 0
      · apply drop_take_of_take_eq hhsh
        rw [Nat.add_sub_cancel' hf]
        exact hle height (Int.not_lt.mp hgt)
      · rw [Nat.sub_eq_zero_of_le (Nat.le_of_not_le hf), List.take_zero, List.take_zero]
  · simp only [readHeaders, hm]
    exact drop_take_min_of_take_eq hhdr start count (Nat.le_refl _)

theorem openTxCounts_some {p2 : Store} {st : CState} {l : List Nat}
    (h : openTxCounts p2 st none = some l) :
    l = p2.txcounts.take (st.height + 1).toNat ∧ l.length = (st.height + 1).toNat ∧
      l.getLast?.getD 0 = st.txCount := by
  simp only [openTxCounts] at h
  split at h
  · next hc =>
    simp only [Bool.and_eq_true, beq_iff_eq] at hc
    simp only [Option.some.injEq] at h
    subst h
    exact ⟨rfl, hc.1, hc.2⟩
  · simp at h

theorem obsEq_of_recoversSame {cfg : Cfg} {p q : Store} (R : RecoversSame cfg p q)
    {e0 : List Effect} {r0 : Sys} (h0 : recover cfg p = some (e0, r0))
    (hmono : r0.m.txCounts.Pairwise (· ≤ ·)) :
    ∃ e r, recover cfg q = some (e, r) ∧ ObsEq r0 r := by
  rw [recover_eq] at h0
  obtain ⟨l, hl, h0⟩ := Option.map_eq_some_iff.mp h0
  cases h0
  obtain ⟨-, hlen, hlast⟩ := openTxCounts_some hl
  refine ⟨_, _, by rw [recover_eq, R.txc, hl]; rfl, ?_⟩
  exact obsEq_of_committed (congrArg (openMem · l) R.state) R.h R.u R.hist R.headers R.hashes
    (Nat.le_of_eq hlen.symm) fun i _ => hlast ▸ getD_le_getLast l hmono i

end EV.Index
