import EV.Model.Index
import EV.Proofs.ListX

/-!
The index model in a form the kernel can evaluate on literals.  `List.mergeSort` is defined by well-founded
recursion, which the kernel does not reduce on lists of two or more elements; a stable insertion sort is
structural and gives the same list (`mergeSort_eq_foldr`).  The model sorts in `get_txnums`, in `History.flush`
(`sortByKey`), in `clear_excess_undo_info` (`clearUndoKeys`) and twice in `History.backup` (`histRowsDesc`,
`histBackupEffect`); none of these sits under a recursion, so an equation each is enough: `simp only` with the
definitions on the path (`runOps2`, `stepOp2` of `IndexRunReorg`; `flush`, `flushDbs`, `histFlushEffect`; `openDbs`, `openStore`, `openUndoEffects`) rewrites them where they stand, under the binders of
a run, without evaluating anything, and `decide +kernel` evaluates the rest.
-/
namespace EV.Index

def insertBy {α : Type} (le : α → α → Bool) (a : α) : List α → List α
  | [] => [a]
  | b :: l => if le a b then a :: b :: l else b :: insertBy le a l

theorem insertBy_append {α : Type} {le : α → α → Bool} {a : α} {l₁ l₂ : List α}
    (h1 : ∀ b ∈ l₁, le a b = false) (h2 : ∀ b ∈ l₂, le a b = true) :
    insertBy le a (l₁ ++ l₂) = l₁ ++ a :: l₂ := by
  induction l₁ with
  | nil =>
    cases l₂ with
    | nil => rfl
    | cons b l => simp only [List.nil_append, insertBy, h2 b List.mem_cons_self, if_true]
  | cons b l ih =>
    simp only [List.cons_append, insertBy, h1 b List.mem_cons_self]
    rw [ih (fun c hc => h1 c (List.mem_cons_of_mem _ hc))]
    rfl

/-- merge sort is stable: the head goes behind exactly the elements strictly below it -/
theorem mergeSort_eq_foldr {α : Type} {le : α → α → Bool}
    (trans : ∀ a b c, le a b → le b c → le a c) (total : ∀ a b, le a b || le b a) (l : List α) :
    l.mergeSort le = l.foldr (insertBy le) [] := by
  induction l with
  | nil => exact List.mergeSort_nil
  | cons a l ih =>
    obtain ⟨l₁, l₂, h1, h2, h3⟩ := List.mergeSort_cons trans total a l
    have hs := List.pairwise_mergeSort trans total (a :: l)
    rw [h1] at hs
    rw [List.foldr_cons, ← ih, h1, h2]
    symm
    apply insertBy_append
    · intro b hb; simpa using h3 b hb
    · exact (List.pairwise_cons.mp (List.pairwise_append.mp hs).2.1).1

theorem getTxnums_eval (p : Store) (hx : HashX) :
    getTxnums p hx none =
      ((p.hist.filter (fun e => e.1.1 == hx)).foldr
        (insertBy (fun a b => decide (a.1.2 ≤ b.1.2))) []).flatMap (·.2) := by
  unfold getTxnums
  rw [mergeSort_eq_foldr (keyLe_trans fun e : (HashX × Nat) × List Nat => e.1.2) (keyLe_total _)]

theorem sortByKey_eval {ν : Type} (l : List (Nat × ν)) :
    sortByKey l = l.foldr (insertBy (fun a b => decide (a.1 ≤ b.1))) [] :=
  mergeSort_eq_foldr (keyLe_trans fun e : Nat × ν => e.1) (keyLe_total _) l

theorem clearUndoKeys_eval (undo : List (Nat × List CacheVal)) (minHeight : Int) :
    clearUndoKeys undo minHeight =
      List.takeWhile (fun h : Nat => decide ((h : Int) < minHeight))
        ((undo.map (·.1)).foldr (insertBy (fun a b : Nat => decide (a ≤ b))) []) := by
  unfold clearUndoKeys
  rw [mergeSort_eq_foldr (keyLe_trans fun e : Nat => e) (keyLe_total _)]

theorem histRowsDesc_eval (hist : List ((HashX × Nat) × List Nat)) (hx : HashX) :
    histRowsDesc hist hx =
      (hist.filter (fun e => e.1.1 == hx)).foldr (insertBy (fun a b => decide (a.1.2 ≥ b.1.2))) [] :=
  mergeSort_eq_foldr (fun a b c h1 h2 => keyLe_trans (fun e : (HashX × Nat) × List Nat => e.1.2) c b a h2 h1)
    (fun a b => keyLe_total (fun e : (HashX × Nat) × List Nat => e.1.2) b a) _

theorem histBackupEffect_eval (s : Sys) (touched : List HashX) (txCount : Nat) :
    histBackupEffect s touched txCount =
      .histBatch
        ((((touched.eraseDups).foldr (insertBy (fun a b => decide (a ≤ b))) []).map
          (fun hx => histBackupOne txCount (histRowsDesc s.p.hist hx))).flatMap (·.1))
        ((((touched.eraseDups).foldr (insertBy (fun a b => decide (a ≤ b))) []).map
          (fun hx => histBackupOne txCount (histRowsDesc s.p.hist hx))).flatMap (·.2))
        { hstateOf s.m with flushCount := s.m.histFlush + 1 } := by
  unfold histBackupEffect
  rw [mergeSort_eq_foldr (keyLe_trans fun e : Nat => e) (keyLe_total _)]

end EV.Index
