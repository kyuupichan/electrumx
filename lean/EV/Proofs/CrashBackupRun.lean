import EV.Proofs.CrashResume
import EV.Proofs.CrashRedo

/-!
Crashes inside back-outs of whole runs (C05 over runs).  The history table is write-only for the sync: replacing
the history table of a system by ANY other table changes the outcome of no run operation (`advance_block`, either
flush, a back-out, a restart): same error, or the same new memory and the same new store except, again, for the
history table.  `HRel a b` — `ResEq` up to the history table; `Twin cfg t a b` — `HRel a b` and BOTH states in the
run invariant for the same bookkeeping `t`, so every read-path answer of `b` is `a`'s (the history answers because
both tables are the specification's histories of the same chain).  `redo_twin` is the cut between the two batches
of a back-out, seen from the state it was issued in; `twin_backup_mid` the same at a `Twin` pair.
-/
namespace EV.Index
open EV.Spec


theorem getTxnums_of_flushed {cfg : Cfg} {chain : List Block} {s : Sys} (base : FullInv cfg chain s)
    (hfl : s.m.dbst.height = s.m.st.height) (hx : HashX) :
    getTxnums s.p hx none = historyOf (specChain cfg.act chain) hx := by
  have h := base.hist.eq hx
  rw [(flushed_of_db base hfl).2.2.1] at h
  simpa only [unfOf, alookup_nil, Option.getD_none, List.append_nil] using h

/-- **`FlushedB` holds in every fully flushed state of the whole-run invariant** that has indexed at
least one block (`backup_block` is only ever admissible above height 0) when some undo information
is retained at all. -/
theorem flushedB_of_fullInv' {cfg : Cfg} {chain : List Block} {K : List Nat} {s : Sys}
    (inv : FullInv' cfg chain K s) (hfl : s.m.dbst.height = s.m.st.height) (hpos : 0 ≤ s.m.st.height)
    (hlim : 0 < cfg.reorgLimit) : FlushedB cfg s := by
  have base := inv.base
  have f := base.files
  have hdb : s.m.dbst = s.m.st := inv.dbEq hfl
  obtain ⟨-, -, -, -, hfs⟩ := flushed_of_db base hfl
  have hall := f.stK
  have htake := txcounts_committed f
  rw [hfl, hall, List.take_length] at htake
  refine ⟨assertFlushed_of_inv base hfl.symm, ?_, hdb, ?_, ?_, ?_, base.hist.wf.keys, ?_, ?_, ?_, hlim⟩
  · rcases base.ustate with ⟨-, h2⟩ | h
    · rw [h2] at hfl
      have : (-1 : Int) = s.m.st.height := hfl
      omega
    · rw [h, hdb]
  · rw [hall, htake]; exact f.txCounts
  · rw [f.txCounts, cumCounts_length, hall]
  · rw [f.txCounts, cumCounts_getLast, f.stTx]
  · intro e he
    have := inv.histIds hfl e he
    rw [hdb] at this
    exact this
  · intro hx
    rw [getTxnums_of_flushed base hfl hx]
    exact historyOf_pairwise _ _
  · have := inv.fcLe
    rw [hdb] at this
    exact this


def setH (p : Store) (H : List ((HashX × Nat) × List Nat)) : Store := { p with hist := H }

def withHist (s : Sys) (H : List ((HashX × Nat) × List Nat)) : Sys := { m := s.m, p := setH s.p H }

theorem withHist_self (s : Sys) : withHist s s.p.hist = s := rfl

theorem withHist_withHist (s : Sys) (H H' : List ((HashX × Nat) × List Nat)) :
    withHist (withHist s H) H' = withHist s H' := rfl

theorem withHist_eq_swp (s : Sys) (H : List ((HashX × Nat) × List Nat)) :
    withHist s H = swp (setH s.p H) s := rfl

theorem agree_setH (s : Sys) (H : List ((HashX × Nat) × List Nat)) : UView s (swp (setH s.p H) s) :=
  ⟨rfl, rfl, rfl, rfl, fun _ => rfl⟩

theorem applyEffect_setH (p : Store) (H : List ((HashX × Nat) × List Nat)) (e : Effect) :
    applyEffect (setH p H) e = setH (applyEffect p e) (applyEffect (setH p H) e).hist := by
  rw [applyEffect_eq, applyEffect_eq]; rfl

theorem applyEffects_setH (es : List Effect) (p : Store) (H : List ((HashX × Nat) × List Nat)) :
    applyEffects (setH p H) es = setH (applyEffects p es) (applyEffects (setH p H) es).hist := by
  induction es generalizing p H with
  | nil => rfl
  | cons e r ih =>
    show applyEffects (applyEffect (setH p H) e) r = setH (applyEffects (applyEffect p e) r) _
    have h1 := applyEffect_setH p H e
    have h2 := ih (applyEffect p e) (applyEffect (setH p H) e).hist
    rw [← h1] at h2
    exact h2

/-- equal but for the history table -/
def HOE : Except Err Sys → Except Err Sys → Prop := ExceptRel fun x y => ∃ H, y = withHist x H

theorem advance_withHist (cfg : Cfg) (d : Int) (s : Sys) (H : List ((HashX × Nat) × List Nat)) (b : Block) :
    HOE (advance cfg d s b) (advance cfg d (withHist s H) b) := by
  rw [withHist_eq_swp, advance_swp cfg d b (agree_setH s H)]
  cases hadv : advance cfg d s b with
  | error e => exact rfl
  | ok s' =>
    obtain ⟨hp, -⟩ := advance_keeps hadv
    refine ⟨H, ?_⟩
    show swp (setH s.p H) s' = withHist s' H
    rw [withHist_eq_swp, hp]

theorem flush_withHist (s : Sys) (H : List ((HashX × Nat) × List Nat)) (fu : Bool) :
    HOE (flush s fu) (flush (withHist s H) fu) := by
  unfold flush
  rw [flushDbs_congr (a := s) (b := withHist s H) rfl fu]
  cases hf : flushDbs s fu with
  | none => exact rfl
  | some r =>
    obtain ⟨es, m'⟩ := r
    refine ⟨(applyEffects (setH s.p H) es).hist, ?_⟩
    show (⟨m', applyEffects (setH s.p H) es⟩ : Sys) = ⟨m', setH (applyEffects s.p es) _⟩
    rw [← applyEffects_setH]

theorem two_batch_frame (p : Store) (H : List ((HashX × Nat) × List Nat))
    (d1 d2 : List (HashX × Nat)) (p1 p2 : List ((HashX × Nat) × List Nat)) (st : HState) (e2 : Effect) :
    applyEffects (setH p H) [.histBatch d2 p2 st, e2] =
      setH (applyEffects p [.histBatch d1 p1 st, e2]) (applyEffects (setH p H) [.histBatch d2 p2 st, e2]).hist := by
  show applyEffect (applyEffect _ _) e2 = setH (applyEffect (applyEffect p _) e2) (applyEffect (applyEffect _ _) e2).hist
  have h1 : applyEffect (setH p H) (.histBatch d2 p2 st) =
      setH (applyEffect p (.histBatch d1 p1 st)) (applyEffect (setH p H) (.histBatch d2 p2 st)).hist := rfl
  rw [h1]
  exact applyEffect_setH _ _ e2

theorem backup_withHist (cfg : Cfg) (s : Sys) (H : List ((HashX × Nat) × List Nat)) (b : Block) :
    HOE (backup cfg s b) (backup cfg (withHist s H) b) := by
  unfold backup
  rw [withHist_eq_swp, backupFull_swpH cfg b (agree_setH s H) rfl]
  cases hb : backupFull cfg s b with
  | error e => exact rfl
  | ok r =>
    obtain ⟨es, s'⟩ := r
    obtain ⟨e2, -, rfl, hp, -⟩ := backupFull_explicit hb
    refine ⟨(applyEffects (setH s.p H)
      [histBackupEffect (swp (setH s.p H) s) s'.m.touched s'.m.st.txCount, e2]).hist, ?_⟩
    show (⟨s'.m, applyEffects (setH s.p H) [_, e2]⟩ : Sys) = ⟨s'.m, setH s'.p _⟩
    rw [hp]
    simp only [histBackupEffect]
    exact congrArg (Sys.mk s'.m) (two_batch_frame s.p H _ _ _ _ _ e2)

theorem openStore_setH (cfg : Cfg) (p : Store) (H : List ((HashX × Nat) × List Nat)) :
    openStore cfg (setH p H) = setH (openStore cfg p) (openStore cfg (setH p H)).hist := by
  rw [openStore_fields, openStore_fields]; rfl

theorem openState_setH (p : Store) (H : List ((HashX × Nat) × List Nat)) (c : Bool) :
    openState (setH p H) c = openState p c := by
  simp only [openState, openHistState_eq]
  rfl

theorem reopen_withHist (cfg : Cfg) (s : Sys) (H : List ((HashX × Nat) × List Nat)) :
    HOE (reopen cfg s) (reopen cfg (withHist s H)) := by
  have hrec : recover cfg (setH s.p H) = _ :=
    recover_mem (openState_setH s.p H false) (by rw [openState_setH, openStore_setH]; rfl)
  unfold reopen
  rw [show openDbs cfg (withHist s H).p false none = _ from hrec]
  cases h0 : recover cfg s.p with
  | none => rw [show openDbs cfg s.p false none = none from h0]; exact rfl
  | some x =>
    rw [show openDbs cfg s.p false none = some x from h0]
    refine ⟨(openStore cfg (setH s.p H)).hist, ?_⟩
    show Sys.mk x.2.m _ = Sys.mk x.2.m (setH x.2.p _)
    rw [(recover_effects h0).2, ← openStore_setH]

/-- **The history table is write-only for the sync.**  Replacing the history table of a system by
ANY other table changes the outcome of no run operation: the same error, or the same new memory and
the same new store except for the history table. -/
theorem histOnly_step (cfg : Cfg) (s : Sys) (H : List ((HashX × Nat) × List Nat)) (op : IOp2) :
    HOE (stepOp2 cfg s op) (stepOp2 cfg (withHist s H) op) := by
  cases op with
  | adv blk d => exact advance_withHist cfg d s H blk
  | flush fu => exact flush_withHist s H fu
  | backup blk => exact backup_withHist cfg s H blk
  | reopen => exact reopen_withHist cfg s H


/-- same memory, same `h`/`u`/undo tables, same UTXO state record, same history flush count, files
    equal up to the file pointers — the history TABLES are not compared -/
def HRel (a b : Sys) : Prop := ResEq a (withHist b a.p.hist)

def HRelE : Except Err Sys → Except Err Sys → Prop := ExceptRel HRel

theorem HRel.refl (a : Sys) : HRel a a := ResEq.refl a

theorem HRel.of_resEq {a b : Sys} (R : ResEq a b) : HRel a b := by
  have : withHist b a.p.hist = b := by
    show withHist b a.p.hist = withHist b b.p.hist
    rw [R.hist]
  show ResEq a (withHist b a.p.hist)
  rw [this]; exact R

theorem HRel.m {a b : Sys} (R : HRel a b) : b.m = a.m := ResEq.m (b := withHist b a.p.hist) R
theorem HRel.undo {a b : Sys} (R : HRel a b) : b.p.undo = a.p.undo := ResEq.undo (b := withHist b a.p.hist) R
theorem HRel.h {a b : Sys} (R : HRel a b) : b.p.h = a.p.h := ResEq.h (b := withHist b a.p.hist) R
theorem HRel.u {a b : Sys} (R : HRel a b) : b.p.u = a.p.u := ResEq.u (b := withHist b a.p.hist) R
theorem HRel.ustate {a b : Sys} (R : HRel a b) : b.p.ustate = a.p.ustate :=
  ResEq.ustate (b := withHist b a.p.hist) R

theorem hrelE_of {x y z : Except Err Sys} (h1 : ResEqE x y) (h2 : HOE y z) : HRelE x z := by
  rw [resEqE_eq] at h1
  refine ExceptRel.comp (fun {a' b0 b'} (R' : ResEq a' b0) h => ?_) h1 h2
  obtain ⟨H', rfl⟩ := h
  show ResEq a' (withHist (withHist b0 H') a'.p.hist)
  rw [withHist_withHist, ← R'.hist, withHist_self]
  exact R'

/-- **One operation.**  In every state `a` of the reference run (whole-system invariant) and every
`HRel` state `b`, each run operation — `advance_block` of ANY block, a flush of either kind, a
back-out of ANY block, a restart — fails on both with the same error or succeeds on both with `HRel`
results. -/
theorem hrel_step {cfg : Cfg} {chain : List Block} {a b : Sys} (inv : FullInv cfg chain a)
    (R : HRel a b) (op : IOp2) : HRelE (stepOp2 cfg a op) (stepOp2 cfg b op) := by
  have h2 := histOnly_step cfg (withHist b a.p.hist) b.p.hist op
  rw [withHist_withHist, withHist_self] at h2
  exact hrelE_of (resEq_step inv R op) h2


/-- `b` is `HRel` to the reference state `a` and BOTH satisfy the run invariant for the same
    bookkeeping (surviving chain, retained heights, committed length) -/
structure Twin (cfg : Cfg) (t : Track) (a b : Sys) : Prop where
  ta : TrackInv cfg t a
  tb : TrackInv cfg t b
  rel : HRel a b

/-- **One admissible operation** succeeds on both and keeps `Twin`. -/
theorem twin_step {cfg : Cfg} {t : Track} {a b : Sys} (T : Twin cfg t a b) (op : IOp2)
    (hok : OkOp cfg t op) :
    ∃ a' b', stepOp2 cfg a op = .ok a' ∧ stepOp2 cfg b op = .ok b' ∧ Twin cfg (t.step cfg op) a' b' := by
  obtain ⟨a', ha, ta'⟩ := trackInv_step T.ta op hok
  obtain ⟨b', hb, tb'⟩ := trackInv_step T.tb op hok
  have h := hrel_step (cfg := cfg) T.ta.inv.base T.rel op
  rw [ha, hb] at h
  exact ⟨a', b', ha, hb, ta', tb', h⟩

/-- **Whole runs.**  Every valid operation list runs without error on both sides and keeps `Twin`. -/
theorem twin_run {cfg : Cfg} (ops : List IOp2) {t : Track} {a b : Sys} (T : Twin cfg t a b)
    (hv : ValidOps2 cfg t ops) :
    ∃ a' b', runOps2 cfg a ops = .ok a' ∧ runOps2 cfg b ops = .ok b' ∧
      Twin cfg (t.run cfg ops) a' b' :=
  run_pair (Rel := Twin cfg) (fun op T hop => twin_step T op hop) ops T hv

theorem Twin.next {cfg : Cfg} {t : Track} {a b : Sys} (T : Twin cfg t a b) (op : IOp2) :
    HRelE (stepOp2 cfg a op) (stepOp2 cfg b op) :=
  hrel_step (cfg := cfg) T.ta.inv.base T.rel op

theorem getTxnums_of_none {p q : Store} (h : ∀ hx, getTxnums q hx none = getTxnums p hx none)
    (hx : HashX) (limit : Option Nat) : getTxnums q hx limit = getTxnums p hx limit := by
  cases limit with
  | none => exact h hx
  | some n => rw [getTxnums_some, getTxnums_some, h hx]

/-- the histories (`get_txnums`) of the two sides are equal: both are the specification's -/
theorem Twin.txnums {cfg : Cfg} {t : Track} {a b : Sys} (T : Twin cfg t a b) (hx : HashX)
    (limit : Option Nat) : getTxnums b.p hx limit = getTxnums a.p hx limit := by
  apply getTxnums_of_none
  intro hx
  have h1 := T.ta.inv.base.hist.eq hx
  have h2 := T.tb.inv.base.hist.eq hx
  rw [T.rel.m, ← h1] at h2
  exact List.append_cancel_right h2

/-- **every read-path answer of `b` is `a`'s** -/
theorem Twin.obs {cfg : Cfg} {t : Track} {a b : Sys} (T : Twin cfg t a b) : ObsEq a b := by
  have o : ObsEq a (withHist b a.p.hist) := obsEq_of_resEq T.ta.inv.base.files T.rel
  refine ⟨o.state, o.fsTxHash, o.utxos, ?_, o.lookup, o.txHashes, o.headers⟩
  intro hx limit
  have hfs : ∀ n, fsTxHash b n = fsTxHash a n := o.fsTxHash
  simp only [limitedHistory, T.txnums hx limit, hfs]

/-- `read_undo_info` of every height, on disk and pending -/
theorem Twin.undoRows {cfg : Cfg} {t : Track} {a b : Sys} (T : Twin cfg t a b) (h : Nat) :
    alookup h b.p.undo = alookup h a.p.undo ∧ undoLookup b h = undoLookup a h :=
  ResEq.undoRows (b := withHist b a.p.hist) T.rel h

theorem Twin.flushDbs {cfg : Cfg} {t : Track} {a b : Sys} (T : Twin cfg t a b) (fu : Bool) :
    EV.Index.flushDbs b fu = EV.Index.flushDbs a fu := flushDbs_congr T.rel.m fu


/-- **What the run invariant needs of the history table.**  In a fully flushed invariant state the
history table may be replaced by any table with unique keys, no id above the UTXO flush count and the
same histories (`get_txnums` of every script hash). -/
theorem fullInv'_withHist {cfg : Cfg} {chain : List Block} {K : List Nat} {a : Sys}
    (inv : FullInv' cfg chain K a) (hfl : a.m.dbst.height = a.m.st.height)
    (H : List ((HashX × Nat) × List Nat)) (hkeys : (H.map (·.1)).Nodup)
    (hids : ∀ e ∈ H, e.1.2 ≤ a.m.dbst.flushCount)
    (heq : ∀ hx, getTxnums (setH a.p H) hx none = getTxnums a.p hx none) :
    FullInv' cfg chain K (withHist a H) := by
  have base := inv.base
  have f := base.files
  obtain ⟨D, Del, w⟩ := base.rep
  refine
    { inv with
      base :=
        { base with
          rep := ⟨D, Del, repSysW_congr w rfl rfl rfl rfl (fun u hu => w.res u hu)⟩
          hist := ⟨⟨hkeys, fun e he => Nat.le_trans (hids e he) inv.fcLe⟩, base.hist.unfKeys, ?_⟩
          files := { f with } }
      undo := undoInv_congr inv.undo (fun k _ => rfl)
      histIds := fun _ => hids
      db := { inv.db with hist := ?_ } }
  · intro hx
    rw [← base.hist.eq hx]
    exact congrArg (· ++ unfOf a.m.unflushed hx) (heq hx)
  · intro hx
    have h0 := inv.db.hist hx
    rw [histUpTo_self (inv.histIds hfl)] at h0
    show getTxnums { setH a.p H with hist := histUpTo H a.m.dbst.flushCount } hx none =
      historyOf (specChain cfg.act (chain.take (a.m.dbst.height + 1).toNat)) hx
    rw [← h0, histUpTo_self hids]
    exact heq hx


/-- `_open_dbs` looks at the history DB only through `clear_excess`; `hmin`: the two history flush counts fall
on the same side of the UTXO one, or are equal below it -/
theorem recover_histSide {cfg : Cfg} {p : Store} (H : List ((HashX × Nat) × List Nat)) (S : Option HState)
    (hmin : min (S.getD {}).flushCount (p.ustate.getD {}).flushCount =
      min (p.hstate.getD {}).flushCount (p.ustate.getD {}).flushCount)
    {e0 : List Effect} {r0 : Sys} (h0 : recover cfg p = some (e0, r0)) :
    ∃ e r, recover cfg { p with hist := H, hstate := S } = some (e, r) ∧
      r = { m := r0.m, p := { r0.p with hist := r.p.hist, hstate := r.p.hstate } } ∧
      (r.p.hstate.getD {}).flushCount = (r0.p.hstate.getD {}).flushCount := by
  have hst : openState { p with hist := H, hstate := S } false = openState p false := by
    rw [openState_eq, openState_eq, hmin]
  have hrec := recover_mem (cfg := cfg) hst
    (by rw [hst]; exact openTxCounts_congr _ (by rw [openStore_txcounts, openStore_txcounts]))
  rw [h0] at hrec
  refine ⟨_, _, hrec, ?_, ?_⟩
  · rw [(recover_effects h0).2]
    exact congrArg (Sys.mk _) (by rw [openStore_fields, openStore_fields])
  · rw [(recover_effects h0).2]
    show ((openStore cfg _).hstate.getD {}).flushCount = _
    rw [openStore_hstate, openStore_hstate, openStore1_flushCount, openStore1_flushCount]
    exact hmin

theorem trackInv_of_hrel {cfg : Cfg} {t : Track} {a b : Sys} (ti : TrackInv cfg t a) (R : HRel a b)
    (hfl : a.m.dbst.height = a.m.st.height) (hkeys : (b.p.hist.map (·.1)).Nodup)
    (hids : ∀ e ∈ b.p.hist, e.1.2 ≤ a.m.dbst.flushCount)
    (heq : ∀ hx, getTxnums b.p hx none = getTxnums a.p hx none) : TrackInv cfg t b := by
  have t1 := trackInv_of_resEq ti R
  have hm : (withHist b a.p.hist).m = a.m := R.m
  exact ⟨fullInv'_withHist t1.inv (hm ▸ hfl) b.p.hist hkeys (hm ▸ hids) heq, t1.db⟩

/-- the restart prunes the undo rows below the window -/
theorem backupOk_reopen_iff {cfg : Cfg} {t : Track} {b : Block} (hcl : t.dbLen = t.chain.length) :
    BackupOk (t.step cfg .reopen) b = true ↔ BackupOk t b = true ∧ 0 < cfg.reorgLimit := by
  have hc : (t.step cfg .reopen).chain = t.chain := by
    show t.chain.take t.dbLen = t.chain
    rw [hcl, List.take_length]
  have hk : (t.step cfg .reopen).kept = keptAfterReopen cfg t.dbLen t.kept := rfl
  have hd : (t.step cfg .reopen).dbLen = t.dbLen := rfl
  rw [backupOk_iff, backupOk_iff, hc, hk, hd]
  simp only [keptAfterReopen, List.mem_filter, Bool.and_eq_true, decide_eq_true_eq]
  constructor
  · rintro ⟨h1, h2, h3, h4, h5, h6⟩
    exact ⟨⟨h1, h2, h3, h4⟩, by omega⟩
  · rintro ⟨⟨h1, h2, h3, h4⟩, hlim⟩
    exact ⟨h1, h2, h3, h4, by omega, by omega⟩

theorem hist_applyEffect_utxoBatch {e : Effect} (he : e.isUtxoBatch = true) (p : Store) :
    (applyEffect p e).hist = p.hist := by
  rw [applyEffect_eq]
  cases e <;> first | rfl | cases he

theorem flushed_of_backupFull {cfg : Cfg} {s s' : Sys} {b : Block} {es : List Effect}
    (h : backupFull cfg s b = .ok (es, s')) : s.m.dbst.height = s.m.st.height := by
  obtain ⟨-, h1, h2, -⟩ := assertFlushed_fields (backupFull_inv h).1
  omega

/-- **The restart after the cut between the two batches of a back-out**, seen from the state `s` of the
run invariant the back-out was issued in.  No undo window is assumed: the restart succeeds (`r`), as does
the clean restart `r0` of the store the back-out started from; `r` is `r0` with another history table —
the one the cut left, still well formed — and another representation of the history state record. -/
theorem mid_restart {cfg : Cfg} {t : Track} {s : Sys} {b : Block} (ti : TrackInv cfg t s)
    {e1 e2 : Effect} {s' : Sys} (hb : backupFull cfg s b = .ok ([e1, e2], s')) :
    ∃ er r e0 r0,
      recover cfg (applyEffects s.p [e1]) = some (er, r) ∧
      recover cfg s.p = some (e0, r0) ∧
      r = { m := r0.m, p := { r0.p with hist := r.p.hist, hstate := r.p.hstate } } ∧
      r.p.hist = (applyEffects s.p [e1]).hist ∧
      r.m.st = s.m.st ∧ r.m.dbst = s.m.st ∧
      TrackInv cfg (t.step cfg .reopen) r0 ∧
      HistWF r.p.hist s.m.st.flushCount ∧ HRel r0 r := by
  have hfl : s.m.dbst.height = s.m.st.height := flushed_of_backupFull hb
  have hdb : s.m.dbst = s.m.st := ti.inv.dbEq hfl
  obtain ⟨e2x, -, hes, -⟩ := backupFull_explicit hb
  obtain ⟨he1, -⟩ := List.cons.inj hes
  obtain ⟨r0, hr0, ti0⟩ := trackInv_step ti .reopen trivial
  obtain ⟨e0, hrec0⟩ := reopen_ok hr0
  generalize hpc' : applyEffects s.p [e1] = pc
  have hpc : pc = applyEffect s.p (histBackupEffect s s'.m.touched s'.m.st.txCount) := by
    rw [← hpc', he1]; rfl
  -- the cut store is the store of `s` with another history side …
  have hside : pc = { s.p with hist := pc.hist, hstate := pc.hstate } := by
    rw [hpc]; exact others_histBackup s _ _
  have hus := ti.inv.base.ustate_getD
  have hus' : pc.ustate.getD {} = s.m.dbst := by
    rw [show pc.ustate = s.p.ustate from (congrArg Store.ustate hside :)]; exact hus
  have pcfc : (pc.hstate.getD {}).flushCount = s.m.histFlush + 1 := by
    rw [hpc, hstate_histBackup]; rfl
  have hle : s.m.dbst.flushCount ≤ s.m.histFlush := ti.inv.fcLe
  -- … whose flush count is above the UTXO one, like that of `s`: `clear_excess` resets both alike
  obtain ⟨er, r, hrec, hr, hfc⟩ := recover_histSide pc.hist pc.hstate (by
      rw [pcfc, hus, ti.inv.hstate, Nat.min_eq_right hle, Nat.min_eq_right (Nat.le_succ_of_le hle)]) hrec0
  rw [← hside] at hrec
  have hwf : HistWF pc.hist s.m.st.flushCount := by
    rw [hpc, ← hdb]
    exact histWF_histBackup s _ _ ⟨ti.inv.base.hist.wf.keys, ti.inv.histIds hfl⟩
  -- no row of the cut store carries an id above the UTXO flush count: `clear_excess` deletes none
  have rhist : r.p.hist = pc.hist := by
    rw [(recover_effects hrec).2, openStore_hist, openStore1_hist, if_neg (by rw [pcfc, hus']; omega), hus', hdb]
    exact histUpTo_self hwf.ids
  have R0 : HRel r0 r := by
    rw [hr]
    exact ⟨rfl, rfl, rfl, rfl, rfl, rfl, hfc, rfl, rfl, rfl⟩
  -- the memory of a restart is the committed state
  obtain ⟨e0', h0'⟩ := openDbs_inv ti.inv
  have hm : r.m = (reopenSys cfg s).m := by
    rw [hr, (Prod.mk.inj (Option.some.inj (hrec0.symm.trans h0'))).2]
  exact ⟨er, r, e0, r0, hrec, hrec0, hr, rhist, by rw [hm]; exact hdb, by rw [hm]; exact hdb, ti0,
    rhist ▸ hwf, R0⟩

/-- **The cut between the two batches of a back-out, seen from the state it was issued in.**  `s`: a
state of the run invariant in which the back-out of `b` succeeds (`hb`) and would still be admissible
after a restart (`hok2`: the undo window is not empty); `[e1, e2]` the two batches of the back-out.  The
process dies between them.  Then

* the restart on the cut store succeeds (`r`), as does the clean restart `r0` of the store the
  back-out started from; `r` and `r0` have the same memory and the same store except for the history
  table (and the representation of the history state record) — `mid_restart`;
* backing `b` out again succeeds on `r` with THE SAME UTXO batch `e2`, as it does on `r0`;
* the two results are `Twin`: `HRel`, and both in the run invariant for the bookkeeping of the
  crash-free run `… reopen, backup b`. -/
theorem redo_twin {cfg : Cfg} {t : Track} {s : Sys} {b : Block} (ti : TrackInv cfg t s)
    (hok2 : BackupOk (t.step cfg .reopen) b = true)
    {e1 e2 : Effect} {s' : Sys} (hb : backupFull cfg s b = .ok ([e1, e2], s')) :
    ∃ er r e0 r0 e1' s2 f1 s2',
      recover cfg (applyEffects s.p [e1]) = some (er, r) ∧
      recover cfg s.p = some (e0, r0) ∧
      r = { m := r0.m, p := { r0.p with hist := r.p.hist, hstate := r.p.hstate } } ∧
      r.p.hist = (applyEffects s.p [e1]).hist ∧
      r.m.dbst = s.m.st ∧
      TrackInv cfg (t.step cfg .reopen) r0 ∧
      backupFull cfg r b = .ok ([e1', e2], s2) ∧
      backupFull cfg r0 b = .ok ([f1, e2], s2') ∧
      Twin cfg ((t.step cfg .reopen).step cfg (.backup b)) s2' s2 := by
  have hfl : s.m.dbst.height = s.m.st.height := flushed_of_backupFull hb
  have hht := ti.inv.base.files.height
  have hcl : t.dbLen = t.chain.length := by have h1 := ti.db; omega
  obtain ⟨hok, hlim⟩ := (backupOk_reopen_iff hcl).mp hok2
  obtain ⟨-, -, hlen, -⟩ := backupOk_iff.mp hok
  have hF : FlushedB cfg s := flushedB_of_fullInv' ti.inv hfl (by omega) hlim
  obtain ⟨er, r, e0, r0, hrec, hrec0, hr, rhist, hstr, hdbr, ti0, hwf, R0⟩ := mid_restart ti hb
  -- the repeated back-out, at the level of stores (C05_newbranch_partial) and on the crash-free side
  obtain ⟨er', r', e1', s2, hrec', hbk, -, -, -, -, -, -, -, -, -, -, hget⟩ := redo_backup hF hb
  cases hrec.symm.trans hrec'
  obtain ⟨s2', hs2', ti2'⟩ := trackInv_step ti0 (.backup b) hok2
  have R2 : HRel s2' s2 := by
    have := hrel_step (cfg := cfg) ti0.inv.base R0 (.backup b)
    rwa [hs2', backup_of_ok hbk] at this
  -- its result is in the run invariant: its history table is well formed …
  obtain ⟨e2y, he2y, hes2, hp2, -⟩ := backupFull_explicit hbk
  have hwf2 : HistWF s2.p.hist s.m.st.flushCount := by
    have hH2 : s2.p.hist = (applyEffect r.p e1').hist := by
      rw [hp2]
      exact hist_applyEffect_utxoBatch ((List.cons.inj (List.cons.inj hes2).2).1 ▸ he2y) _
    rw [hH2, (List.cons.inj hes2).1]
    exact histWF_histBackup r _ _ hwf
  -- … and holds the specification's histories of the chain without the block, like `s'` and `s2'`
  obtain ⟨s'x, hs'x, ti'⟩ := trackInv_step ti (.backup b) hok
  cases hs'x.symm.trans (backup_of_ok hb)
  have hchain2 : ((t.step cfg .reopen).step cfg (.backup b)).chain = (t.step cfg (.backup b)).chain := by
    show (t.chain.take t.dbLen).dropLast = t.chain.dropLast
    rw [hcl, List.take_length]
  have hfl' : s'.m.dbst.height = s'.m.st.height :=
    ti'.flushed (show t.chain.length - 1 = t.chain.dropLast.length by rw [List.length_dropLast])
  obtain ⟨es0, hbk0⟩ := backup_ok hs2'
  obtain ⟨e2z, -, rfl, -, -, hdb0, hfc0, -⟩ := backupFull_explicit hbk0
  have hfc2 : s2'.m.st.flushCount = s.m.st.flushCount :=
    hfc0.trans ((congrArg (·.st.flushCount) R0.m.symm).trans (congrArg CState.flushCount hstr))
  -- the UTXO batch on the clean restart is `e2` too: the two restarts show `backup_block` the same
  have he2 : e2z = e2 := by
    have v := ResEq.agree (b := withHist r r0.p.hist) ti0.inv.base.files R0
    have hsw := backupFull_swpH (q := r.p) cfg b ⟨v.cache, v.deletes, v.h, v.u, v.fs⟩ R0.undo
    rw [show swp r.p r0 = r by rw [swp, ← R0.m], hbk, hbk0] at hsw
    simp only [Except.ok.injEq, Prod.mk.injEq, List.drop_succ_cons, List.drop_zero, List.cons.injEq,
      and_true] at hsw
    exact hsw.1.2.symm
  subst he2
  have hfl2' : s2'.m.dbst.height = s2'.m.st.height := by rw [hdb0]
  have tb := trackInv_of_hrel ti2' R2 hfl2' hwf2.keys (by rw [hdb0, hfc2]; exact hwf2.ids) (fun hx => by
    rw [hget hx, getTxnums_of_flushed ti'.inv.base hfl' hx, getTxnums_of_flushed ti2'.inv.base hfl2' hx,
      hchain2])
  exact ⟨er, r, e0, r0, e1', s2, _, s2', hrec, hrec0, hr, rhist, hdbr, ti0, hbk, hbk0, ti2', tb, R2⟩


theorem ResEq.withHist {b c : Sys} (R : ResEq b c) (H : List ((HashX × Nat) × List Nat)) :
    ResEq (EV.Index.withHist b H) (EV.Index.withHist c H) :=
  ⟨R.m, ⟨R.h, R.u, R.undo, R.ustate, rfl, R.hfc, R.headers, R.txcounts, R.hashes⟩⟩

theorem HRel.trans {a b c : Sys} (h1 : HRel a b) (h2 : HRel b c) : HRel a c :=
  ResEq.trans h1 (ResEq.withHist (c := EV.Index.withHist c b.p.hist) h2 a.p.hist)

theorem Twin.trans {cfg : Cfg} {t : Track} {a b c : Sys} (T1 : Twin cfg t a b) (T2 : Twin cfg t b c) :
    Twin cfg t a c :=
  ⟨T1.ta, T2.tb, T1.rel.trans T2.rel⟩

theorem Twin.of_resEq {cfg : Cfg} {t : Track} {a b c : Sys} (T : Twin cfg t a b) (R : ResEq b c) :
    Twin cfg t a c :=
  T.trans ⟨T.tb, trackInv_of_resEq T.tb R, .of_resEq R⟩

theorem Twin.refl {cfg : Cfg} {t : Track} {a : Sys} (ti : TrackInv cfg t a) : Twin cfg t a a :=
  ⟨ti, ti, HRel.refl a⟩

/-- **A crash between the two batches of a back-out, at a `Twin` pair.**  `a`: reference state, `b`
`Twin` to it; a back-out of `blk` issued in `b` dies between its two batches; the process restarts
(`r`) and backs `blk` out again (`r2`).  If `reopen, backup blk` is admissible for the reference run,
it succeeds there (`a2`) and `r2` is `Twin` to `a2`. -/
theorem twin_backup_mid {cfg : Cfg} {t : Track} {a b : Sys} (T : Twin cfg t a b) {blk : Block}
    {e1 e2 : Effect} {b' : Sys} (hb : backupFull cfg b blk = .ok ([e1, e2], b'))
    {e : List Effect} {r : Sys} (hrec : recover cfg (applyEffects b.p [e1]) = some (e, r))
    {es2 : List Effect} {r2 : Sys} (hbk : backupFull cfg r blk = .ok (es2, r2))
    (hok2 : BackupOk (t.step cfg .reopen) blk = true) :
    ∃ a1 a2, stepOp2 cfg a .reopen = .ok a1 ∧ stepOp2 cfg a1 (.backup blk) = .ok a2 ∧
      Twin cfg ((t.step cfg .reopen).step cfg (.backup blk)) a2 r2 ∧
      ∃ e1', es2 = [e1', e2] := by
  obtain ⟨er, r', e0, rb0, e1', s2, f1, s2', hrec', hrec0, -, -, -, -, hbk', hbk0, TR⟩ :=
    redo_twin T.tb hok2 hb
  cases hrec.symm.trans hrec'
  cases hbk.symm.trans hbk'
  obtain ⟨a1, b1, ha1, hb1, T1⟩ := twin_step T .reopen trivial
  cases hb1.symm.trans (reopen_of_some hrec0)
  obtain ⟨a2, b2, ha2, hb2, T2⟩ := twin_step T1 (.backup blk) hok2
  cases hb2.symm.trans (backup_of_ok hbk0)
  exact ⟨a1, a2, ha1, ha2, T2.trans TR, e1', rfl⟩

end EV.Index
