import EV.Proofs.Daemon

/-! What the processors of `_send_single` / `_send_vector` make of a reply in bitcoind's encoding (`Ans`:
a result with a null error, or an error object with a null result), `getrawtransactions`' hex decoding
of what bitcoind sends (`hexChars`), and `_get_to_file` on a completed stream. -/
namespace EV.Daemon

inductive Ans where
  | result (v : Val)
  | error (code : Option Int) (tag : Nat)
deriving Repr, DecidableEq

/-- bitcoind's encoding: `{"result": v, "error": null}` / `{"result": null, "error": {…}}` -/
def Ans.item : Ans → Item
  | .result v => ⟨.null, v⟩
  | .error code tag => ⟨.obj code tag, .null⟩

def Ans.isErr : Ans → Bool
  | .result _ => false
  | .error _ _ => true

def Ans.warm (wu : Int) : Ans → Bool
  | .result _ => false
  | .error code _ => code = some wu

/-- what `_send_vector(..., replace_errs=True)` should deliver for it -/
def Ans.value : Ans → Val
  | .result v => v
  | .error _ _ => .null

def errList : List Ans → List JErr
  | [] => []
  | .result _ :: as => errList as
  | .error code tag :: as => .obj code tag :: errList as

theorem errsOf_items (as : List Ans) : errsOf (as.map Ans.item) = errList as := by
  induction as with
  | nil => rfl
  | cons a as ih =>
    have step : errsOf (Ans.item a :: as.map Ans.item) =
        (if a.item.error.truthy = true then a.item.error :: errsOf (as.map Ans.item)
         else errsOf (as.map Ans.item)) := by
      simp only [errsOf, List.map_cons, List.filter_cons]
    rw [List.map_cons, step, ih]
    cases a <;> rfl

theorem anyWarm_errList (wu : Int) (as : List Ans) :
    anyWarm wu (errList as) = .ok (as.any (Ans.warm wu)) := by
  induction as with
  | nil => rfl
  | cons a as ih =>
    cases a with
    | result v => simpa [errList, Ans.warm] using ih
    | error code tag =>
      by_cases hc : code = some wu
      · simp [errList, anyWarm, Ans.warm, hc]
      · simp [errList, anyWarm, Ans.warm, hc, ih]

theorem errList_isEmpty (as : List Ans) : (errList as).isEmpty = true ↔ ∀ a ∈ as, a.isErr = false := by
  induction as with
  | nil => exact ⟨fun _ _ h => absurd h List.not_mem_nil, fun _ => rfl⟩
  | cons a as ih =>
    rw [List.forall_mem_cons]
    cases a with
    | result v => rw [errList, ih]; exact ⟨fun h => ⟨rfl, h⟩, fun h => h.2⟩
    | error code tag => exact ⟨nofun, fun h => nomatch h.1⟩

theorem procVector_items (wu : Int) (replace : Bool) (as : List Ans) :
    procVector wu replace (.arr (as.map Ans.item)) =
      if as.any (Ans.warm wu) then .transient .warmingUp
      else if (errList as).isEmpty || replace then .ok (as.map Ans.value)
      else .fatal (.daemonErrorMany (errList as)) := by
  have hres : (as.map Ans.item).map (·.result) = as.map Ans.value := by
    rw [List.map_map]
    apply List.map_congr_left
    intro a _; cases a <;> rfl
  simp only [procVector, errsOf_items, anyWarm_errList, hres]
  cases as.any (Ans.warm wu) <;> rfl

/-- Nothing ties `as` to the requests: the code checks neither ids nor lengths, and `reqs` only decides
whether the daemon is contacted at all. -/
theorem sendVector_answers {ρ : Type} (c : Cfg) (wu : Int) (u : Nat) (replace : Bool) (reqs : List ρ)
    (hne : reqs ≠ []) (as : List Ans) (hnw : ∀ a ∈ as, a.warm wu = false)
    (faults : List Reply) (hf : ∀ r ∈ faults, IsTransient (classify (procVector wu replace)) r)
    (rest : List Reply) :
    (sendVector c wu u replace reqs (faults ++ .json (.arr (as.map Ans.item)) :: rest)).res =
      (if (errList as).isEmpty || replace then .returned (as.map Ans.value)
       else .raised (.daemonErrorMany (errList as))) ∧
    (sendVector c wu u replace reqs (faults ++ .json (.arr (as.map Ans.item)) :: rest)).sleeps.length
      = faults.length := by
  have hany : ¬ as.any (Ans.warm wu) = true := by
    rw [List.any_eq_true]; exact fun ⟨a, ha, hw⟩ => absurd hw (by rw [hnw a ha]; decide)
  rw [sendVector, if_neg (by rw [List.isEmpty_iff]; exact hne),
    send_decided c _ noEff u () faults hf _ rest
      (show classify (procVector wu replace) (.json (.arr (as.map Ans.item))) = _ by
        rw [classify, procVector_items, if_neg hany])
      (fun k => by split <;> nofun)]
  exact ⟨apply_ite Outcome.res _ _ _, length_map_range _ _⟩

theorem procSingle_result (wu : Int) (e : JErr) (v : Val) (he : e.truthy = false) :
    procSingle wu (.obj ⟨e, v⟩) = .ok v := by
  cases e <;> simp_all [procSingle, JErr.truthy]

theorem procSingle_warm (wu : Int) (tag : Nat) (v : Val) :
    procSingle wu (.obj ⟨.obj (some wu) tag, v⟩) = .transient .warmingUp := by
  simp [procSingle]

theorem procSingle_error (wu : Int) (code : Option Int) (tag : Nat) (v : Val) (hc : code ≠ some wu) :
    procSingle wu (.obj ⟨.obj code tag, v⟩) = .fatal (.daemonErrorOne (.obj code tag)) := by
  simp [procSingle, hc]

theorem catchExc_cases {α : Type} (x : ExcClass) :
    ((∃ k, (catchExc x : Outcome α Exc) = .transient k) ∧
      (x.isTimeout || x.isServerDisconnected || x.isConnectionReset || x.isClientConnection
        || x.isClientError) = true) ∨
    ((catchExc x : Outcome α Exc) = .fatal (.other x.tag) ∧
      (x.isTimeout || x.isServerDisconnected || x.isConnectionReset || x.isClientConnection
        || x.isClientError) = false) := by
  obtain ⟨a, b, c, d, e, t⟩ := x
  -- the chain stops at the first `true`: six cases, not thirty-two
  cases a; cases b; cases c; cases d; cases e
  · exact .inr ⟨rfl, rfl⟩
  all_goals exact .inl ⟨⟨_, rfl⟩, rfl⟩

theorem catchExc_not_ok {α : Type} (x : ExcClass) (v : α) : (catchExc x : Outcome α Exc) ≠ .ok v := by
  rcases catchExc_cases (α := α) x with ⟨⟨k, h⟩, _⟩ | ⟨h, _⟩ <;> rw [h] <;> exact nofun

theorem catchExc_transient_iff {α : Type} (x : ExcClass) :
    (∃ k, (catchExc x : Outcome α Exc) = .transient k) ↔
      (x.isTimeout || x.isServerDisconnected || x.isConnectionReset || x.isClientConnection
        || x.isClientError) = true := by
  rcases catchExc_cases (α := α) x with ⟨ht, hb⟩ | ⟨hf, hb⟩
  · exact ⟨fun _ => hb, fun _ => ht⟩
  · rw [hf, hb]
    exact ⟨nofun, nofun⟩

/-! `hexDigit` has the body of `EV.Wire.hexDigit`.  `fromHex` (`EV/Model/Daemon.lean`) is one of three
models of `bytes.fromhex`: `EV.Rpc.fromHexChars` is the second, `EV.Wire.ofHexChars` (no whitespace
rule) the third.  The round trip `fromHex_hexChars` is about the first only. -/

def hexDigit (n : Nat) : Char :=
  if n < 10 then Char.ofNat (48 + n) else Char.ofNat (87 + n)

/-- lower-case hex without separators: what bitcoind sends -/
def hexChars : Bytes → List Char
  | [] => []
  | b :: bs => hexDigit (b / 16) :: hexDigit (b % 16) :: hexChars bs

theorem hexDigit_facts : ∀ n, n < 16 →
    isSpace (hexDigit n) = false ∧ unhexDigit (hexDigit n) = some n := by
  decide +kernel

theorem fromHex_hexChars (bs : Bytes) (h : ∀ b ∈ bs, b < 256) : fromHex (hexChars bs) = some bs := by
  induction bs with
  | nil => rfl
  | cons b bs ih =>
    have hb : b < 256 := h b (by simp)
    obtain ⟨s1, u1⟩ := hexDigit_facts (b / 16) (Nat.div_lt_of_lt_mul (show b < 16 * 16 from hb))
    obtain ⟨_, u2⟩ := hexDigit_facts (b % 16) (Nat.mod_lt b (by decide))
    have ih' := ih (fun x hx => h x (by simp [hx]))
    simp only [hexChars, fromHex, s1, u1, u2, ih']
    simp [Nat.div_add_mod']

theorem hexChars_ne_nil (b : Nat) (bs : Bytes) : hexChars (b :: bs) ≠ [] := by
  simp [hexChars]

theorem hexToBytes_hex (bs : Bytes) (hne : bs ≠ []) (h : ∀ b ∈ bs, b < 256) :
    hexToBytes (.str (hexChars bs)) = .ok (some bs) := by
  cases bs with
  | nil => exact absurd rfl hne
  | cons b bs =>
    have hf := fromHex_hexChars (b :: bs) h
    simp only [hexChars] at hf ⊢
    simp only [hexToBytes, hf]

theorem sizeOf_eq (chunks : List Bytes) : sizeOf chunks = chunks.flatten.length := by
  rw [sizeOf, List.length_flatten, List.sum_eq_foldl_nat, List.foldl_map]

theorem fileEffect_done (file : Bytes) (chunks : List Bytes) :
    fileEffect file (.stream chunks .done) = chunks.flatten ∧
    fileOutcome (.stream chunks .done) = .ok chunks.flatten.length := by
  refine ⟨?_, ?_⟩
  · exact (List.foldl_append_eq_append (f := id)).trans (congrArg List.flatten (List.map_id chunks))
  · rw [fileOutcome, sizeOf_eq]

theorem fileOutcome_ok (r : FileReply) (size : Nat) (h : fileOutcome r = .ok size) :
    ∃ chunks, r = .stream chunks .done := by
  cases r with
  | raises x => exact absurd h (catchExc_not_ok x size)
  | wrongType => simp [fileOutcome] at h
  | stream chunks fin =>
    cases fin with
    | done => exact ⟨chunks, rfl⟩
    | raises x => exact absurd h (catchExc_not_ok x size)

theorem convAll_map {ρ : Type} (l : List ρ) (g : ρ → Val) (f : ρ → Option Bytes)
    (h : ∀ x ∈ l, hexToBytes (g x) = .ok (f x)) : convAll (l.map g) = .ok (l.map f) := by
  induction l with
  | nil => rfl
  | cons x xs ih =>
    simp only [List.map_cons, convAll, h x (by simp), ih (fun w hw => h w (by simp [hw]))]

end EV.Daemon
