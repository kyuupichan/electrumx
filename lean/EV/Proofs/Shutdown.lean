import EV.Model.Shutdown

namespace EV.Shutdown

def Inv (st : St) : Prop := ∀ t ∈ st.running, st.lock = some t

theorem inv_step {st st' : St} {e : Ev} (h : Inv st) (hn : st.running.Nodup)
    (hs : step st e = some st') : Inv st' ∧ st'.running.Nodup := by
  cases e <;> simp only [step] at hs <;> split at hs <;> cases hs <;> rename_i hl
  case acquire t =>
    -- the lock was free: nobody was running a job
    refine ⟨fun r hr => ?_, hn⟩
    have := h r hr
    rw [hl] at this
    cases this
  case release t =>
    refine ⟨fun r hr => ?_, hn⟩
    have := h r hr
    rw [hl.1] at this
    cases this
    exact absurd hr hl.2
  case jobStart t =>
    refine ⟨fun r hr => ?_, List.nodup_cons.mpr ⟨hl.2, hn⟩⟩
    rcases List.mem_cons.mp hr with rfl | hr
    · exact hl.1
    · exact h r hr
  case jobEnd t => exact ⟨fun r hr => h r (List.mem_of_mem_erase hr), hn.erase _⟩

theorem running_le_one {st : St} (h : Inv st) (hn : st.running.Nodup) : st.running.length ≤ 1 := by
  match hr : st.running with
  | [] => simp
  | [_] => simp
  | a :: b :: r =>
    exfalso
    have ha := h a (by simp [hr])
    have hb := h b (by simp [hr])
    rw [ha] at hb
    simp at hb
    rw [hr] at hn
    simp [hb] at hn

theorem run_inv {st st' : St} {es : List Ev} (h : Inv st) (hn : st.running.Nodup)
    (hr : run st es = some st') : Inv st' ∧ st'.running.Nodup := by
  induction es generalizing st with
  | nil => simp [run] at hr; subst hr; exact ⟨h, hn⟩
  | cons e es ih =>
    simp only [run] at hr
    split at hr
    · simp at hr
    · next st1 hs =>
      obtain ⟨h1, hn1⟩ := inv_step h hn hs
      exact ih h1 hn1 hr

end EV.Shutdown
