import EV.Proofs.ShutdownTaskCancel

/-!
Task-level shutdown model: "the server stops" — after the request the handler is never stuck and
ends after a bounded number of steps of the inner tasks and the worker.
-/
namespace EV.ShutdownTask
open EV.Index

/-- steps of the inner tasks and the worker thread -/
def Ev.isWork : Ev → Bool
  | .innerStart | .hStart | .jobEnd _ | .deliver => true
  | _ => false

/-- a measure of the inner slot that every work step of the section lowers (`stop_step`).  The values are
    not step counts, only far enough apart: an advance may be followed by a second job; the longest
    section really takes 5 steps (lock, advance job, delivery, flush job, delivery). -/
def innerTodo : Option Inner → Nat
  | none => 0
  | some (.wantLock _) => 7
  | some (.job _ (.adv _)) => 6
  | some (.jobDone _ (.adv _) _) => 5
  | some (.job _ _) => 2
  | some (.jobDone _ _ _) => 1

/-- an upper bound on the work steps left until the task ends, once it is in the handler.  `+ 4`: while
    the slot does not hold the handler's own section, that section (`hStart`, flush job, delivery: 3 steps)
    is still to come.  So `todo ≤ 7 + 4`, where the longest real continuation has 5 + 3 steps. -/
def todo (st : St) : Nat :=
  match st.outer with
  | .handler => if isSafe st.inner then innerTodo st.inner else innerTodo st.inner + 4
  | _ => 0

theorem todo_le (st : St) : todo st ≤ 11 := by
  unfold todo
  split
  · split
    · unfold innerTodo; (repeat' split) <;> omega
    · unfold innerTodo; (repeat' split) <;> omega
  · omega

/-- the handler cannot wait for the lock forever -/
theorem stop_enabled (cfg : Cfg) {st : St} (w : Shape st) (ho : st.outer = .handler) :
    ∃ e, e.isWork = true ∧ (step cfg st e).isSome = true := by
  obtain ⟨sys, o, i, l, ok, f1, f2, f3, c, log, lac, iac⟩ := st
  cases ho
  cases w
  case handler => exact ⟨.hStart, rfl, by cases ok <;> rfl⟩
  case handlerSec x hw =>
    cases x with
    | wantLock sec => exact ⟨.innerStart, rfl, by cases sec <;> first | rfl | exact absurd rfl hw⟩
    | job sec j => exact ⟨.jobEnd 0, rfl, rfl⟩
    | jobDone sec j err => exact ⟨.deliver, rfl, rfl⟩

theorem innerTodo_pos (i : Inner) : 0 < innerTodo (some i) := by
  cases i <;> (try cases ‹JobK›) <;> exact Nat.zero_lt_succ _

theorem todo_handler_pos {st : St} (ho : st.outer = .handler) : 0 < todo st := by
  unfold todo
  rw [ho]
  cases hin : st.inner with
  | none => exact Nat.zero_lt_succ _
  | some i => dsimp only; split <;> have := innerTodo_pos i <;> omega

def workCount (evs : List Ev) : Nat := (evs.filter Ev.isWork).length

variable {cfg : Cfg} {fl st st' : St} {e : Ev}

theorem stop_step (w : Shape st) (hc : st.cancelled = true) (h : Step cfg fl st e st') :
    st'.cancelled = true ∧ (e.isWork = true → todo st' < todo st) ∧
      (e.isWork = false → todo st' = todo st) := by
  -- the outer task does not move any more, and an inner task exists only in the handler
  have hpl : st.outer.plain = true → False := fun h => nomatch (w.not_cancelled h).symm.trans hc
  have hh : ∀ {i}, st.inner = some i → st.outer = .handler := by
    intro i hin
    rcases w.outer_of_inner hin with ⟨p, ho, -⟩ | ho
    · rcases w.outer_of_cancelled hc with h | h | h <;> cases ho.symm.trans h
    · exact ho
  have hpos := @todo_handler_pos st
  unfold todo at hpos ⊢
  cases h
  case pressure | forceReorg => exact ⟨hc, (fun h => nomatch h), fun _ => rfl⟩
  case cancelStart hcf _ | cancel hcf => cases hcf.symm.trans hc
  case move ho m => exact (hpl (ho ▸ m.plain)).elim
  case start ho _ s => exact (hpl (ho ▸ s.plain)).elim
  all_goals refine ⟨hc, fun _ => ?_, (fun h => nomatch h)⟩
  case innerStart sec hin hs _ =>
    cases sec <;> simp [hh hin, hin, hs, isSafe, Inner.sec, innerTodo, Sec.job] at hs ⊢
  case hStart ho hi _ => simp [ho, hi, isSafe, Inner.sec, innerTodo]
  case hSkip ho _ _ _ => simpa [ho] using hpos ho
  case jobSkip sec _ _ hin _ | jobOk sec j _ _ hin _ _ _ | jobErr sec j _ _ hin _ _ _ =>
    by_cases hs : sec = .safe <;> (try cases j) <;> simp [hh hin, hin, hs, isSafe, Inner.sec, innerTodo]
  case handlerEnd err hin _ => cases err <;> simpa [hh hin] using hpos (hh hin)
  case secEnd hin ho _ => cases ho.symm.trans (hh hin)
  case secDrop sec j _ hin hs _ _ => cases j <;> simp [hh hin, hin, hs, isSafe, Inner.sec, innerTodo]
  case secFlush hin _ => simp [hh hin, hin, isSafe, Inner.sec, innerTodo]

theorem workCount_snoc (evs : List Ev) (e : Ev) :
    workCount (evs ++ [e]) = workCount evs + if e.isWork then 1 else 0 := by
  simp only [workCount, List.filter_append, List.length_append, List.filter_cons, List.filter_nil]
  split <;> rfl

theorem stop_bound {evs : List Ev} (w : Shape st) (hc : st.cancelled = true)
    (h : run cfg st evs = some st') : workCount evs + todo st' ≤ todo st := by
  refine (run_induct (P := fun evs s => Shape s ∧ s.cancelled = true ∧ workCount evs + todo s ≤ todo st)
    ⟨w, hc, Nat.le_of_eq (Nat.zero_add _)⟩ (fun evs _ s e s' ⟨w, hc, hb⟩ hs => ?_) evs st' h).2.2
  obtain ⟨hc', o1, o2⟩ := stop_step w hc hs
  refine ⟨shape_step w hs, hc', ?_⟩
  rw [workCount_snoc]
  cases hw : e.isWork
  · have := o2 hw; simp only [Bool.false_eq_true, if_false]; omega
  · have := o1 hw; simp only [if_true]; omega
