import EV.Proofs.IndexHom

/-!
What `advance_block` and the tx loops read and write of a system.

The loops of `advance_block` and `backup_block` run over the cache and the queued deletes of a base
system `s` (`baseOps s`) and see of the rest of `s` only the UTXO view: the `h`/`u` rows and what
`fs_tx_hash` answers (`UView`; `view_hom`: putting a cache and a queue into ANY system with the same
view is a map of UTXO stores).  So on a system with the same view the loops do the same, and they write
nothing but cache and queue (`advanceTxs_view`, `backupTxs_view`: the run on `t` and the run on `s` are two
images of one run over `baseOps s`; `advanceTxs_setCD`, `backupTxs_setCD`, `backupTxs_sim`, `advLoop_congr`, `bkLoop_congr`
are read off them).  `advance` itself is a guard on
`state.tip` and the loop (`advLoop`: all that can fail), then a record update of the system by the
loop's accumulators (`advResult`, `advance_eq`): every statement "`advance` on a system that differs
in …" is `rw [advance_eq, advLoop_congr …, advance_eq]` and a comparison of two record updates.
`backup_block` + `flush_backup` likewise (`bkLoop`, `bkResult`, `backupFull_eq`, `bkLoop_congr`), and
`_open_dbs` (`openDbs_eq`: it fails in `_read_tx_counts` or nowhere, and yields `openStore` with the fresh
memory `openMem`).
-/
namespace EV.Index

def setCD (t : Sys) (c : List ((Hash × Nat) × CacheVal)) (d : List DelKey) : Sys :=
  { t with m := { t.m with cache := c, deletes := d } }

/-- `t` shows `spend_utxo` / `put_utxo` what `s` shows them: of the files, only what `fs_tx_hash` answers -/
structure UView (s t : Sys) : Prop where
  cache : t.m.cache = s.m.cache
  deletes : t.m.deletes = s.m.deletes
  h : t.p.h = s.p.h
  u : t.p.u = s.p.u
  fs : ∀ n, fsTxHash t n = fsTxHash s n

theorem UView.refl (s : Sys) : UView s s := ⟨rfl, rfl, rfl, rfl, fun _ => rfl⟩

theorem UView.setCD_self {s t : Sys} (h : UView s t) : EV.Index.setCD t s.m.cache s.m.deletes = t := by
  unfold EV.Index.setCD
  rw [← h.cache, ← h.deletes]

theorem UView.setCD {s t : Sys} (h : UView s t) (c : List ((Hash × Nat) × CacheVal)) (d : List DelKey) :
    UView (setCD s c d) (setCD t c d) :=
  ⟨rfl, rfl, h.h, h.u, h.fs⟩

/-- `UView` with what `fs_tx_hash` answers replaced by the three fields it reads -/
structure UAgree (s t : Sys) : Prop where
  cache : t.m.cache = s.m.cache
  deletes : t.m.deletes = s.m.deletes
  h : t.p.h = s.p.h
  u : t.p.u = s.p.u
  txCounts : t.m.txCounts = s.m.txCounts
  height : t.m.dbst.height = s.m.dbst.height
  hashes : t.p.hashes = s.p.hashes

theorem fsTxHash_agree {s t : Sys} (h : UAgree s t) (n : Nat) : fsTxHash t n = fsTxHash s n := by
  simp only [fsTxHash, h.txCounts, h.height, h.hashes]

theorem UAgree.view {s t : Sys} (h : UAgree s t) : UView s t :=
  ⟨h.cache, h.deletes, h.h, h.u, fsTxHash_agree h⟩

theorem spendFromDb_view {s t : Sys} (h : UView s t) (txid : Hash) (idx nc : Nat)
    (rows : List (HKey × HashX)) : spendFromDb t txid idx nc rows = spendFromDb s txid idx nc rows := by
  induction rows with
  | nil => rfl
  | cons r rest ih =>
    obtain ⟨hk, hx⟩ := r
    simp only [spendFromDb, h.fs, h.u, ih]

theorem spendUtxo_view {s t : Sys} (h : UView s t) (txid : Hash) (idx : Nat) :
    spendUtxo t txid idx =
      (spendUtxo s txid idx).map fun r => (r.1, setCD t r.2.m.cache r.2.m.deletes) := by
  unfold spendUtxo
  rw [h.cache, h.h, spendFromDb_view h]
  split
  · simp only [Except.map, EV.Index.setCD, h.deletes]
  · split
    · rfl
    · simp only [Except.map, EV.Index.setCD, h.deletes, h.cache]
    · rfl

/-- `spend_utxo` / `put_utxo` as operations on the cache and the queued deletes of the base system `s` -/
def baseOps (s : Sys) : UOps (List ((Hash × Nat) × CacheVal) × List DelKey) where
  spend x h i := (spendUtxo (setCD s x.1 x.2) h i).map fun r => (r.1, (r.2.m.cache, r.2.m.deletes))
  add x h i cv := (ainsert (h, i) cv x.1, x.2)

theorem view_hom {s t : Sys} (h : UView s t) : UHom (baseOps s) sysOps fun x => setCD t x.1 x.2 where
  add _ _ _ _ := rfl
  spend x txid idx := by
    show spendUtxo (setCD t x.1 x.2) txid idx = ((spendUtxo (setCD s x.1 x.2) txid idx).map _).map _
    rw [spendUtxo_view (h.setCD x.1 x.2)]
    cases spendUtxo (setCD s x.1 x.2) txid idx <;> rfl

theorem advanceTxs_view (cfg : Cfg) (height : Nat) (txs : List Tx) (a : Acc Sys) {t : Sys}
    (v : UView a.s t) :
    advanceTxs sysOps cfg height txs { a with s := t } =
      (advanceTxs sysOps cfg height txs a).map (Acc.map fun x => setCD t x.m.cache x.m.deletes) := by
  have et := advanceTxs_hom (view_hom v) cfg height txs { a with s := (a.s.m.cache, a.s.m.deletes) }
  have es := advanceTxs_hom (view_hom (UView.refl a.s)) cfg height txs
    { a with s := (a.s.m.cache, a.s.m.deletes) }
  rw [show Acc.map _ _ = { a with s := t } from congrArg (fun x => { a with s := x }) v.setCD_self] at et
  rw [show Acc.map _ _ = a from rfl] at es
  rw [et, es]
  cases advanceTxs (baseOps a.s) cfg height txs { a with s := (a.s.m.cache, a.s.m.deletes) } <;> rfl

theorem advanceTxs_setCD (cfg : Cfg) (height : Nat) (txs : List Tx) (a : Acc Sys) {a' : Acc Sys}
    (h : advanceTxs sysOps cfg height txs a = .ok a') : ∃ c d, a'.s = setCD a.s c d := by
  have e : advanceTxs sysOps cfg height txs a = _ := advanceTxs_view cfg height txs a (.refl a.s)
  rw [h] at e
  have e' : a' = a'.map fun x => setCD a.s x.m.cache x.m.deletes := Except.ok.inj e
  exact ⟨a'.s.m.cache, a'.s.m.deletes, congrArg Acc.s e'⟩

/-- the guard and the tx loop of `advance_block`: all that can fail -/
def advLoop (cfg : Cfg) (s : Sys) (b : Block) : Except Err (Acc Sys) :=
  if b.prev ≠ s.m.st.tip then .error .reorg
  else advanceTxs sysOps cfg (s.m.st.height + 1).toNat b.txs { s := s, txNum := s.m.st.txCount }

/-- what `advance_block` makes of `s` when the tx loop ends in `a`; of `a.s` only the cache and the
    delete queue are read, the loop changes nothing else (`advanceTxs_setCD`) -/
def advResult (cfg : Cfg) (daemonH : Int) (s : Sys) (b : Block) (a : Acc Sys) : Sys :=
  { s with m := { s.m with
      cache := a.s.m.cache
      deletes := a.s.m.deletes
      touched := s.m.touched ++ a.touched
      txHashesU := s.m.txHashesU ++ [a.txHashes]
      unflushed := addUnflushed s.m.unflushed a.hashXsByTx s.m.st.txCount
      txCounts := s.m.txCounts ++ [a.txNum]
      undoU := if decide (((s.m.st.height + 1).toNat : Int) ≥ daemonH - cfg.reorgLimit + 1)
        then s.m.undoU ++ [(a.undo, (s.m.st.height + 1).toNat)] else s.m.undoU
      headersU := s.m.headersU ++ [b.header]
      st := { s.m.st with
        height := ((s.m.st.height + 1).toNat : Int)
        tip := b.hash
        chainSize := s.m.st.chainSize + b.size
        utxoCount := s.m.st.utxoCount + a.delta
        txCount := a.txNum } } }

theorem advance_eq (cfg : Cfg) (daemonH : Int) (s : Sys) (b : Block) :
    advance cfg daemonH s b = (advLoop cfg s b).map (advResult cfg daemonH s b) := by
  unfold advance advLoop
  dsimp only
  split
  · rfl
  · cases ha : advanceTxs sysOps cfg (s.m.st.height + 1).toNat b.txs
        { s := s, txNum := s.m.st.txCount } with
    | error e => rfl
    | ok a =>
      obtain ⟨as, _⟩ := a
      -- `advance` updates the loop's `a.s`, `advResult` updates `s`: the same record once `a.s` is `setCD s c d`
      obtain ⟨c, d, rfl⟩ := advanceTxs_setCD _ _ _ _ ha
      rfl

theorem advLoop_congr (cfg : Cfg) {s t : Sys} (b : Block) (v : UView s t)
    (hst : t.m.st.tip = s.m.st.tip ∧ t.m.st.height = s.m.st.height ∧ t.m.st.txCount = s.m.st.txCount) :
    advLoop cfg t b = (advLoop cfg s b).map (Acc.map fun x => setCD t x.m.cache x.m.deletes) := by
  unfold advLoop
  rw [hst.1, hst.2.1, hst.2.2]
  split
  · rfl
  · exact advanceTxs_view cfg _ b.txs { s := s, txNum := s.m.st.txCount } v

theorem advance_ok_iff {cfg : Cfg} {daemonH : Int} {s s' : Sys} {b : Block} :
    advance cfg daemonH s b = .ok s' ↔ b.prev = s.m.st.tip ∧ ∃ a,
      advanceTxs sysOps cfg (s.m.st.height + 1).toNat b.txs { s := s, txNum := s.m.st.txCount } = .ok a ∧
      advResult cfg daemonH s b a = s' := by
  rw [advance_eq, advLoop]
  by_cases hp : b.prev = s.m.st.tip
  · rw [if_neg (not_not_intro hp)]
    cases advanceTxs sysOps cfg (s.m.st.height + 1).toNat b.txs { s := s, txNum := s.m.st.txCount } with
    | error e => exact ⟨nofun, fun ⟨_, _, h, _⟩ => by cases h⟩
    | ok a =>
      exact ⟨fun h => ⟨hp, _, rfl, Except.ok.inj h⟩,
        fun ⟨_, _, h, h'⟩ => by cases h; exact congrArg Except.ok h'⟩
  · rw [if_pos hp]
    exact ⟨nofun, fun h => absurd h.1 hp⟩

theorem backupTxs_view (cfg : Cfg) (height : Nat) (txs : List Tx) (undo : List CacheVal) (a : Acc Sys)
    {t : Sys} (v : UView a.s t) :
    backupTxs sysOps cfg height txs undo { a with s := t } =
      (backupTxs sysOps cfg height txs undo a).map fun r =>
        (r.1.map fun x => setCD t x.m.cache x.m.deletes, r.2) := by
  have et := backupTxs_hom (view_hom v) cfg height txs undo { a with s := (a.s.m.cache, a.s.m.deletes) }
  have es := backupTxs_hom (view_hom (UView.refl a.s)) cfg height txs undo
    { a with s := (a.s.m.cache, a.s.m.deletes) }
  rw [show Acc.map _ _ = { a with s := t } from congrArg (fun x => { a with s := x }) v.setCD_self] at et
  rw [show Acc.map _ _ = a from rfl] at es
  rw [et, es]
  cases backupTxs (baseOps a.s) cfg height txs undo { a with s := (a.s.m.cache, a.s.m.deletes) } <;> rfl

theorem backupTxs_setCD (cfg : Cfg) (height : Nat) (txs : List Tx) (undo : List CacheVal) (a : Acc Sys)
    {a' : Acc Sys} {undo' : List CacheVal} (h : backupTxs sysOps cfg height txs undo a = .ok (a', undo')) :
    ∃ c d, a'.s = setCD a.s c d := by
  have e : backupTxs sysOps cfg height txs undo a = _ :=
    backupTxs_view cfg height txs undo a (.refl a.s)
  rw [h] at e
  have e' : (a', undo') = (a'.map fun x => setCD a.s x.m.cache x.m.deletes, undo') := Except.ok.inj e
  exact ⟨a'.s.m.cache, a'.s.m.deletes, congrArg (fun r => r.1.s) e'⟩

theorem backupTxs_sim (cfg : Cfg) (height : Nat) (txs : List Tx) :
    ∀ (undo : List CacheVal) (a a' : Acc Sys) (undo' : List CacheVal) (t : Sys), UAgree a.s t →
      backupTxs sysOps cfg height txs undo a = .ok (a', undo') →
      ∃ c d, a'.s = setCD a.s c d ∧
        backupTxs sysOps cfg height txs undo { a with s := t } = .ok ({ a' with s := setCD t c d }, undo') := by
  intro undo a a' undo' t h hs
  obtain ⟨c, d, ha⟩ := backupTxs_setCD cfg height txs undo a hs
  refine ⟨c, d, ha, ?_⟩
  rw [backupTxs_view cfg height txs undo a h.view, hs]
  obtain ⟨as, _⟩ := a'
  subst ha
  rfl

def bkSt (st : CState) (a : Acc Sys) (b : Block) : CState :=
  { st with height := st.height - 1, tip := b.prev, chainSize := st.chainSize - b.size,
            utxoCount := st.utxoCount + a.delta, txCount := st.txCount - a.txNum }

/-- `flush_backup` when the loops of `backup_block` on `s` ended in `a`: the two batches and the system
    afterwards; of `a.s` only the cache and the delete queue are read (the loops change nothing else) -/
def bkResult (a : Acc Sys) (s : Sys) (b : Block) : List Effect × Sys :=
  let es := [histBackupEffect s (s.m.touched ++ a.touched) (bkSt s.m.st a b).txCount,
             utxoBatchEffect (setCD s a.s.m.cache a.s.m.deletes) (bkSt s.m.st a b)]
  (es, { m := { s.m with cache := [], deletes := [], undoU := [],
                         touched := s.m.touched ++ a.touched,
                         st := bkSt s.m.st a b, dbst := bkSt s.m.st a b,
                         txCounts := s.m.txCounts.dropLast,
                         fsHeight := (bkSt s.m.st a b).height, fsTxCount := (bkSt s.m.st a b).txCount,
                         histFlush := s.m.histFlush + 1 },
         p := applyEffects s.p es })

/-- the assertions at the head of `backup_block` and its undo row -/
def bkGuard (s : Sys) : Except Err (List CacheVal) :=
  if !assertFlushed s then .error .assertion
  else if s.m.st.height ≤ 0 then .error .assertion
  else
    match alookup s.m.st.height.toNat s.p.undo with
    | none => .error .chainError
    | some undo => .ok undo

theorem bkGuard_congr {s t : Sys} (hm : t.m = s.m) (hu : t.p.undo = s.p.undo) : bkGuard t = bkGuard s := by
  unfold bkGuard assertFlushed
  rw [hm, hu]

/-- `assert not undo_info` after the loop -/
def bkTail {σ : Type} : Except Err (Acc σ × List CacheVal) → Except Err (Acc σ)
  | .error e => .error e
  | .ok (a, undoLeft) => if !undoLeft.isEmpty then .error .assertion else .ok a

theorem bkTail_map {σ τ : Type} (f : σ → τ) (x : Except Err (Acc σ × List CacheVal)) :
    bkTail (x.map fun r => (r.1.map f, r.2)) = (bkTail x).map (Acc.map f) := by
  cases x with
  | error e => rfl
  | ok r =>
    obtain ⟨a, ul⟩ := r
    cases ul <;> rfl

/-- the guards, the undo row and the tx loop of `backup_block`: all that can fail -/
def bkLoop (cfg : Cfg) (s : Sys) (b : Block) : Except Err (Acc Sys) :=
  match bkGuard s with
  | .error e => .error e
  | .ok undo => bkTail (backupTxs sysOps cfg s.m.st.height.toNat b.txs.reverse undo { s := s, txNum := 0 })

theorem bkGuard_ok_iff {s : Sys} {undo : List CacheVal} :
    bkGuard s = .ok undo ↔ assertFlushed s = true ∧ 0 < s.m.st.height ∧
      alookup s.m.st.height.toNat s.p.undo = some undo := by
  unfold bkGuard
  cases assertFlushed s with
  | false => exact ⟨nofun, nofun⟩
  | true =>
    by_cases hpos : s.m.st.height ≤ 0
    · rw [if_neg (by decide), if_pos hpos]
      exact ⟨nofun, fun h => absurd h.2.1 (Int.not_lt.mpr hpos)⟩
    · rw [if_neg (by decide), if_neg hpos]
      cases alookup s.m.st.height.toNat s.p.undo with
      | none => exact ⟨nofun, fun h => nomatch h.2.2⟩
      | some u =>
        exact ⟨fun h => ⟨rfl, Int.not_le.mp hpos, congrArg some (Except.ok.inj h)⟩,
          fun h => congrArg Except.ok (Option.some.inj h.2.2)⟩

theorem bkTail_ok_iff {σ : Type} {x : Except Err (Acc σ × List CacheVal)} {a : Acc σ} :
    bkTail x = .ok a ↔ x = .ok (a, []) := by
  cases x with
  | error e => exact ⟨nofun, nofun⟩
  | ok r =>
    obtain ⟨a', ul⟩ := r
    cases ul with
    | cons _ _ => exact ⟨nofun, nofun⟩
    | nil => exact ⟨fun h => by cases h; rfl, fun h => by cases h; rfl⟩

theorem bkLoop_ok_iff {cfg : Cfg} {s : Sys} {b : Block} {a : Acc Sys} :
    bkLoop cfg s b = .ok a ↔ assertFlushed s = true ∧ 0 < s.m.st.height ∧
      ∃ undo, alookup s.m.st.height.toNat s.p.undo = some undo ∧
        backupTxs sysOps cfg s.m.st.height.toNat b.txs.reverse undo { s := s, txNum := 0 } = .ok (a, []) := by
  unfold bkLoop
  cases hg : bkGuard s with
  | error e => exact ⟨nofun, fun ⟨h1, h2, undo, h3, _⟩ => by cases hg.symm.trans (bkGuard_ok_iff.mpr ⟨h1, h2, h3⟩)⟩
  | ok undo =>
    obtain ⟨h1, h2, h3⟩ := bkGuard_ok_iff.mp hg
    exact ⟨fun h => ⟨h1, h2, undo, h3, bkTail_ok_iff.mp h⟩,
      fun ⟨_, _, u, h3', h4⟩ => by cases h3.symm.trans h3'; exact bkTail_ok_iff.mpr h4⟩

theorem backupFull_eq (cfg : Cfg) (s : Sys) (b : Block) :
    backupFull cfg s b = (bkLoop cfg s b).map fun a => bkResult a s b := by
  unfold backupFull bkLoop bkGuard
  dsimp only
  by_cases h1 : (!assertFlushed s) = true
  · rw [if_pos h1, if_pos h1]; rfl
  · rw [if_neg h1, if_neg h1]
    by_cases h2 : s.m.st.height ≤ 0
    · rw [if_pos h2, if_pos h2]; rfl
    · rw [if_neg h2, if_neg h2]
      cases alookup s.m.st.height.toNat s.p.undo with
      | none => rfl
      | some undo =>
        dsimp only
        cases hb : backupTxs sysOps cfg s.m.st.height.toNat b.txs.reverse undo { s := s, txNum := 0 } with
        | error e => rfl
        | ok r =>
          obtain ⟨a, ul⟩ := r
          cases ul with
          | cons _ _ => rfl
          | nil =>
            obtain ⟨c, d, ha⟩ := backupTxs_setCD _ _ _ _ _ hb
            obtain ⟨as, _⟩ := a
            obtain rfl : as = setCD s c d := ha  -- as in `advance_eq`
            rfl

theorem bkLoop_congr (cfg : Cfg) {s t : Sys} (b : Block) (v : UView s t)
    (hg : bkGuard t = bkGuard s) (hh : t.m.st.height = s.m.st.height) :
    bkLoop cfg t b = (bkLoop cfg s b).map (Acc.map fun x => setCD t x.m.cache x.m.deletes) := by
  rw [bkLoop, bkLoop, hg, hh]
  cases bkGuard s with
  | error e => rfl
  | ok undo =>
    exact (congrArg bkTail
        (backupTxs_view cfg s.m.st.height.toNat b.txs.reverse undo { s := s, txNum := 0 } v)).trans
      (bkTail_map _ _)

theorem backupFull_inv {cfg : Cfg} {s : Sys} {b : Block} {r : List Effect × Sys}
    (h : backupFull cfg s b = .ok r) :
    assertFlushed s = true ∧ 0 < s.m.st.height ∧
    ∃ undo a, alookup s.m.st.height.toNat s.p.undo = some undo ∧
      backupTxs sysOps cfg s.m.st.height.toNat b.txs.reverse undo { s := s, txNum := 0 } = .ok (a, []) ∧
      r = bkResult a s b := by
  rw [backupFull_eq] at h
  cases hl : bkLoop cfg s b with
  | error e => rw [hl] at h; cases h
  | ok a =>
    rw [hl] at h
    obtain ⟨h1, h2, undo, h3, h4⟩ := bkLoop_ok_iff.mp hl
    exact ⟨h1, h2, undo, a, h3, h4, (Except.ok.inj h).symm⟩

theorem backupFull_of {cfg : Cfg} {s : Sys} {b : Block} {undo : List CacheVal} {a : Acc Sys}
    (h1 : assertFlushed s = true) (h2 : 0 < s.m.st.height)
    (h3 : alookup s.m.st.height.toNat s.p.undo = some undo)
    (h4 : backupTxs sysOps cfg s.m.st.height.toNat b.txs.reverse undo { s := s, txNum := 0 } =
      .ok (a, [])) :
    backupFull cfg s b = .ok (bkResult a s b) := by
  rw [backupFull_eq, bkLoop_ok_iff.mpr ⟨h1, h2, undo, h3, h4⟩]
  rfl

/-- the memory of a fresh process: `DB.state` and the history counters as `_open_dbs` read them, `tx_counts`
    as `_read_tx_counts` read it, nothing unflushed -/
def openMem (st : CState × HState) (l : List Nat) : Mem :=
  { st := st.1, dbst := st.1, fsHeight := st.1.height, fsTxCount := st.1.txCount, txCounts := l,
    histFlush := st.2.flushCount, compFlush := st.2.compFlushCount, compCursor := st.2.compCursor }

theorem openDbs_eq (cfg : Cfg) (p : Store) (c : Bool) (keep : Option (List Nat)) :
    openDbs cfg p c keep = (openTxCounts (openStore cfg p) (openState p c).1 keep).map fun l =>
      ((clearExcessEffect p (p.hstate.getD {}) (p.ustate.getD {}).flushCount).toList ++
          openUndoEffects cfg (openStore1 p) (p.ustate.getD {}).height,
        { m := openMem (openState p c) l, p := openStore cfg p }) := by
  unfold openDbs
  cases openTxCounts (openStore cfg p) (openState p c).1 keep <;> rfl

def ExceptRel (R : Sys → Sys → Prop) : Except Err Sys → Except Err Sys → Prop
  | .ok a, .ok b => R a b
  | .error e, .error e' => e' = e
  | _, _ => False

theorem ExceptRel.of_ok {R : Sys → Sys → Prop} {a : Sys} {y : Except Err Sys}
    (h : ExceptRel R (.ok a) y) : ∃ b, y = .ok b ∧ R a b := by
  cases y with
  | error e => exact h.elim
  | ok b => exact ⟨b, rfl, h⟩

theorem ExceptRel.comp {R S T : Sys → Sys → Prop} (hT : ∀ {a b c}, R a b → S b c → T a c)
    {x y z : Except Err Sys} (h1 : ExceptRel R x y) (h2 : ExceptRel S y z) : ExceptRel T x z := by
  cases y with
  | error e =>
    cases x with
    | ok _ => exact h1.elim
    | error _ =>
      cases z with
      | ok _ => exact h2.elim
      | error _ => exact Eq.trans h2 h1
  | ok b =>
    cases x with
    | error _ => exact h1.elim
    | ok a =>
      cases z with
      | error _ => exact h2.elim
      | ok c => exact hT h1 h2

end EV.Index
