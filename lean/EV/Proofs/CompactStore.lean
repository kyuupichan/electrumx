import EV.Model.Compact
import EV.Proofs.AList

/-!
Store-level facts for the history table: association-list folds of a `histBatch`; batches that are
assembled hashX by hashX, as compaction and `History.backup` assemble theirs
(`mem_histBatch_flatMap`); the rows of one hashX in flush-id order (`rowsOf`), and the one sorting
lemma everything else goes through (`rowsOf_char`: the rows of a hashX are *the* strictly id-sorted
list with the right members).
-/
namespace EV.Index

theorem getTxnums_congr {p q : Store} (h : p.hist = q.hist) (hx : HashX) (l : Option Nat) :
    getTxnums p hx l = getTxnums q hx l := by
  simp only [getTxnums, h]

end EV.Index

namespace EV.Compact
open EV.Index

/-- `omega` after unfolding the abbreviation `HashX` (omega only looks at literal `Nat`/`Int`) -/
macro "homega" : tactic => `(tactic| ((try unfold HashX at *); omega))

/-- a LevelDB table is a map: no key twice -/
def NodupKeys (h : List Row) : Prop := (h.map (·.1)).Nodup

/-- the rows of `hx` in flush-id order = what `get_txnums` iterates over -/
def rowsOf (hist : List Row) (hx : HashX) : List Row :=
  (hist.filter (fun e => e.1.1 == hx)).mergeSort (fun a b => decide (a.1.2 ≤ b.1.2))

theorem getTxnums_eq (p : Store) (hx : HashX) :
    getTxnums p hx none = (rowsOf p.hist hx).flatMap (·.2) := rfl

theorem getTxnums_length_le (p : Store) (hx : HashX) :
    (getTxnums p hx none).length ≤ (fullHist p.hist).length := by
  rw [getTxnums_eq, rowsOf, ((List.mergeSort_perm _ _).flatMap_right _).length_eq, fullHist]
  induction p.hist with
  | nil => simp
  | cons e l ih =>
    rw [List.filter_cons]
    split <;> simp only [List.flatMap_cons, List.length_append] <;> omega

theorem hist_applyEffect_histBatch (p : Store) (dels : List (HashX × Nat)) (puts : List Row) (st : HState) :
    (applyEffect p (.histBatch dels puts st)).hist =
      puts.foldl (fun hs (kv : Row) => ainsert kv.1 kv.2 hs) (dels.foldl (fun hs k => aerase k hs) p.hist) := rfl

theorem hstate_applyEffect_histBatch (p : Store) (dels : List (HashX × Nat)) (puts : List Row) (st : HState) :
    (applyEffect p (.histBatch dels puts st)).hstate = some st := rfl

theorem ustate_applyEffect_histBatch (p : Store) (dels : List (HashX × Nat)) (puts : List Row) (st : HState) :
    (applyEffect p (.histBatch dels puts st)).ustate = p.ustate := rfl

theorem mem_histBatch (p : Store) (dels : List (HashX × Nat)) (puts : List Row) (st : HState)
    (hp : NodupKeys puts) (e : Row) :
    e ∈ (applyEffect p (.histBatch dels puts st)).hist ↔
      e ∈ puts ∨ (e ∈ p.hist ∧ e.1 ∉ dels ∧ e.1 ∉ puts.map (·.1)) := by
  refine (Index.mem_foldl_ainsert puts hp _ e).trans ?_
  rw [Index.mem_foldl_aerase, and_assoc]

theorem mem_histBatch_sub (p : Store) (dels : List (HashX × Nat)) (puts : List Row) (st : HState) (e : Row)
    (h : e ∈ (applyEffect p (.histBatch dels puts st)).hist) : e ∈ puts ∨ e ∈ p.hist := by
  rw [hist_applyEffect_histBatch] at h
  rcases mem_of_mem_foldl_ainsert puts _ e h with h | h
  · exact Or.inr ((mem_foldl_aerase _ _ _).mp h).1
  · exact Or.inl h

theorem nodupKeys_histBatch (p : Store) (dels : List (HashX × Nat)) (puts : List Row) (st : HState)
    (h : NodupKeys p.hist) : NodupKeys (applyEffect p (.histBatch dels puts st)).hist :=
  nodup_keys_foldl_ainsert puts (nodup_keys_foldl_aerase dels h)

section PerHashX
variable {γ : Type} {cs : List γ} {hxOf : γ → HashX}

theorem mem_flatMap_of_hx {β : Type} (hnd : (cs.map hxOf).Nodup) {G : γ → List β} {key : β → HashX}
    (hG : ∀ c ∈ cs, ∀ b ∈ G c, key b = hxOf c) {c : γ} (hc : c ∈ cs) {b : β} (hb : key b = hxOf c) :
    b ∈ cs.flatMap G ↔ b ∈ G c := by
  constructor
  · intro hm
    obtain ⟨c', hc', hm'⟩ := List.mem_flatMap.mp hm
    rwa [eq_of_nodup_map hnd hc' hc (by rw [← hG c' hc' b hm', hb])] at hm'
  · exact fun hm => List.mem_flatMap.mpr ⟨c, hc, hm⟩

theorem not_mem_flatMap_of_hx {β : Type} {G : γ → List β} {key : β → HashX}
    (hG : ∀ c ∈ cs, ∀ b ∈ G c, key b = hxOf c) {b : β} (hb : key b ∉ cs.map hxOf) : b ∉ cs.flatMap G := by
  intro hm
  obtain ⟨c, hc, hm'⟩ := List.mem_flatMap.mp hm
  exact hb (List.mem_map.mpr ⟨c, hc, (hG c hc b hm').symm⟩)

theorem nodupKeys_flatMap (hnd : (cs.map hxOf).Nodup) {P : γ → List Row}
    (hP : ∀ c ∈ cs, ∀ e ∈ P c, e.1.1 = hxOf c) (hPn : ∀ c ∈ cs, NodupKeys (P c)) :
    NodupKeys (cs.flatMap P) := by
  unfold NodupKeys
  rw [List.nodup_iff_pairwise_ne, List.pairwise_map, List.pairwise_flatMap]
  refine ⟨fun c hc => List.pairwise_map.mp (hPn c hc), (List.pairwise_map.mp hnd).imp_of_mem ?_⟩
  intro c d hc hd hne x hx y hy heq
  exact hne (by rw [← hP c hc x hx, heq, hP d hd y hy])

theorem mem_histBatch_flatMap (p : Store) (st : HState) (hnd : (cs.map hxOf).Nodup)
    {D : γ → List (HashX × Nat)} {P : γ → List Row}
    (hD : ∀ c ∈ cs, ∀ k ∈ D c, k.1 = hxOf c) (hP : ∀ c ∈ cs, ∀ e ∈ P c, e.1.1 = hxOf c)
    (hPn : ∀ c ∈ cs, NodupKeys (P c)) :
    (∀ c ∈ cs, ∀ e : Row, e.1.1 = hxOf c →
      (e ∈ (applyEffect p (.histBatch (cs.flatMap D) (cs.flatMap P) st)).hist ↔
        e ∈ P c ∨ (e ∈ p.hist ∧ e.1 ∉ D c ∧ e.1 ∉ (P c).map (·.1)))) ∧
    (∀ e : Row, e.1.1 ∉ cs.map hxOf →
      (e ∈ (applyEffect p (.histBatch (cs.flatMap D) (cs.flatMap P) st)).hist ↔ e ∈ p.hist)) := by
  have hW := nodupKeys_flatMap hnd hP hPn
  have hK : ∀ c ∈ cs, ∀ k ∈ (P c).map (·.1), k.1 = hxOf c := by
    intro c hc k hk
    obtain ⟨e, he, rfl⟩ := List.mem_map.mp hk
    exact hP c hc e he
  constructor
  · intro c hc e he
    rw [mem_histBatch _ _ _ _ hW, List.map_flatMap, mem_flatMap_of_hx hnd hP hc he,
      mem_flatMap_of_hx hnd hD hc (b := e.1) he, mem_flatMap_of_hx hnd hK hc (b := e.1) he]
  · intro e he
    rw [mem_histBatch _ _ _ _ hW, List.map_flatMap]
    simp only [not_mem_flatMap_of_hx hP he, not_mem_flatMap_of_hx hD (b := e.1) he,
      not_mem_flatMap_of_hx hK (b := e.1) he, false_or, not_false_eq_true, and_true]

end PerHashX

theorem mem_rowsOf {hist : List Row} {hx : HashX} {e : Row} :
    e ∈ rowsOf hist hx ↔ e ∈ hist ∧ e.1.1 = hx := by
  simp [rowsOf, List.mem_filter]

theorem rowsOf_pairwise_le (hist : List Row) (hx : HashX) :
    (rowsOf hist hx).Pairwise (fun a b => a.1.2 ≤ b.1.2) :=
  (List.pairwise_mergeSort (keyLe_trans fun e : Row => e.1.2) (keyLe_total _) _).imp of_decide_eq_true

theorem nodupKeys_sort_filter {hist : List Row} (h : NodupKeys hist) (f : Row → Bool) (le : Row → Row → Bool) :
    NodupKeys ((hist.filter f).mergeSort le) :=
  ((List.mergeSort_perm _ _).map _).nodup_iff.mpr (h.sublist (List.filter_sublist.map _))

theorem nodupKeys_rowsOf {hist : List Row} (h : NodupKeys hist) (hx : HashX) :
    NodupKeys (rowsOf hist hx) := nodupKeys_sort_filter h _ _

theorem rowsOf_pairwise_lt {hist : List Row} (h : NodupKeys hist) (hx : HashX) :
    (rowsOf hist hx).Pairwise (fun a b => a.1.2 < b.1.2) := by
  refine ((rowsOf_pairwise_le hist hx).and (nodup_of_nodup_map _ (nodupKeys_rowsOf h hx))).imp_of_mem ?_
  intro a b ha hb ⟨hle, hne⟩
  have ha' := mem_rowsOf.mp ha
  have hb' := mem_rowsOf.mp hb
  exact Nat.lt_of_le_of_ne hle fun hid =>
    hne (eq_of_nodup_map h ha'.1 hb'.1 (Prod.ext (ha'.2.trans hb'.2.symm) hid))

theorem rowsOf_char {hist : List Row} (hn : NodupKeys hist) (hx : HashX) (L : List Row)
    (hs : L.Pairwise (fun a b => a.1.2 < b.1.2))
    (hm : ∀ e, e ∈ L ↔ e ∈ hist ∧ e.1.1 = hx) : rowsOf hist hx = L := by
  refine List.Perm.eq_of_pairwise (le := fun a b => a.1.2 < b.1.2)
    (fun a b _ _ h1 h2 => absurd h1 (Nat.lt_asymm h2)) (rowsOf_pairwise_lt hn hx) hs ?_
  refine (List.perm_ext_iff_of_nodup (nodup_of_nodup_map _ (nodupKeys_rowsOf hn hx)) ?_).mpr
    fun e => by rw [mem_rowsOf, hm]
  exact hs.imp (by intro a b h heq; subst heq; exact Nat.lt_irrefl _ h)

theorem rowsOf_congr {h1 h2 : List Row} (hn1 : NodupKeys h1) (hn2 : NodupKeys h2) (hx : HashX)
    (hm : ∀ e : Row, e.1.1 = hx → (e ∈ h2 ↔ e ∈ h1)) : rowsOf h2 hx = rowsOf h1 hx :=
  rowsOf_char hn2 hx _ (rowsOf_pairwise_lt hn1 hx) fun e =>
    mem_rowsOf.trans (and_congr_left fun he => (hm e he).symm)

end EV.Compact
