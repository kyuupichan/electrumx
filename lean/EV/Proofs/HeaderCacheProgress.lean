import EV.Proofs.HeaderCacheInv
import EV.Props.C12

/-!
C11, header proofs: PROGRESS of the current code.  A `block_header(height, cp)` request inside the
chain, started in a state in which no back-out is half done and scheduled alone (only its own reads
are performed and delivered, nothing else happens) is answered after at most four read round
trips: header, [extension], leaf hashes, [level].  No read fails, no exception is raised, the
consistency check of the reply passes.  So the safety theorems are not satisfied vacuously by a
model in which every delivery fails.
-/
namespace EV.HeaderCache
open EV.Merkle

variable {Node : Type} (H : Node → Node → Node)

/-- one read round trip of one request with nothing in between: a worker thread performs its
    pending read, the result is delivered -/
def soloStep [DecidableEq Node] (src : List Node) (T : Nat) (x : Cache Node × Req Node) :
    Cache Node × Req Node :=
  deliverAll H Cfg.fixed x.1 T src.length (performReq x.1 src x.2)

def soloRun [DecidableEq Node] (src : List Node) (T : Nat) : Nat → Cache Node × Req Node → Cache Node × Req Node
  | 0, x => x
  | k + 1, x => soloRun src T k (soloStep H src T x)

def Req.answered (r : Req Node) : Prop := ∃ br root, r.pc = .done (.answer br root)

theorem readSrc_got (src : List Node) (a n : Nat) (h : n ≤ src.length - a) :
    readSrc src a n = .got (srcSlice src a n) := by
  unfold readSrc; rw [if_pos h]

theorem srcSlice_one (src : List Node) (i : Nat) (h : i < src.length) : srcSlice src i 1 = [src[i]] := by
  unfold srcSlice
  rw [List.drop_eq_getElem_cons h]
  rfl

theorem finish_answered [DecidableEq Node] {c : Cache Node} {T : Nat} {src : List Node} {r : Req Node}
    (ht : r.t0 = T) (hlen : r.length ≤ src.length) (hidx : r.index < r.length)
    (hhdr : ∃ x, r.hdrs = [x] ∧ src[r.index]? = some x) :
    (afterProof H Cfg.fixed (finish Cfg.fixed c T r
      (branchAndRoot H (src.take r.length) (.int r.index) none false))).answered := by
  have hi : r.index < (src.take r.length).length := by
    rw [List.length_take, Nat.min_eq_left hlen]; exact hidx
  obtain ⟨nodes, root, hb, hf⟩ := bar_fold H (src.take r.length) r.index hi
  obtain ⟨x, hx1, hx2⟩ := hhdr
  have hlt := Nat.lt_of_lt_of_le hidx hlen
  obtain rfl : src[r.index]'hlt = x := by
    rw [List.getElem?_eq_getElem hlt] at hx2
    exact Option.some.inj hx2
  rw [List.getElem_take] at hf
  have hb' : (T != r.t0) = false := by rw [ht]; exact bne_self_eq_false T
  rw [hb]
  simp only [finish, fixed_retry, Bool.true_and, hb', Bool.false_eq_true, if_false]
  refine ⟨nodes.map .node, root, ?_⟩
  unfold afterProof
  simp only [show Cfg.fixed.hdrCheck = true from rfl, if_true, hx1, List.getLast?_singleton,
    branchNodes_map, hf]

/-- a request that runs alone from a quiescent state, at a wait point with its read issued -/
structure Ready (c : Cache Node) (T : Nat) (src : List Node) (r : Req Node) : Prop where
  inv : CacheInv H c src
  t0 : r.t0 = T
  len : r.length ≤ src.length
  idx : r.index < r.length
  hdr : r.proving = true → ∃ x, r.hdrs = [x] ∧ src[r.index]? = some x
  pc : (r.pc = .hdr .issued ∧ r.kind = .header ∧ r.count = 1 ∧ r.index = r.first ∧ r.length ≠ 1) ∨
    Entered c T r.length r.pc ∨
    ∃ pre leaf, r.pc = .lvl pre leaf .issued ∧ ¬ r.length < c.segLen ∧
      Slice src (c.leafStart r.index) (min c.segLen (r.length - c.leafStart r.index)) leaf ∧
      pre = lvl H c.depthHigher (src.take (c.leafStart r.length))

/-- the number of read round trips still possible after this wait point -/
def rank : PC Node → Nat
  | .hdr _ => 3
  | .ext _ _ _ _ => 2
  | .leaf _ => 1
  | _ => 0

def Advanced (T : Nat) (src : List Node) (k : Nat) (x : Cache Node × Req Node) : Prop :=
  x.2.answered ∨ (Ready H x.1 T src x.2 ∧ rank x.2.pc < k)

theorem seg_le {a seg len L : Nat} (h : len ≤ L) : min seg (len - a) ≤ L - a :=
  Nat.le_trans (Nat.min_le_right ..) (Nat.sub_le_sub_right h a)

theorem solo_progress [DecidableEq Node] (c : Cache Node) (T : Nat) (src : List Node) (r : Req Node)
    (h : Ready H c T src r) : Advanced H T src (rank r.pc) (soloStep H src T (c, r)) := by
  obtain ⟨len, idx, t0, pc, seen, bo, kind, first, count, hdrs⟩ := r
  obtain ⟨hinv, ht, hlen, hidx, hhdr, hpc⟩ := h
  obtain rfl : t0 = T := ht
  dsimp only at hlen hidx hpc
  obtain ⟨rfl, rfl, rfl, rfl, hne⟩ | (⟨rfl, hpc⟩ | ⟨rfl, p4⟩) | ⟨pre, leaf, rfl, p2, p3, p4⟩ := hpc
  · have hh : idx < src.length := Nat.lt_of_lt_of_le hidx hlen
    have hx : ∃ x, [src[idx]'hh] = [x] ∧ src[idx]? = some x := ⟨_, rfl, List.getElem?_eq_getElem hh⟩
    simp only [soloStep, performReq, deliverAll, afterHdr, srcSlice_one src idx hh, List.length_singleton,
      ne_eq, not_true_eq_false, if_false, hne, enterProof, hidx, hlen, and_self, if_true, beginIter,
      enterExtend]
    split
    · next hle => exact .inr ⟨⟨hinv, rfl, hlen, hidx, fun _ => hx, .inr (.inl (.inl ⟨rfl, hle⟩))⟩, (by decide : 1 < 3)⟩
    · next hle =>
      exact .inr ⟨⟨hinv, rfl, hlen, hidx, fun _ => hx, .inr (.inl (.inr ⟨rfl, Nat.lt_of_not_le hle⟩))⟩, (by decide : 2 < 3)⟩
  · have hcount : min c.segLen (len - c.leafStart idx) ≤ src.length - c.leafStart idx := seg_le hlen
    have hslice : Slice src (c.leafStart idx) (min c.segLen (len - c.leafStart idx))
        (srcSlice src (c.leafStart idx) (min c.segLen (len - c.leafStart idx))) := ⟨hcount, rfl⟩
    simp only [soloStep, performReq, readArgs, setRd, readSrc_got src _ _ hcount, deliverAll, deliverReq]
    by_cases hsmall : len < c.segLen
    · simp only [hsmall, if_true]
      rw [direct_eq c src _ len idx hsmall hidx hslice]
      exact .inl (finish_answered H rfl hlen hidx (hhdr rfl))
    · simp only [hsmall, if_false]
      by_cases heq : len = c.length
      · simp only [heq, if_true]
        have := fromLevel_eq H c src _ len idx hsmall hidx hlen hslice
        rw [hinv.level, ← heq, this]
        exact .inl (finish_answered H rfl hlen hidx (hhdr rfl))
      · simp only [heq, if_false, afterProof]
        exact .inr ⟨⟨hinv, rfl, hlen, hidx, hhdr,
          .inr (.inr ⟨_, _, rfl, hsmall, hslice, pre_eq H c src len hinv hpc⟩)⟩, (by decide : 0 < 1)⟩
  · have hread := Nat.sub_le_sub_right hlen (c.leafStart c.length)
    -- the cache written by `writeExt` has length `len`, so `_extend_to` returns at its next test
    simp only [soloStep, performReq, readArgs, setRd, readSrc_got src _ _ hread, deliverAll, deliverReq,
      fixed_extFix, if_true, and_self, level_eq, enterExtend, writeExt_length, Nat.le_refl, afterProof]
    exact .inr ⟨⟨writeExt_ok H hinv ⟨hread, rfl⟩ p4, rfl, hlen, hidx, hhdr, .inr (.inl (.inl ⟨rfl, Nat.le_refl len⟩))⟩,
      (by decide : 1 < 2)⟩
  · have hcount : min c.segLen (len - c.leafStart len) ≤ src.length - c.leafStart len := seg_le hlen
    simp only [soloStep, performReq, readArgs, setRd, readSrc_got src _ _ hcount, deliverAll, deliverReq,
      level_eq]
    rw [p4, level_rebuild H c src len, fromLevel_eq H c src leaf len idx p2 hidx hlen p3]
    exact .inl (finish_answered H rfl hlen hidx (hhdr rfl))

theorem solo_run [DecidableEq Node] (src : List Node) (T : Nat) :
    ∀ (n : Nat) (x : Cache Node × Req Node), Ready H x.1 T src x.2 → rank x.2.pc < n →
      ∃ k, k ≤ n ∧ (soloRun H src T k x).2.answered := by
  intro n
  induction n with
  | zero => intro x _ hr; exact absurd hr (Nat.not_lt_zero _)
  | succ n ih =>
    intro x hx hr
    rcases solo_progress H x.1 T src x.2 hx with ha | ⟨hready, hrank⟩
    · exact ⟨1, Nat.succ_le_succ (Nat.zero_le n), ha⟩
    · obtain ⟨k, hk, hans⟩ := ih _ hready (Nat.lt_of_lt_of_le hrank (Nat.le_of_lt_succ hr))
      exact ⟨k + 1, Nat.succ_le_succ hk, hans⟩

theorem solo_answered [DecidableEq Node] (c : Cache Node) (T : Nat) (src : List Node) (b : Bool) (height cp : Nat)
    (hinv : CacheInv H c src) (h1 : height ≤ cp) (h2 : 0 < cp) (h3 : cp < src.length) :
    ∃ k, k ≤ 4 ∧ (soloRun H src T k (c, newReq T src b .header height 1 cp)).2.answered :=
  solo_run H src T 4 _ ⟨hinv, rfl, h3, Nat.lt_succ_of_le h1, nofun,
    .inl ⟨rfl, rfl, rfl, rfl, fun h => absurd (Nat.succ.inj h) (Nat.ne_of_gt h2)⟩⟩ (by decide : 3 < 4)

def rounds (i : Nat) : Nat → List (Ev Node)
  | 0 => []
  | k + 1 => .perform i :: .deliver i :: rounds i k

theorem step_solo [DecidableEq Node] {s : St Node} {i : Nat} {r : Req Node} (hr : s.reqs[i]? = some r) :
    step H Cfg.fixed (step H Cfg.fixed s (.perform i)) (.deliver i) =
      { s with c := (soloStep H s.src s.truncations (s.c, r)).1,
               reqs := s.reqs.set i (soloStep H s.src s.truncations (s.c, r)).2 } := by
  have hlt : i < s.reqs.length := (List.getElem?_eq_some_iff.mp hr).1
  simp only [step, hr, List.getElem?_set_self hlt, soloStep, List.set_set]

theorem run_solo [DecidableEq Node] (i : Nat) :
    ∀ (k : Nat) (s : St Node) (r : Req Node), s.reqs[i]? = some r →
      (run H Cfg.fixed s (rounds i k)).reqs[i]? = some (soloRun H s.src s.truncations k (s.c, r)).2 := by
  intro k
  induction k with
  | zero => intro s r hr; exact hr
  | succ k ih =>
    intro s r hr
    have hlt : i < s.reqs.length := (List.getElem?_eq_some_iff.mp hr).1
    show (run H Cfg.fixed (step H Cfg.fixed (step H Cfg.fixed s (.perform i)) (.deliver i)) (rounds i k)).reqs[i]? = _
    rw [step_solo H hr]
    exact ih _ (soloStep H s.src s.truncations (s.c, r)).2 (List.getElem?_set_self hlt)

/-- the state matters to progress only through the consistency of the cache with the visible chain -/
theorem run_answered [DecidableEq Node] (s : St Node) (hc : CacheInv H s.c s.src)
    (height cp : Nat) (h1 : height ≤ cp) (h2 : 0 < cp) (h3 : cp < s.src.length) :
    ∃ k, k ≤ 4 ∧ ∃ r br root,
      (run H Cfg.fixed s (.header height cp :: rounds s.reqs.length k)).reqs[s.reqs.length]? = some r ∧
      r.pc = .done (.answer br root) := by
  obtain ⟨k, hk, br, root, hans⟩ := solo_answered H s.c s.truncations s.src s.pending.isSome height cp hc h1 h2 h3
  refine ⟨k, hk, _, br, root, ?_, hans⟩
  show (run H Cfg.fixed (step H Cfg.fixed s (.header height cp)) (rounds s.reqs.length k)).reqs[s.reqs.length]? = _
  have hnew : (step H Cfg.fixed s (.header height cp)).reqs[s.reqs.length]? =
      some (newReq s.truncations s.src s.pending.isSome .header height 1 cp) := by
    simp only [step, List.getElem?_append_right (Nat.le_refl _), Nat.sub_self, List.getElem?_cons_zero]
  exact run_solo H s.reqs.length k _ _ hnew

end EV.HeaderCache
