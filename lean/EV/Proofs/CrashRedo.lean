import EV.Proofs.CrashBackup
import EV.Proofs.IndexStep

/-!
Backing a block out again after a crash between the two batches.  `backup_block` reads of a system only its UTXO
view, its assertions, the height and the undo row (`bkLoop_congr`, `EV/Proofs/IndexStep.lean`).  The system restarted after the cut `[history batch]` has these
in common with the system the back-out started from (`recover_after_histBackup`), so the repeated back-out
runs the same loop and performs the same UTXO batch; its history batch finds the rows already truncated
(`histBackup_redo`).
-/
namespace EV.Index

theorem two_batches_eq (p : Store) {eh e2 : Effect} (heh : eh.isHistBatch = true)
    {d : List DelKey} {hp : List (HKey × HashX)} {up : List (UKey × Nat)} {st : CState}
    (he2 : e2 = .utxoBatch d hp up [] [] (some st)) :
    applyEffects p [eh, e2] =
      { p with h := (applyEffect p e2).h, u := (applyEffect p e2).u, ustate := some st,
               hist := (applyEffect p eh).hist, hstate := (applyEffect p eh).hstate } := by
  subst he2
  cases eh with
  | histBatch hd hpu hs => simp only [applyEffects, List.foldl, applyEffect_eq]; rfl
  | _ => cases heh


/-- invariants of a fully flushed state (what `flush_dbs(…, flush_utxos=True)` leaves; the state
    every back-out starts from, since `backup_block` asserts it) -/
structure FlushedB (cfg : Cfg) (s : Sys) : Prop where
  /-- `DB.assert_flushed` passes -/
  asserts : assertFlushed s = true
  /-- the UTXO state record is the in-memory chain state -/
  ustate : s.p.ustate = some s.m.st
  dbst : s.m.dbst = s.m.st
  /-- `tx_counts` in memory is the committed prefix of the file (what `_read_tx_counts` checks) -/
  txc : s.m.txCounts = s.p.txcounts.take (s.m.st.height + 1).toNat
  txcLen : s.m.txCounts.length = (s.m.st.height + 1).toNat
  txcLast : s.m.txCounts.getLast?.getD 0 = s.m.st.txCount
  /-- history table: unique keys, no row above the UTXO flush count, ascending histories (C02) -/
  keys : (s.p.hist.map (·.1)).Nodup
  ids : ∀ e ∈ s.p.hist, e.1.2 ≤ s.m.st.flushCount
  asc : ∀ hx, (getTxnums s.p hx none).Pairwise (· < ·)
  /-- the history flush count is not behind the UTXO one (cf. F9) -/
  hfc : s.m.st.flushCount ≤ s.m.histFlush
  /-- some undo information is retained at all -/
  lim : 0 < cfg.reorgLimit

/-- the system a restart produces from the store `pc` left by the cut `[history batch]`.  The UTXO state
    record is untouched by that batch and is `s.m.st` (`FlushedB.ustate`), so `_open_dbs` reads chain state,
    `fs_height` and `fs_tx_count` from it; `History.backup` had bumped the history flush count past the UTXO
    one, and `clear_excess` sets it back to `s.m.st.flushCount`. -/
def redoSys (cfg : Cfg) (s : Sys) (pc : Store) : Sys :=
  { p := openStore cfg pc,
    m := { st := s.m.st, dbst := s.m.st, fsHeight := s.m.st.height, fsTxCount := s.m.st.txCount,
           txCounts := s.m.txCounts, histFlush := s.m.st.flushCount, compFlush := -1, compCursor := -1 } }

theorem histBackup_store {cfg : Cfg} {s : Sys} (hfl : FlushedB cfg s) (T : List HashX) (n : Nat) (pc : Store)
    (hpc : pc = applyEffect s.p (histBackupEffect s T n)) :
    pc.h = s.p.h ∧ pc.u = s.p.u ∧ pc.undo = s.p.undo ∧ pc.ustate = some s.m.st ∧
    pc.headers = s.p.headers ∧ pc.txcounts = s.p.txcounts ∧ pc.hashes = s.p.hashes ∧
    (pc.hstate.getD {}).flushCount = s.m.histFlush + 1 ∧
    (∀ e ∈ pc.hist, e.1.2 ≤ s.m.st.flushCount) := by
  subst hpc
  exact ⟨rfl, rfl, rfl, hfl.ustate, rfl, rfl, rfl, rfl, (histWF_histBackup s T n ⟨hfl.keys, hfl.ids⟩).ids⟩

/-- `clear_excess` deletes no row: none has an id above the UTXO flush count (`histBackup_store`) -/
theorem recover_after_histBackup {cfg : Cfg} {s : Sys} (hfl : FlushedB cfg s) (T : List HashX) (n : Nat)
    (pc : Store) (hpc : pc = applyEffect s.p (histBackupEffect s T n)) :
    (∃ er, recover cfg pc = some (er, redoSys cfg s pc)) ∧
    (openStore cfg pc).hist = pc.hist ∧ (openStore cfg pc).h = s.p.h ∧ (openStore cfg pc).u = s.p.u ∧
    (openStore cfg pc).undo = undoAfterOpen s.p.undo (s.m.st.height - cfg.reorgLimit + 1) ∧
    (openStore cfg pc).headers = s.p.headers ∧ (openStore cfg pc).txcounts = s.p.txcounts ∧
    (openStore cfg pc).hashes = s.p.hashes := by
  obtain ⟨hh, hu, hundo, hus, hhdr, htxc, hhsh, hfc, hids⟩ := histBackup_store hfl T n pc hpc
  have husd : pc.ustate.getD {} = s.m.st := by rw [hus]; rfl
  have hgt : ¬ (pc.hstate.getD {}).flushCount ≤ (pc.ustate.getD {}).flushCount := by
    rw [husd, hfc]; exact Nat.not_le.mpr (Nat.lt_succ_of_le hfl.hfc)
  have hhist : (openStore cfg pc).hist = pc.hist := by
    rw [openStore_hist, openStore1_hist, if_neg hgt, husd]
    exact histUpTo_self hids
  have hstate : openState pc false =
      (s.m.st, { flushCount := s.m.st.flushCount, compFlushCount := -1, compCursor := -1 }) := by
    rw [openState_of_ge pc (Nat.le_of_lt (Nat.not_le.mp hgt)), husd]
  have htc : openTxCounts (openStore cfg pc) s.m.st none = some s.m.txCounts := by
    simp only [openTxCounts, openStore_txcounts, htxc, ← hfl.txc, hfl.txcLen, hfl.txcLast, beq_self_eq_true,
      Bool.and_self, if_true]
  refine ⟨⟨_, by rw [recover_eq, hstate, htc]; rfl⟩, hhist, ?_, ?_, ?_, ?_, ?_, ?_⟩
  · rw [openStore_h, hh]
  · rw [openStore_u, hu]
  · rw [openStore_undo, hundo, husd]
  · rw [openStore_headers, hhdr]
  · rw [openStore_txcounts, htxc]
  · rw [openStore_hashes, hhsh]

theorem assertFlushed_redoSys (cfg : Cfg) (s : Sys) (pc : Store) : assertFlushed (redoSys cfg s pc) = true := by
  simp [assertFlushed, redoSys]

/-- what `DB.assert_flushed` asserts, as far as the proofs read it -/
theorem assertFlushed_fields {s : Sys} (h : assertFlushed s = true) :
    s.m.st.txCount = s.m.fsTxCount ∧ s.m.st.height = s.m.fsHeight ∧ s.m.fsHeight = s.m.dbst.height ∧
    s.m.cache = [] ∧ s.m.deletes = [] ∧ s.m.undoU = [] := by
  simp only [assertFlushed, Bool.and_eq_true, beq_iff_eq, List.isEmpty_iff] at h
  exact ⟨h.1.1.1.1.1.1.1.1.1.1, h.1.1.1.1.1.1.1.1.2, h.1.1.1.1.1.1.1.2, h.1.1.1.2, h.1.1.2, h.1.2⟩

/-- **The repeated back-out.**  See `C05_newbranch_partial` in `EV/Props/C05.lean`. -/
theorem redo_backup {cfg : Cfg} {s : Sys} {b : Block} {e1 e2 : Effect} {s' : Sys}
    (hfl : FlushedB cfg s) (h : backupFull cfg s b = .ok ([e1, e2], s')) :
    ∃ er r e1' s2, recover cfg (applyEffects s.p [e1]) = some (er, r) ∧
      backupFull cfg r b = .ok ([e1', e2], s2) ∧
      s2.p.h = s'.p.h ∧ s2.p.u = s'.p.u ∧ s2.p.ustate = s'.p.ustate ∧
      s2.p.headers = s'.p.headers ∧ s2.p.txcounts = s'.p.txcounts ∧ s2.p.hashes = s'.p.hashes ∧
      s2.p.undo = undoAfterOpen s'.p.undo (s.m.st.height - cfg.reorgLimit + 1) ∧
      s2.m.st = s'.m.st ∧ s2.m.dbst = s'.m.dbst ∧ s2.m.txCounts = s'.m.txCounts ∧
      (∀ hx, getTxnums s2.p hx none = getTxnums s'.p hx none) := by
  obtain ⟨-, -, -, hc0, hd0, hu0⟩ := assertFlushed_fields hfl.asserts
  rw [backupFull_eq] at h
  cases hl : bkLoop cfg s b with
  | error e => rw [hl] at h; cases h
  | ok a =>
  rw [hl] at h
  have hE : (bkResult a s b).1 = [e1, e2] := congrArg Prod.fst (Except.ok.inj h)
  obtain rfl : (bkResult a s b).2 = s' := congrArg Prod.snd (Except.ok.inj h)
  obtain ⟨hE1, hE2⟩ := List.cons.inj hE
  replace hE2 := (List.cons.inj hE2).1
  obtain ⟨hafS, hpos, undo, hundo, -⟩ := bkLoop_ok_iff.mp hl
  -- the system restarted after the cut agrees with `s` on what the loops read
  generalize hpc : applyEffects s.p [e1] = pc
  obtain ⟨⟨er, hrec⟩, rhist, rh, ru, rundo, rhdr, rtxc, rhsh⟩ :=
    recover_after_histBackup hfl _ _ pc (hpc.symm.trans (congrArg (applyEffect s.p) hE1.symm))
  have hag : UAgree s (redoSys cfg s pc) :=
    ⟨hc0.symm, hd0.symm, rh, ru, rfl, congrArg CState.height hfl.dbst.symm, rhsh⟩
  have hundoR : alookup s.m.st.height.toNat (redoSys cfg s pc).p.undo = some undo :=
    (congrArg (alookup _) rundo).trans
      ((alookup_undoAfterOpen _ _ _ (by have := hfl.lim; omega)).trans hundo)
  -- so its back-out runs the same loop, and `flush_backup` differs in the history batch only
  have hR := backupFull_eq cfg (redoSys cfg s pc) b
  rw [bkLoop_congr cfg b hag.view ((bkGuard_ok_iff.mpr ⟨assertFlushed_redoSys cfg s pc, hpos, hundoR⟩).trans
    (bkGuard_ok_iff.mpr ⟨hafS, hpos, hundo⟩).symm) rfl, hl] at hR
  generalize hE1' : histBackupEffect (redoSys cfg s pc) ([] ++ a.touched) (bkSt s.m.st a b).txCount = e1'
  have he2 : utxoBatchEffect (setCD (redoSys cfg s pc) a.s.m.cache a.s.m.deletes) (bkSt s.m.st a b) = e2 := by
    rw [← hE2]
    simp only [utxoBatchEffect, setCD, hu0, redoSys]
  have hL : (bkResult (a.map fun x => setCD (redoSys cfg s pc) x.m.cache x.m.deletes) (redoSys cfg s pc) b).1 =
      [e1', e2] := by rw [← hE1', ← he2]; rfl
  refine ⟨er, _, e1', _, hrec, hR.trans (congrArg Except.ok (Prod.ext hL rfl)), ?_⟩
  obtain ⟨hp, up, hE2'⟩ : ∃ hp up, e2 = .utxoBatch a.s.m.deletes hp up [] [] (some (bkSt s.m.st a b)) :=
    ⟨_, _, by rw [← hE2]; simp only [utxoBatchEffect, setCD, hu0, List.map_nil]; rfl⟩
  have hp2 : (bkResult (a.map fun x => setCD (redoSys cfg s pc) x.m.cache x.m.deletes) (redoSys cfg s pc) b).2.p =
      applyEffects (redoSys cfg s pc).p [e1', e2] := congrArg (applyEffects (redoSys cfg s pc).p) hL
  have hpS : (bkResult a s b).2.p = applyEffects s.p [e1, e2] := congrArg (applyEffects s.p) hE
  rw [hp2, hpS,
    two_batches_eq _ (show e1'.isHistBatch = true by rw [← hE1']; rfl) hE2',
    two_batches_eq _ (show e1.isHistBatch = true by rw [← hE1]; rfl) hE2']
  have hcong : (applyEffect (redoSys cfg s pc).p e2).h = (applyEffect s.p e2).h ∧
      (applyEffect (redoSys cfg s pc).p e2).u = (applyEffect s.p e2).u := by
    rw [hE2']; exact utxoBatch_hu_congr _ s.p rh ru ..
  refine ⟨hcong.1, hcong.2, rfl, rhdr, rtxc, rhsh, rundo, rfl, rfl, rfl, fun hx => ?_⟩
  show getTxnums (applyEffect _ e1') hx none = getTxnums (applyEffect _ e1) hx none
  rw [← hE1, ← hE1']
  exact histBackup_redo s.p _ _ _ _ _ _ hfl.keys hfl.asc
    (rhist.trans (congrArg Store.hist (hpc.symm.trans (congrArg (applyEffect s.p) hE1.symm))))
    (fun x hxm => List.mem_append_right _ hxm) hx

/-! non-vacuity of `FlushedB`: the synced state of the F8 witness -/
theorem flushed_cxS : FlushedB cxCfg cxS := by
  refine ⟨by decide, by decide, by decide, by decide, by decide, by decide, by decide, by decide, ?_,
    by decide, by decide⟩
  intro hx
  by_cases h7 : hx = 7
  · subst h7; simp [getTxnums, cxS]
  · have h7' : ¬ 7 = hx := fun h => h7 h.symm
    simp [getTxnums, cxS, h7']

end EV.Index
