import EV.Proofs.MerkleLevel

/-!
C12, part 3: `MerkleCache`.  The invariant `CacheInv` (the cached level is level `depth_higher` of
the tree of the first `length` source hashes) is established by `initialize`, preserved by
`_extend_to`, `truncate` and queries, and makes every query answer like a from-scratch
`branch_and_root`.
-/
namespace EV.Merkle

variable {Node : Type} (H : Node → Node → Node)

structure CacheInv (c : Cache Node) (src : List Node) : Prop where
  init : c.initialized = true
  len : c.length ≤ src.length
  level : c.level = lvl H c.depthHigher (src.take c.length)

theorem leafStart_eq (c : Cache Node) (i : Nat) :
    c.leafStart i = i / 2 ^ c.depthHigher * 2 ^ c.depthHigher := by
  simp only [Cache.leafStart, Nat.shiftLeft_eq, Nat.shiftRight_eq_div_pow]

theorem segLen_eq (c : Cache Node) : c.segLen = 2 ^ c.depthHigher := by
  simp only [Cache.segLen, Nat.one_shiftLeft]

theorem leafStart_shift (c : Cache Node) (i : Nat) :
    c.leafStart i >>> c.depthHigher = i / 2 ^ c.depthHigher := by
  rw [leafStart_eq, Nat.shiftRight_eq_div_pow, Nat.mul_div_cancel _ (Nat.pow_pos (by omega))]

theorem leafStart_le (c : Cache Node) (i : Nat) : c.leafStart i ≤ i := by
  rw [leafStart_eq]; exact Nat.div_mul_le_self _ _

theorem lvl_take_split (d q n : Nat) (src : List Node) (h : q * 2 ^ d ≤ n) :
    lvl H d (src.take (q * 2 ^ d)) ++ lvl H d (srcSlice src (q * 2 ^ d) (n - q * 2 ^ d)) =
      lvl H d (src.take n) := by
  rw [← List.take_append_drop q (lvl H d (src.take n)), ← lvl_take, ← lvl_drop, List.take_take,
    Nat.min_eq_left h, List.drop_take]
  rfl

theorem rebuild (d : Nat) (src : List Node) (old new s : Nat) (level : List Node)
    (hlevel : level = lvl H d (src.take old))
    (hs : s = s / 2 ^ d * 2 ^ d) (hso : s ≤ old) (hsn : s ≤ new) (hold : old ≤ src.length) :
    level.take (s / 2 ^ d) ++ lvl H d (srcSlice src s (new - s)) = lvl H d (src.take new) := by
  have := lvl_take_split H d (s / 2 ^ d) new src (by rw [← hs]; exact hsn)
  rw [← hs] at this
  rw [hlevel, ← lvl_take, ← hs, List.take_take, Nat.min_eq_left hso, this]

theorem sub_leafStart_lt (c : Cache Node) (i : Nat) : i - c.leafStart i < 2 ^ c.depthHigher := by
  have := (Nat.div_add_mod' i (2 ^ c.depthHigher)).symm
  have := Nat.mod_lt i (Nat.pow_pos (by omega) : 0 < 2 ^ c.depthHigher)
  rw [leafStart_eq]
  omega

theorem CacheInv.level_take {c : Cache Node} {src : List Node} (hinv : CacheInv H c src) (x : Nat)
    (hx : c.leafStart x ≤ c.length) :
    c.level.take (x / 2 ^ c.depthHigher) = lvl H c.depthHigher (src.take (c.leafStart x)) := by
  rw [leafStart_eq] at hx ⊢
  rw [hinv.level, ← lvl_take, List.take_take, Nat.min_eq_left hx]

/-- `_extend_to` takes `x` the old length, `_level_for` the new -/
theorem rebuild_leafStart {c : Cache Node} {src : List Node} (hinv : CacheInv H c src) (x new : Nat)
    (hx : c.leafStart x ≤ c.length) (hn : c.leafStart x ≤ new) :
    c.level.take (x / 2 ^ c.depthHigher) ++
        lvl H c.depthHigher (srcSlice src (c.leafStart x) (new - c.leafStart x)) =
      lvl H c.depthHigher (src.take new) := by
  rw [hinv.level_take H x hx]
  rw [leafStart_eq] at hn ⊢
  exact lvl_take_split H _ _ new src hn

theorem extendTo_inv (c : Cache Node) (src : List Node) (length : Nat)
    (hinv : CacheInv H c src) (hlen : length ≤ src.length) :
    (c.extendTo H src length).2 = none ∧ CacheInv H (c.extendTo H src length).1 src ∧
      (c.extendTo H src length).1.length = max c.length length := by
  unfold Cache.extendTo
  by_cases h : length ≤ c.length
  · rw [if_pos h]
    exact ⟨rfl, hinv, (Nat.max_eq_left h).symm⟩
  · rw [if_neg h, level_eq, leafStart_shift]
    dsimp only
    have hle := leafStart_le c c.length
    exact ⟨rfl, ⟨hinv.init, hlen, rebuild_leafStart H hinv c.length length hle (by omega)⟩,
      (Nat.max_eq_right (by omega)).symm⟩

theorem levelFor_eq (c : Cache Node) (src : List Node) (length : Nat)
    (hinv : CacheInv H c src) (hlen : length ≤ c.length) :
    c.levelFor H src length = .ok (lvl H c.depthHigher (src.take length)) := by
  unfold Cache.levelFor
  by_cases h : length = c.length
  · rw [if_pos h, h, hinv.level]
  · have hle := leafStart_le c length
    have hmod := sub_leafStart_lt c length
    rw [if_neg h, level_eq, segLen_eq, Nat.min_eq_right (by omega), Nat.shiftRight_eq_div_pow]
    dsimp only
    rw [rebuild_leafStart H hinv length length (by omega) hle]

theorem treeDepth_nat (n : Nat) (h : 1 ≤ n) : treeDepth (.int n) = .ok (Nat.clog 2 n + 1) := by
  rw [treeDepth, branchLength_natCast h]

theorem init_eq (c : Cache Node) (src : List Node) (length : Nat) (h1 : 1 ≤ length) :
    c.init H src length =
      ({ length := length, depthHigher := (Nat.clog 2 length + 1) / 2,
         level := lvl H ((Nat.clog 2 length + 1) / 2) (src.take length), initialized := true }, none) := by
  simp only [Cache.init, treeDepth_nat length h1, level_eq, srcSlice, List.drop_zero]

theorem truncate_inv (c : Cache Node) (src : List Node) (a : IntArg) (hinv : CacheInv H c src) :
    CacheInv H (c.truncate a).1 src := by
  unfold Cache.truncate
  cases a with
  | notInt => exact hinv
  | int l =>
    simp only
    by_cases h1 : l ≤ 0
    · rw [if_pos h1]; exact hinv
    · rw [if_neg h1]
      by_cases h2 : l ≥ c.length
      · rw [if_pos h2]; exact hinv
      · rw [if_neg h2]
        have hle := leafStart_le c l.toNat
        have hlen := hinv.len
        refine ⟨hinv.init, ?_, ?_⟩
        · show c.leafStart l.toNat ≤ src.length
          omega
        · show c.level.take _ = lvl H c.depthHigher (src.take (c.leafStart l.toNat))
          rw [leafStart_shift, hinv.level_take H l.toNat (by omega)]

theorem truncate_length (c : Cache Node) (l : Int) (h : 0 < l) :
    (c.truncate (.int l)).1.length ≤ c.length ∧ (c.truncate (.int l)).1.length ≤ l.toNat ∧
      (c.truncate (.int l)).1.depthHigher = c.depthHigher ∧ (c.truncate (.int l)).2 = none := by
  unfold Cache.truncate
  simp only
  rw [if_neg (by omega)]
  by_cases h2 : l ≥ c.length
  · rw [if_pos h2]; exact ⟨Nat.le_refl _, by show c.length ≤ l.toNat; omega, rfl, rfl⟩
  · rw [if_neg h2]
    have hle := leafStart_le c l.toNat
    exact ⟨by show c.leafStart l.toNat ≤ c.length; omega, hle, rfl, rfl⟩

/-- the source may grow, and may be re-organised above a length the cache was truncated to -/
theorem CacheInv.congr {c : Cache Node} {src src' : List Node} (hinv : CacheInv H c src)
    (hlen : c.length ≤ src'.length) (hsame : src'.take c.length = src.take c.length) :
    CacheInv H c src' :=
  ⟨hinv.init, hlen, by rw [hsame]; exact hinv.level⟩

def Outcome.ofExcept {α : Type} : Except PyExc α → Outcome α
  | .ok a => .ret a
  | .error e => .raised e

/-- direct path: fewer hashes than a segment, and the one read (around any index) is all of them -/
theorem leaf_read_direct (c : Cache Node) (src : List Node) (l i : Nat) (hsmall : l < c.segLen)
    (hi : i < l) : srcSlice src (c.leafStart i) (min c.segLen (l - c.leafStart i)) = src.take l := by
  rw [segLen_eq] at hsmall
  rw [leafStart_eq, segLen_eq, Nat.div_eq_of_lt (Nat.lt_trans hi hsmall), Nat.zero_mul, Nat.sub_zero,
    Nat.min_eq_right (Nat.le_of_lt hsmall), srcSlice, List.drop_zero]

/-- cached-level path: the one read is the `2^d`-block of `i` within the first `l` hashes -/
theorem leaf_read_level [DecidableEq Node] (tsc : Bool) (c : Cache Node) (src : List Node) (l i : Nat)
    (hbig : ¬ l < c.segLen) (hi : i < l) (hl : l ≤ src.length) :
    branchAndRootFromLevel H (.list (lvl H c.depthHigher (src.take l)))
        (.list (srcSlice src (c.leafStart i) (min c.segLen (l - c.leafStart i)))) (.int i)
        c.depthHigher tsc =
      branchAndRoot H (src.take l) (.int i) none tsc := by
  have htl : (src.take l).length = l := List.length_take_of_le hl
  rw [segLen_eq] at hbig
  rw [leafStart_eq, segLen_eq, srcSlice, ← List.take_take, ← List.drop_take]
  exact from_level_eq H tsc (src.take l) c.depthHigher i (htl.symm ▸ hi)
    (pow_le_clog (htl.symm ▸ Nat.le_of_not_lt hbig))

theorem query_eq [DecidableEq Node] (c : Cache Node) (src : List Node) (l i : Int) (tsc : Bool)
    (hinv : CacheInv H c src) (hl0 : 0 < l) (hl : l.toNat ≤ src.length) (hi : i < l) :
    c.query H src (.int l) (.int i) tsc =
      ((c.extendTo H src l.toNat).1,
        Outcome.ofExcept (branchAndRoot H (src.take l.toNat) (.int i) none tsc)) := by
  obtain ⟨he, hinv', hlen'⟩ := extendTo_inv H c src l.toNat hinv hl
  have hx : c.extendTo H src l.toNat = ((c.extendTo H src l.toNat).1, none) := Prod.ext rfl he
  generalize (c.extendTo H src l.toNat).1 = c' at hx hinv' hlen'
  simp only [Cache.query, if_neg (Int.not_le.mpr hl0), if_neg (Int.not_le.mpr hi), hinv.init, hx,
    Bool.not_true, Bool.false_eq_true, if_false]
  by_cases hneg : i < 0
  · rw [if_pos hneg, branchAndRoot_out_of_range H none tsc (by omega)]; rfl
  · rw [if_neg hneg]
    obtain ⟨n, rfl⟩ := Int.eq_ofNat_of_zero_le (by omega : 0 ≤ i)
    have hn : n < l.toNat := by omega
    rw [Int.toNat_natCast]
    by_cases hsmall : l.toNat < c'.segLen
    · rw [if_pos hsmall, leaf_read_direct c' src l.toNat n hsmall hn]
      cases branchAndRoot H (src.take l.toNat) (.int n) none tsc <;> rfl
    · rw [if_neg hsmall, levelFor_eq H c' src l.toNat hinv' (by omega)]
      dsimp only
      rw [leaf_read_level H tsc c' src l.toNat n hsmall hn hl]
      cases branchAndRoot H (src.take l.toNat) (.int n) none tsc <;> rfl

inductive CacheOp where
  | init (n : Nat)
  | truncate (a : IntArg)
  | query (len idx : IntArg) (tsc : Bool)
deriving Repr

/-- the operations the theorems cover: lengths within the source (arguments of the wrong type,
    non-positive lengths and out-of-range indices are all allowed: they are rejected) -/
def CacheOp.OK (srcLen : Nat) : CacheOp → Prop
  | .init n => 1 ≤ n ∧ n ≤ srcLen
  | .truncate _ => True
  | .query (.int l) _ _ => l.toNat ≤ srcLen
  | .query .notInt _ _ => True

def Cache.step [DecidableEq Node] (c : Cache Node) (src : List Node) : CacheOp → Cache Node
  | .init n => (c.init H src n).1
  | .truncate a => (c.truncate a).1
  | .query l i tsc => (c.query H src l i tsc).1

def Cache.run [DecidableEq Node] (c : Cache Node) (src : List Node) : List CacheOp → Cache Node
  | [] => c
  | op :: ops => Cache.run (c.step H src op) src ops

end EV.Merkle
