import EV.Model.Mempool
import EV.Proofs.Dict

/-!
The environment truth (`truePair`, `TrueTx`), the tracker invariant `MpInv`, and the dict / set
primitives of the mempool model: `txs` and `hashXs` are both association lists, their reads `dget`
and `hxGet` lookups in the sense of `EV/Proofs/Dict.lean`, and `hxAdd` is a `dset`, so facts about
unique keys are proved once.
-/
namespace EV.Mempool

/-- `(hashX, value)` of output `p.2` of *the* transaction with id `p.1` (txid injectivity: the world
    is a function from ids to transactions) -/
def truePair (W : Hash → Option RawTx) (p : Prevout) : Option Pair :=
  match W p.1 with
  | none => none
  | some t => t.outs[p.2]?

def TrueTx (W : Hash → Option RawTx) (h : Hash) (tx : MemPoolTx) : Prop :=
  ∃ t, W h = some t ∧ tx.prevouts = (mkTx t).prevouts ∧ tx.outPairs = t.outs ∧ tx.size = t.size ∧
    tx.inPairs.map some = tx.prevouts.map (truePair W) ∧ tx.fee = feeOf tx.inPairs tx.outPairs

/-- a not-yet-accepted entry of a `tx_map`: the deserialised form of the true transaction -/
def Fetched (W : Hash → Option RawTx) (e : Hash × MemPoolTx) : Prop :=
  ∃ t, W e.1 = some t ∧ e.2 = mkTx t

def idx (hx : HashXs) (x : HashX) (h : Hash) : Prop := ∃ s, (x, s) ∈ hx ∧ h ∈ s

structure HxWF (hx : HashXs) : Prop where
  keys : (hx.map (·.1)).Nodup
  sets : ∀ e ∈ hx, e.2 ≠ [] ∧ e.2.Nodup

/-- **the tracker invariant**: `txs` is a dict; `hashXs` is a dict of non-empty sets and is the
    exact inverse of `txs`; every stored transaction is recorded truthfully (prevouts, output pairs,
    size, *input pairs* and *fee*). -/
structure MpInv (W : Hash → Option RawTx) (st : St) : Prop where
  txKeys : (st.txs.map (·.1)).Nodup
  wf : HxWF st.hashXs
  inverse : ∀ x h, idx st.hashXs x h ↔ ∃ tx, (h, tx) ∈ st.txs ∧ x ∈ txHashXs tx
  true : ∀ e ∈ st.txs, TrueTx W e.1 e.2

def UmSound (W : Hash → Option RawTx) (um : UtxoMap) : Prop :=
  ∀ p pr, (p, some pr) ∈ um → truePair W p = some pr

theorem mem_dedup {l : List Nat} {a : Nat} : a ∈ dedup l ↔ a ∈ l := by
  fun_induction dedup l with
  | case1 => exact Iff.rfl
  | case2 x xs hx ih =>
    have hx : x ∈ xs := List.contains_iff_mem.mp hx
    rw [ih, List.mem_cons]
    exact ⟨Or.inr, fun h => h.elim (fun h => h ▸ hx) id⟩
  | case3 x xs _ ih => rw [List.mem_cons, List.mem_cons, ih]

theorem nodup_dedup (l : List Nat) : (dedup l).Nodup := by
  fun_induction dedup l with
  | case1 => exact List.nodup_nil
  | case2 x xs _ ih => exact ih
  | case3 x xs hx ih =>
    exact List.nodup_cons.mpr ⟨fun h => hx (List.contains_iff_mem.mpr (mem_dedup.mp h)), ih⟩

theorem mem_txHashXs {tx : MemPoolTx} {x : HashX} :
    x ∈ txHashXs tx ↔ x ∈ (tx.inPairs ++ tx.outPairs).map (·.1) := mem_dedup

theorem not_contains_iff {α : Type} [BEq α] [LawfulBEq α] {l : List α} {a : α} :
    (!l.contains a) = true ↔ a ∉ l := by
  rw [Bool.not_eq_true', ← Bool.not_eq_true, List.contains_iff_mem]

variable {V : Type} {d : List (Hash × V)}

theorem dget_isLookup : IsLookup fun k (d : List (Hash × V)) => dget d k :=
  ⟨fun _ => rfl, fun _ _ _ _ => rfl⟩

theorem dget_some_mem {k : Hash} {v : V} (h : dget d k = some v) :
    (k, v) ∈ d :=
  dget_isLookup.some_mem h

theorem dget_none_iff {k : Hash} :
    dget d k = none ↔ k ∉ d.map (·.1) :=
  dget_isLookup.eq_none_iff

theorem mem_dget {k : Hash} {v : V} (hn : (d.map (·.1)).Nodup)
    (hm : (k, v) ∈ d) : dget d k = some v :=
  dget_isLookup.of_mem hn hm

theorem mem_unique {k : Hash} {v v' : V} (hn : (d.map (·.1)).Nodup) (h : (k, v) ∈ d)
    (h' : (k, v') ∈ d) : v = v' :=
  congrArg Prod.snd (eq_of_nodup_map hn h h' rfl)

theorem hasKey_iff {k : Hash} :
    hasKey d k = true ↔ k ∈ d.map (·.1) :=
  dget_isLookup.isSome_iff

theorem keys_dset (d : List (Hash × V)) (k : Hash) (v : V) :
    (dset d k v).map (·.1) = if k ∈ d.map (·.1) then d.map (·.1) else d.map (·.1) ++ [k] := by
  fun_induction dset d k v with
  | case1 => rfl
  | case2 => simp only [List.map_cons, List.mem_cons, true_or, if_true]
  | case3 k' _ _ k _ hk ih =>
    simp only [List.map_cons, ih, List.mem_cons, Ne.symm hk, false_or]
    split <;> rfl

theorem mem_keys_dset {V : Type} {d : List (Hash × V)} {k k' : Hash} {v : V} :
    k' ∈ (dset d k v).map (·.1) ↔ k' = k ∨ k' ∈ d.map (·.1) := by
  rw [keys_dset]
  split
  · rename_i hk
    exact ⟨Or.inr, fun h => h.elim (fun h => h ▸ hk) id⟩
  · rw [List.mem_append, List.mem_singleton, or_comm]

theorem nodup_keys_dset (k : Hash) (v : V)
    (hn : (d.map (·.1)).Nodup) : ((dset d k v).map (·.1)).Nodup := by
  rw [keys_dset]
  split
  · exact hn
  · next hk => exact nodup_snoc hn hk

theorem mem_dset {k k' : Hash} {v v' : V} (hn : (d.map (·.1)).Nodup) :
    (k', v') ∈ dset d k v ↔ (k' = k ∧ v' = v) ∨ (k' ≠ k ∧ (k', v') ∈ d) := by
  fun_induction dset d k v with
  | case1 => simp only [List.mem_singleton, Prod.mk.injEq, List.not_mem_nil, and_false, or_false]
  | case2 v0 r k v =>
    have hr : (k', v') ∈ r → k' ≠ k :=
      fun hm hk => (List.nodup_cons.mp hn).1 (hk ▸ List.mem_map.mpr ⟨_, hm, rfl⟩)
    simp only [List.mem_cons, Prod.mk.injEq]
    exact or_congr_right ⟨fun h => ⟨hr h, Or.inr h⟩, fun h => h.2.resolve_left (fun h3 => h.1 h3.1)⟩
  | case3 k0 v0 r k v hk ih =>
    simp only [List.mem_cons, Prod.mk.injEq, ih (List.nodup_cons.mp hn).2]
    rw [or_left_comm]
    exact or_congr_right ⟨fun h => h.elim (fun h1 => ⟨h1.1 ▸ hk, Or.inl h1⟩) (fun h1 => ⟨h1.1, Or.inr h1.2⟩),
      fun h => h.2.imp id (fun h3 => ⟨h.1, h3⟩)⟩

/-- `txMapOf`, `specPool` and the result of `touching` are the same construction: a partial function
    tabulated over a list of keys.  This and `keys_tabulate_sublist` are its two facts. -/
theorem mem_tabulate {α β : Type} {src : Hash → Option α} {f : α → β} {l : List Hash}
    {e : Hash × β} :
    e ∈ l.filterMap (fun h => (src h).map fun t => (h, f t)) ↔
      e.1 ∈ l ∧ ∃ t, src e.1 = some t ∧ e.2 = f t := by
  simp only [List.mem_filterMap, Option.map_eq_some_iff]
  constructor
  · rintro ⟨h, hl, t, ht, rfl⟩
    exact ⟨hl, t, ht, rfl⟩
  · rintro ⟨hl, t, ht, he⟩
    exact ⟨e.1, hl, t, ht, Prod.ext rfl he.symm⟩

theorem keys_tabulate_sublist {α β : Type} (src : Hash → Option α) (f : α → β) (l : List Hash) :
    ((l.filterMap fun h => (src h).map fun t => (h, f t)).map (·.1)).Sublist l := by
  induction l with
  | nil => exact List.Sublist.refl _
  | cons h hs ih =>
    rw [List.filterMap_cons]
    cases src h with
    | none => exact ih.cons h
    | some t => exact ih.cons_cons h

theorem umGet_some_mem {um : UtxoMap} {p : Prevout} {pr : Pair} (h : umGet um p = some pr) :
    (p, some pr) ∈ um := by
  fun_induction umGet um p with
  | case1 => cases h
  | case2 => exact h ▸ List.mem_cons_self
  | case3 _ _ _ _ _ ih => exact List.mem_cons_of_mem _ (ih h)

theorem umGet_of_all_some {um : UtxoMap} {p : Prevout} (hk : p ∈ um.map (·.1))
    (hall : ∀ r, (p, r) ∈ um → r ≠ none) : ∃ pr, umGet um p = some pr := by
  fun_induction umGet um p with
  | case1 => cases hk
  | case2 v r p => exact Option.ne_none_iff_exists'.mp (hall v List.mem_cons_self)
  | case3 k v r p hne ih =>
    rw [List.map_cons, List.mem_cons] at hk
    exact ih (hk.resolve_left (Ne.symm hne)) (fun r' hr => hall r' (List.mem_cons_of_mem _ hr))

theorem idx_nil (x : HashX) (h : Hash) : ¬ idx [] x h := fun ⟨_, hs, _⟩ => nomatch hs

theorem idx_cons {k : HashX} {s : List Hash} {r : HashXs} {x : HashX} {h : Hash} :
    idx ((k, s) :: r) x h ↔ (x = k ∧ h ∈ s) ∨ idx r x h := by
  simp only [idx, List.mem_cons, Prod.mk.injEq, or_and_right, exists_or, and_assoc, exists_and_left,
    exists_eq_left]

theorem idx_key {hx : HashXs} {x : HashX} {h : Hash} (hi : idx hx x h) : x ∈ hx.map (·.1) :=
  hi.elim fun s hs => List.mem_map.mpr ⟨(x, s), hs.1, rfl⟩

theorem HxWF_tail {e : HashX × List Hash} {r : HashXs} (hw : HxWF (e :: r)) : HxWF r :=
  ⟨(List.nodup_cons.mp hw.keys).2, fun e' he' => hw.sets e' (List.mem_cons_of_mem _ he')⟩

theorem hxGet_isLookup : IsLookup fun x (hx : HashXs) => hxGet hx x :=
  ⟨fun _ => rfl, fun _ _ _ _ => rfl⟩

theorem hxGet_some_mem {hx : HashXs} {x : HashX} {s : List Hash} (h : hxGet hx x = some s) :
    (x, s) ∈ hx := hxGet_isLookup.some_mem h

theorem hxGet_none {hx : HashXs} {x : HashX} (h : hxGet hx x = none) : x ∉ hx.map (·.1) :=
  hxGet_isLookup.eq_none_iff.mp h

theorem mem_hxGet {hx : HashXs} (hw : HxWF hx) (x : HashX) (h : Hash) :
    h ∈ (hxGet hx x).getD [] ↔ idx hx x h := by
  constructor
  · intro hh
    cases hg : hxGet hx x with
    | none => rw [hg] at hh; cases hh
    | some s => rw [hg] at hh; exact ⟨s, hxGet_some_mem hg, hh⟩
  · rintro ⟨s, hs, hh⟩
    rw [hxGet_isLookup.of_mem hw.keys hs]; exact hh

theorem nodup_hxGet {hx : HashXs} (hw : HxWF hx) (x : HashX) : ((hxGet hx x).getD []).Nodup := by
  cases hg : hxGet hx x with
  | none => exact List.nodup_nil
  | some s => exact (hw.sets _ (hxGet_some_mem hg)).2

theorem hxAdd_eq_dset (hx : HashXs) (x : HashX) (h : Hash) :
    hxAdd hx x h = dset hx x (if ((hxGet hx x).getD []).contains h = true then (hxGet hx x).getD []
      else (hxGet hx x).getD [] ++ [h]) := by
  fun_induction hxAdd hx x h with
  | case1 => rfl
  | case2 s r x h => simp only [hxGet, dset, if_true, Option.getD_some]
  | case3 k s r x h hk ih => rw [dset, if_neg hk, hxGet, if_neg hk, ← ih]

theorem keys_hxAdd (hx : HashXs) (x : HashX) (h : Hash) :
    (hxAdd hx x h).map (·.1) = if x ∈ hx.map (·.1) then hx.map (·.1) else hx.map (·.1) ++ [x] := by
  rw [hxAdd_eq_dset, keys_dset]

theorem HxWF_hxAdd {hx : HashXs} (x : HashX) (h : Hash) (hw : HxWF hx) : HxWF (hxAdd hx x h) := by
  rw [hxAdd_eq_dset]
  refine ⟨nodup_keys_dset _ _ hw.keys, fun e he => ?_⟩
  rcases (mem_dset hw.keys).mp he with h1 | h1
  · rw [h1.2]; exact nodup_setAdd h (nodup_hxGet hw x)
  · exact hw.sets e h1.2

theorem idx_hxAdd {hx : HashXs} {x x' : HashX} {h h' : Hash} :
    idx (hxAdd hx x h) x' h' ↔ idx hx x' h' ∨ (x' = x ∧ h' = h) := by
  fun_induction hxAdd hx x h with
  | case1 => simp only [idx_cons, idx_nil, List.mem_singleton, or_false, false_or]
  | case2 s r x h => rw [idx_cons, idx_cons, mem_setAdd, and_or_left, or_right_comm]
  | case3 k s r x h _ ih => rw [idx_cons, idx_cons, ih, or_assoc]

theorem HxWF_hxAddAll {xs : List HashX} {hx : HashXs} (h : Hash) (hw : HxWF hx) :
    HxWF (hxAddAll hx h xs) := by
  induction xs generalizing hx with
  | nil => exact hw
  | cons x xs ih => exact ih (HxWF_hxAdd x h hw)

theorem idx_hxAddAll {xs : List HashX} {hx : HashXs} {h : Hash} {x' : HashX} {h' : Hash} :
    idx (hxAddAll hx h xs) x' h' ↔ idx hx x' h' ∨ (h' = h ∧ x' ∈ xs) := by
  induction xs generalizing hx with
  | nil => simp only [hxAddAll, List.not_mem_nil, and_false, or_false]
  | cons x xs ih =>
    rw [hxAddAll, ih, idx_hxAdd, List.mem_cons, or_assoc, and_or_left, and_comm (a := x' = x)]

theorem hxRemove_ok {hx : HashXs} {x : HashX} {h : Hash} (hw : HxWF hx) (hi : idx hx x h) :
    ∃ hx', hxRemove hx x h = .ok hx' ∧ HxWF hx' ∧
      (∀ k, k ∈ hx'.map (·.1) → k ∈ hx.map (·.1)) ∧
      ∀ x' h', idx hx' x' h' ↔ idx hx x' h' ∧ ¬ (x' = x ∧ h' = h) := by
  fun_induction hxRemove hx x h with
  | case1 => exact absurd hi (idx_nil _ _)
  | case2 s r x h hc =>
    have hnr : ∀ {x' h'}, idx r x' h' → x' ≠ x :=
      fun h1 h2 => (List.nodup_cons.mp hw.keys).1 (h2 ▸ idx_key h1)
    have hs := hw.sets (x, s) List.mem_cons_self
    -- in both branches `s.erase h` is what is indexed under `x`
    have key : ∀ x' h', idx (if (s.erase h).isEmpty = true then r else (x, s.erase h) :: r) x' h' ↔
        (x' = x ∧ h' ∈ s.erase h) ∨ idx r x' h' := by
      intro x' h'
      split
      · rename_i he
        simp only [List.isEmpty_iff.mp he, List.not_mem_nil, and_false, false_or]
      · exact idx_cons
    refine ⟨_, rfl, ?_, fun k => ?_, fun x' h' => ?_⟩
    · split
      · exact HxWF_tail hw
      · rename_i hne
        refine ⟨hw.keys, fun e he => ?_⟩
        rcases List.mem_cons.mp he with h1 | h1
        · rw [h1]; exact ⟨fun h2 => hne (List.isEmpty_iff.mpr h2), hs.2.erase h⟩
        · exact hw.sets e (List.mem_cons_of_mem _ h1)
    · split
      · exact List.mem_cons_of_mem _
      · exact id
    · rw [key, idx_cons, hs.2.mem_erase_iff]
      constructor
      · rintro (⟨h1, h2, h3⟩ | h1)
        · exact ⟨Or.inl ⟨h1, h3⟩, fun h4 => h2 h4.2⟩
        · exact ⟨Or.inr h1, fun h4 => hnr h1 h4.1⟩
      · rintro ⟨⟨h1, h3⟩ | h1, h2⟩
        · exact Or.inl ⟨h1, fun h4 => h2 ⟨h1, h4⟩, h3⟩
        · exact Or.inr h1
  | case3 s r x h hc =>
    refine absurd ((idx_cons.mp hi).elim (fun h1 => List.contains_iff_mem.mpr h1.2) fun h1 => ?_) hc
    exact absurd (idx_key h1) (List.nodup_cons.mp hw.keys).1
  | case4 k s r x h hk e he ih =>
    obtain ⟨_, h1, _⟩ := ih (HxWF_tail hw) ((idx_cons.mp hi).resolve_left fun h1 => hk h1.1.symm)
    rw [he] at h1; cases h1
  | case5 k s r x h hk r' hr ih =>
    obtain ⟨_, h1, h2, h3, h4⟩ :=
      ih (HxWF_tail hw) ((idx_cons.mp hi).resolve_left fun h1 => hk h1.1.symm)
    cases hr.symm.trans h1
    refine ⟨_, rfl, ⟨?_, fun e he => ?_⟩, fun k' hk' => ?_, fun x' h' => ?_⟩
    · exact List.nodup_cons.mpr ⟨fun h5 => (List.nodup_cons.mp hw.keys).1 (h3 _ h5), h2.keys⟩
    · rcases List.mem_cons.mp he with h5 | h5
      · rw [h5]; exact hw.sets (k, s) List.mem_cons_self
      · exact h2.sets e h5
    · exact List.mem_cons.mpr ((List.mem_cons.mp hk').imp id (h3 _))
    · rw [idx_cons, idx_cons, h4, or_and_right]
      exact or_congr_left (iff_self_and.mpr fun h5 h6 => hk (h5.1.symm.trans h6.1))

theorem unindex_ok {xs : List HashX} {hx : HashXs} {h : Hash} (hw : HxWF hx) (hn : xs.Nodup)
    (hi : ∀ x ∈ xs, idx hx x h) :
    ∃ hx', unindex h hx xs = .ok hx' ∧ HxWF hx' ∧
      ∀ x' h', idx hx' x' h' ↔ idx hx x' h' ∧ ¬ (h' = h ∧ x' ∈ xs) := by
  induction xs generalizing hx with
  | nil => exact ⟨hx, rfl, hw, fun _ _ => (and_iff_left fun h1 => nomatch h1.2).symm⟩
  | cons x xs ih =>
    obtain ⟨hx1, h1, h2, _, h4⟩ := hxRemove_ok hw (hi x List.mem_cons_self)
    have hn' := List.nodup_cons.mp hn
    obtain ⟨hx2, h5, h6, h7⟩ := ih h2 hn'.2 fun x2 hx2 =>
      (h4 x2 h).mpr ⟨hi x2 (List.mem_cons_of_mem _ hx2), fun h5 => hn'.1 (h5.1 ▸ hx2)⟩
    refine ⟨hx2, ?_, h6, fun x' h' => ?_⟩
    · rw [unindex, h1]; exact h5
    · rw [h7, h4, List.mem_cons, and_assoc, ← not_or, and_comm (a := x' = x), ← and_or_left]

theorem TrueTx_unique {W : Hash → Option RawTx} {h : Hash} {a b : MemPoolTx}
    (ha : TrueTx W h a) (hb : TrueTx W h b) : a = b := by
  obtain ⟨t, h1, h2, h3, h4, h5, h6⟩ := ha
  obtain ⟨t', g1, g2, g3, g4, g5, g6⟩ := hb
  cases Option.some.inj (h1.symm.trans g1)
  have hp : a.prevouts = b.prevouts := h2.trans g2.symm
  have ho : a.outPairs = b.outPairs := h3.trans g3.symm
  have hi : a.inPairs = b.inPairs :=
    (List.map_inj_right fun _ _ => Option.some.inj).mp (by rw [h5, g5, hp])
  have hf : a.fee = b.fee := by rw [h6, g6, hi, ho]
  obtain ⟨_, _, _, _, _⟩ := a
  obtain ⟨_, _, _, _, _⟩ := b
  cases hp; cases ho; cases hi; cases hf; cases h4.trans g4.symm
  rfl

end EV.Mempool
