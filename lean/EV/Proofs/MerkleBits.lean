import EV.Model.Merkle
import Mathlib.Data.Nat.Log
-- `Nat.instMonoid`: with it in scope `2 ^ n` in the statements of this module and of those that import it
-- is the power of `Monoid.toNPow`, the form in which Mathlib states its own lemmas about powers of naturals
import Mathlib.Algebra.Group.Nat.Defs

/-! Arithmetic facts for C12: `^^^ 1`, `bit_length` and `Nat.clog`. -/
namespace EV.Merkle

/-! The `^^^ 1` facts are proved from core lemmas: Mathlib has `Nat.xor_one_of_even`/`_of_odd`, but in
`Mathlib.Data.Nat.Bitwise`, which loads some 500 modules more than `Mathlib.Data.Nat.Log` does. -/

theorem xor_one_div (i : Nat) : (i ^^^ 1) / 2 = i / 2 := by
  rw [Nat.xor_div_two]; exact Nat.xor_zero _

theorem xor_one_mod (i : Nat) : (i ^^^ 1) % 2 = i % 2 ^^^ 1 := Nat.xor_mod_two_pow (n := 1)

theorem xor_one_add_two (j : Nat) : (j + 2) ^^^ 1 = (j ^^^ 1) + 2 := by
  rw [← Nat.div_add_mod ((j + 2) ^^^ 1) 2, ← Nat.div_add_mod (j ^^^ 1) 2, xor_one_div, xor_one_div,
    xor_one_mod, xor_one_mod, Nat.add_div_right _ (by decide), Nat.add_mod_right, Nat.mul_add,
    Nat.add_right_comm]

theorem xor_one_odd {i : Nat} (h : i % 2 = 1) : i ^^^ 1 = i - 1 := by
  have e := Nat.div_add_mod i 2
  rw [h] at e
  rw [← Nat.div_add_mod (i ^^^ 1) 2, xor_one_div, xor_one_mod, h]
  exact congrArg (· - 1) e

theorem xor_one_eq_iff {i n : Nat} (hn : n % 2 = 1) : i ^^^ 1 = n ↔ i = n - 1 := by
  have c (x : Nat) : x ^^^ 1 ^^^ 1 = x := by rw [Nat.xor_assoc, Nat.xor_self, Nat.xor_zero]
  rw [← xor_one_odd hn]
  exact ⟨fun h => by rw [← h, c], fun h => by rw [h, c]⟩

theorem bitLength_le_iff (m k : Nat) : bitLength m ≤ k ↔ m < 2 ^ k := by
  unfold bitLength
  split
  · subst_vars; simp [Nat.pow_pos]
  · rename_i h
    rw [Nat.succ_le_iff, Nat.log2_lt h]

theorem branchLengthNat_eq_clog {n : Nat} (hn : 1 ≤ n) : branchLengthNat n = Nat.clog 2 n := by
  apply Nat.le_antisymm
  · rw [branchLengthNat, bitLength_le_iff]
    have := Nat.le_pow_clog (b := 2) (by omega) n
    omega
  · rw [Nat.clog_le_iff_le_pow (by omega)]
    have := (bitLength_le_iff (n - 1) (branchLengthNat n)).mp (Nat.le_refl _)
    omega

theorem branchLength_natCast {n : Nat} (hn : 1 ≤ n) : branchLength (.int n) = .ok (Nat.clog 2 n) := by
  have hc : ¬ ((n : Int) < 1) := by omega
  have : ((n : Int) - 1).toNat = n - 1 := by omega
  simp only [branchLength, hc, if_false, this]
  rw [← branchLengthNat, branchLengthNat_eq_clog hn]

theorem clog_step {n : Nat} (hn : 2 ≤ n) : Nat.clog 2 n = Nat.clog 2 ((n + 1) / 2) + 1 := by
  rw [Nat.clog_of_two_le (by omega) hn]; rfl

theorem clog_one : Nat.clog 2 1 = 0 := Nat.clog_one_right 2

theorem pow_le_clog {d l : Nat} (h : 2 ^ d ≤ l) : d ≤ Nat.clog 2 l :=
  (Nat.pow_le_pow_iff_right (by omega)).mp (Nat.le_trans h (Nat.le_pow_clog (by omega) l))

end EV.Merkle
