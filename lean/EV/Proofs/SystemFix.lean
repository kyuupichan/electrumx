import EV.Proofs.System

/-!
The current code (`cmpLive = true`: the second loop of `_notify_inner` compares the new status with the
value that is in `mempool_statuses` at the moment it is replaced; `raiseOnRace = false`:
`_refresh_hsub_results` always reads again): `mempool_statuses` never records a status the client was
not sent, hence nothing is ever `suppressed`; and no notification is ever `lost`.
-/
namespace EV.System

structure FixInv (st : St) : Prop where
  msHeld : ∀ s x v, lookup x (msOf st s) = some v → heldOf st s x = some v
  nosupp : st.suppressed = []
  nolost : st.lost = []
  lens : st.held.length = st.ms.length

def fixView (st : St) := (st.ms, st.held, st.suppressed, st.lost)

theorem FixInv.of_view {st st' : St} (h : FixInv st) (e : fixView st' = fixView st) : FixInv st' := by
  simp only [fixView, Prod.mk.injEq] at e
  obtain ⟨e_ms, e_held, e_supp, e_lost⟩ := e
  exact ⟨fun s x v hl => by simp only [msOf, e_ms] at hl; simp only [heldOf, e_held]; exact h.msHeld s x v hl,
    by rw [e_supp]; exact h.nosupp, by rw [e_lost]; exact h.nolost, by rw [e_ms, e_held]; exact h.lens⟩

theorem fixInv_init (n m : Nat) : FixInv (init n m) := by
  refine ⟨?_, rfl, rfl, by simp [init]⟩
  intro s x v hl
  simp only [msOf, init, List.getD_eq_getElem?_getD, List.getElem?_replicate] at hl
  split at hl <;> simp [lookup] at hl

theorem fix_send (st : St) (s hx : Nat) (v : Status) (h : FixInv st) : FixInv (send st s hx v) := by
  refine ⟨?_, h.nosupp, h.nolost,
    (length_held_send st s hx v).trans (h.lens.trans (length_ms_send st s hx v).symm)⟩
  intro s' x' v' hl
  rw [msOf_send] at hl
  rw [heldOf_send]
  by_cases hc : s' = s ∧ s < st.ms.length ∧ x' = hx
  · rw [if_pos hc] at hl
    rw [if_pos ⟨hc.1, by rw [h.lens]; exact hc.2.1, hc.2.2⟩]
    split at hl
    · exact hl
    · cases hl
  · rw [if_neg hc] at hl
    rw [if_neg (fun hh => hc ⟨hh.1, by rw [← h.lens]; exact hh.2.1, hh.2.2⟩)]
    exact h.msHeld s' x' v' hl

theorem fix_visit2 (f : Flags) (hb : f.batch = false) (hl : f.cmpLive = true) (st : St) (s hx c : Nat)
    (old : Status) (h : FixInv st) : FixInv (visit2 f st s hx c old []).1 := by
  unfold visit2
  split
  · rw [visit1_eq f hb]
    exact fix_send st s hx _ h
  · next hd =>
    -- nothing is sent: `mempool_statuses` records this very status, so the client holds it
    simp only [differs, hl, if_true, bne_iff_ne, ne_eq, Decidable.not_not] at hd
    have hheld : heldOf st s hx = some (c, memOf st hx) := h.msHeld s hx _ hd
    have hne : (heldOf st s hx != some (c, memOf st hx)) = false := by rw [hheld]; exact bne_self_eq_false _
    simp only [hne, Bool.false_eq_true, if_false]
    refine ⟨fun s' x' v' hlk => ?_, h.nosupp, h.nolost, h.lens.trans (length_ms_setMs st s hx _).symm⟩
    replace hlk : lookup x' (msOf (setMs st s hx (c, memOf st hx)) s') = some v' := hlk
    rw [msOf_setMs] at hlk
    show heldOf st s' x' = some v'
    split at hlk
    · next hc =>
      obtain ⟨rfl, _, rfl⟩ := hc
      split at hlk
      · cases hlk; exact hheld
      · cases hlk
    · exact h.msHeld s' x' v' hlk

theorem fix_notifyGo2 (f : Flags) (hb : f.batch = false) (hl : f.cmpLive = true) (s : Nat)
    (todo : List (Nat × Status)) (st : St) (h : FixInv st) : FixInv (notifyGo2 f st s todo []) := by
  induction todo generalizing st with
  | nil => simpa [notifyGo2, flushChanged] using h
  | cons e rest ih =>
    obtain ⟨x, old⟩ := e
    rw [notifyGo2]
    split
    · exact ih st h
    · split
      · rw [visit2_snd f hb]
        exact ih _ (fix_visit2 f hb hl st s x _ old h)
      · exact h.of_view rfl

theorem fix_notifyGo (f : Flags) (hb : f.batch = false) (hl : f.cmpLive = true) (s : Nat)
    (todo : List Nat) (st : St) (h : FixInv st) : FixInv (notifyGo f st s todo []) := by
  induction todo generalizing st with
  | nil =>
    rw [notifyGo]
    split
    · exact fix_notifyGo2 f hb hl s _ st h
    · simpa [flushChanged] using h
  | cons x rest ih =>
    rw [notifyGo]
    split
    · exact ih st h
    · split
      · rw [visit1_eq f hb]; exact ih _ (fix_send st s x _ h)
      · exact h.of_view rfl

theorem fix_resume (f : Flags) (hb : f.batch = false) (hl : f.cmpLive = true) (st : St) (hx c : Nat) (k : Cont)
    (hch : k.NoChanged)
    (h : FixInv st) : FixInv (resume f st hx c k) := by
  cases k with
  | query => exact h
  | sub s x =>
    simp only [resume]
    exact (fix_send st s x _ h).of_view rfl
  | notify s rest ch =>
    obtain rfl := hch.1 s rest ch rfl
    simp only [resume, visit1_eq f hb]
    exact fix_notifyGo f hb hl s rest _ (fix_send st s hx _ h)
  | notify2 s old rest ch =>
    obtain rfl := hch.2 s old rest ch rfl
    simp only [resume, visit2_snd f hb]
    exact fix_notifyGo2 f hb hl s rest _ (fix_visit2 f hb hl st s hx c old h)

theorem fix_sessionNotify (f : Flags) (hb : f.batch = false) (hl : f.cmpLive = true) (xs : List Nat) (hc : Bool)
    (st : St) (s : Nat) (h : FixInv st) : FixInv (sessionNotify f st s xs hc) := by
  have hh : FixInv (hdrNotify st s hc) := by
    unfold hdrNotify
    split
    · exact h.of_view rfl
    · exact h
  unfold sessionNotify
  split
  · exact h
  · split
    · exact fix_notifyGo f hb hl s _ _ hh
    · exact hh

theorem fix_finishNotify (f : Flags) (hb : f.batch = false) (hl : f.cmpLive = true) (st : St) (xs : List Nat)
    (hc : Bool) (h : FixInv st) : FixInv (finishNotify f st xs hc) :=
  foldl_inv (fix_sessionNotify f hb hl xs hc) _ (h.of_view rfl)

theorem Step.fix {f : Flags} (hb : f.batch = false) (hl : f.cmpLive = true) (hnr : f.raiseOnRace = false)
    {st st' : St} {ev : Ev} (hs : Step f st ev st') (hinv : Inv st) (h : FixInv st) : FixInv st' := by
  cases hs with
  | direct ht xs => exact fix_finishNotify f hb hl _ xs false (h.of_view rfl)
  | arrived i hj hv => exact fix_finishNotify f hb hl _ _ true (h.of_view rfl)
  | subHit s x hl' => exact fix_resume f hb hl st x _ _ ⟨nofun, nofun⟩ h
  | accept i hj hv hc =>
    exact fix_resume f hb hl _ _ _ _ (hinv.nochg _ (List.mem_iff_getElem?.mpr ⟨_, hj⟩)) (h.of_view rfl)
  | raised i hj hv hr => exact absurd (hnr ▸ hr) (by decide)
  | unsubscribe s x =>
    refine ⟨fun s' x' v' hlk => ?_, h.nosupp, h.nolost, by simp only [length_modifyAt]; exact h.lens⟩
    show heldOf st s' x' = some v'
    simp only [msOf, getD_modifyAt] at hlk
    split at hlk
    · rw [lookup_dictErase] at hlk
      split at hlk
      · cases hlk
      · exact h.msHeld s' x' v' hlk
    · exact h.msHeld s' x' v' hlk
  | _ => exact h.of_view rfl

theorem fix_run (f : Flags) (hb : f.batch = false) (hcc : f.checkCount = true) (hr : f.recheck = true)
    (hl : f.cmpLive = true) (hnr : f.raiseOnRace = false) (st : St) (evs : List Ev) (hinv : Inv st) (h : FixInv st) :
    FixInv (run f st evs) :=
  (foldl_inv (P := fun st => Inv st ∧ FixInv st) (fun st ev h =>
    ⟨inv_step_flags f hb hcc hr st ev h.1, (Step.of_step f st ev).fix hb hl hnr h.1 h.2⟩) evs ⟨hinv, h⟩).2

theorem fixInv_reachable (n m : Nat) (evs : List Ev) : FixInv (run {} (init n m) evs) :=
  fix_run {} rfl rfl rfl rfl rfl _ evs (inv_init n m) (fixInv_init n m)

end EV.System
