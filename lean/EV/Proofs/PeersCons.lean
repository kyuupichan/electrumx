import EV.Model.Peers

/-! `Peer` construction from decoded JSON: the port and pruning ranges are read off the guards of `port` /
`pruning`, and the only operation that can raise is `str(int)` in `version_string`, which `PyStrOK` rules
out.  The tail of the file shows `PyStrOK pyAscii`: what `pyIntAscii` accepts has at most `maxStrDigits`
digits, so `pyStrOfInt` succeeds on it. -/
namespace EV.Peers

/-- The CPython fact the "never raises" claim needs: `str(i)` succeeds for `0` and for every
integer that `int(s)` can return (both directions are subject to the same digit limit). -/
def PyStrOK (P : Py) : Prop :=
  (P.strOfInt 0).isSome = true ∧ ∀ s v, P.intOfString s = some v → (P.strOfInt v).isSome = true

theorem port_range {P : Py} {host : String} {feats : List (String × J)} {key : String} {p : Int}
    (h : port P host feats key = some p) : 0 < p ∧ p < 65536 := by
  unfold port at h
  split at h
  · split at h
    · split at h
      · rename_i hc
        cases h
        simp only [Bool.and_eq_true, decide_eq_true_eq] at hc
        exact hc.2
      · cases h
    · cases h
  · cases h

theorem pruning_pos {P : Py} {feats : List (String × J)} {p : Int}
    (h : pruning P feats = some p) : 0 < p := by
  unfold pruning at h
  split at h
  · split at h
    · rename_i hc
      cases h
      simp only [Bool.and_eq_true, decide_eq_true_eq] at hc
      exact hc.2
    · cases h
  · cases h

theorem mapO_some_of {α β : Type} {f : α → Option β} {l : List α}
    (h : ∀ a ∈ l, (f a).isSome = true) : ∃ bs, mapO f l = some bs := by
  induction l with
  | nil => exact ⟨[], rfl⟩
  | cons a l ih =>
    rw [List.forall_mem_cons] at h
    obtain ⟨bs, hbs⟩ := ih h.2
    obtain ⟨b, hb⟩ := Option.isSome_iff_exists.mp h.1
    exact ⟨b :: bs, by rw [mapO, hb, hbs]⟩

theorem exists_of_map_eq_map {α β γ : Type} {f : α → γ} {g : β → γ} {l : List α} {bs : List β}
    (h : l.map f = bs.map g) : ∀ b ∈ bs, ∃ a ∈ l, f a = g b :=
  fun _ hb => List.mem_map.mp (h ▸ List.mem_map_of_mem hb)

theorem map_of_mapO {α β : Type} {f : α → Option β} {l : List α} {bs : List β}
    (h : mapO f l = some bs) : l.map f = bs.map some := by
  induction l generalizing bs with
  | nil => cases h; rfl
  | cons a l ih =>
    rw [mapO] at h
    split at h
    · cases h
    · rename_i b hb
      split at h
      · cases h
      · rename_i bs' hbs'
        cases h
        rw [List.map_cons, List.map_cons, hb, ih hbs']

theorem protocolTuple_strOK {P : Py} (hP : PyStrOK P) (j : J) :
    ∀ v ∈ protocolTuple P j, (P.strOfInt v).isSome = true := by
  have h0 : ∀ v ∈ [(0 : Int)], (P.strOfInt v).isSome = true :=
    fun v hv => List.mem_singleton.mp hv ▸ hP.1
  unfold protocolTuple
  split
  · split
    · rename_i t ht
      intro v hv
      obtain ⟨a, _, ha⟩ := exists_of_map_eq_map (map_of_mapO ht) v hv
      exact hP.2 a v ha
    · exact h0
  · exact h0

theorem versionString_ok {P : Py} (hP : PyStrOK P) {t : List Int}
    (ht : ∀ v ∈ t, (P.strOfInt v).isSome = true) : ∃ s, versionString P t = .ok s := by
  have : ∀ v ∈ t ++ List.replicate (2 - t.length) 0, (P.strOfInt v).isSome = true := by
    intro v hv
    rcases List.mem_append.mp hv with hv | hv
    · exact ht v hv
    · rw [(List.mem_replicate.mp hv).2]; exact hP.1
  obtain ⟨ss, hss⟩ := mapO_some_of this
  exact ⟨".".intercalate ss, by rw [versionString, hss]⟩

theorem protoStr_ok {P : Py} (hP : PyStrOK P) (feats : List (String × J)) (key : String) :
    ∃ s, protoStr P feats key = .ok s :=
  versionString_ok hP (protocolTuple_strOK hP _)

theorem versionString_err {P : Py} {t : List Int} {e : PyExc} (h : versionString P t = .error e) :
    e = .valueError := by
  unfold versionString at h
  split at h <;> cases h
  rfl

/-- `version_string` is the one place that can raise, and it needs `str(int)` to fail on `0` or on a
    value that `int(str)` returned -/
theorem protoStr_err {P : Py} {feats : List (String × J)} {key : String} {e : PyExc}
    (h : protoStr P feats key = .error e) : e = .valueError ∧ ¬PyStrOK P :=
  ⟨versionString_err h, fun hP => by
    obtain ⟨s, hs⟩ := protoStr_ok hP feats key
    rw [hs] at h
    cases h⟩

/-- what every successfully constructed peer satisfies (`C19_ports` and `C19_ports_any` write these
    conjuncts out in their statements, which `PeerOK p` proves as it stands) -/
def PeerOK (p : Peer) : Prop :=
  (∀ v, p.tcpPort = some v → 0 < v ∧ v < 65536) ∧
  (∀ v, p.sslPort = some v → 0 < v ∧ v < 65536) ∧ (∀ v, p.pruning = some v → 0 < v)

theorem cleanup_spec (P : Py) (host source : String) (kv : List (String × J)) :
    (∀ p, cleanup P host kv source = .ok p → PeerOK p) ∧
      ∀ e, cleanup P host kv source = .error e → e = .valueError ∧ ¬PyStrOK P := by
  cases h1 : protoStr P (feats2 P kv) "protocol_min" with
  | error e1 =>
    simp only [cleanup, h1]
    exact ⟨(fun _ h => nomatch h), fun _ h => by cases h; exact protoStr_err h1⟩
  | ok pmin =>
    cases h2 : protoStr P (feats3 P kv pmin) "protocol_max" with
    | error e2 =>
      simp only [cleanup, h1, h2]
      exact ⟨(fun _ h => nomatch h), fun _ h => by cases h; exact protoStr_err h2⟩
    | ok pmax =>
      simp only [cleanup, h1, h2]
      refine ⟨fun p h => ?_, (fun _ h => nomatch h)⟩
      cases h
      -- reduce the field projections before matching them against `port_range` / `pruning_pos`
      simp only [PeerOK]
      exact ⟨fun v hv => port_range hv, fun v hv => port_range hv, fun v hv => pruning_pos hv⟩

/-- inside `peers_from_features` the asserts of `__init__` always pass -/
theorem mkPeer_of_host_key {P : Py} {kv hosts : List (String × J)} {host source : String}
    (hh : dictGet kv "hosts" = .obj hosts) (hk : host ∈ hosts.map (·.1)) :
    mkPeer P host (.obj kv) source = cleanup P host kv source := by
  have hl : kv.lookup "hosts" = some (.obj hosts) := by
    unfold dictGet at hh
    cases hlk : kv.lookup "hosts" with
    | none => rw [hlk] at hh; cases hh
    | some j => rw [hlk] at hh; exact congrArg some hh
  have ha : (hosts.any fun e => e.1 == host) = true := by
    obtain ⟨e, he, rfl⟩ := List.mem_map.mp hk
    exact List.any_eq_true.mpr ⟨e, he, beq_iff_eq.mpr rfl⟩
  simp only [mkPeer, hl, Option.getD_some, pyIn, ha]

section
variable {α β : Type} {f : α → Except PyExc β} {l : List α}

theorem mapE_spec :
    (∀ bs, mapE f l = .ok bs → l.map f = bs.map .ok) ∧
      ∀ e, mapE f l = .error e → ∃ a ∈ l, f a = .error e := by
  induction l with
  | nil => exact ⟨fun bs h => by cases h; rfl, fun _ h => nomatch h⟩
  | cons a l ih =>
    rw [mapE]
    cases hb : f a with
    | error e' => exact ⟨(fun _ h => nomatch h), fun e h => by cases h; exact ⟨a, List.mem_cons_self, hb⟩⟩
    | ok b =>
      cases hbs : mapE f l with
      | error e' =>
        refine ⟨(fun _ h => nomatch h), fun e h => ?_⟩
        cases h
        obtain ⟨a', ha', h'⟩ := ih.2 e' hbs
        exact ⟨a', List.mem_cons_of_mem _ ha', h'⟩
      | ok bs' =>
        refine ⟨fun bs h => ?_, fun _ h => nomatch h⟩
        cases h
        rw [List.map_cons, List.map_cons, hb, ih.1 bs' hbs]

end

theorem length_mapE {α β : Type} {f : α → Except PyExc β} {l : List α} {bs : List β}
    (h : mapE f l = .ok bs) : bs.length = l.length := by
  have := congrArg List.length (mapE_spec.1 bs h)
  rw [List.length_map, List.length_map] at this
  exact this.symm

theorem peersFromFeatures_cases (P : Py) (features : J) (source : String) :
    peersFromFeatures P features source = .ok [] ∨
    ∃ kv hosts, dictGet kv "hosts" = .obj hosts ∧ peersFromFeatures P features source =
      mapE (fun host => mkPeer P host (.obj kv) source) (hosts.map (·.1)) := by
  unfold peersFromFeatures
  split
  · rename_i kv
    split
    · rename_i hosts hh
      exact Or.inr ⟨kv, hosts, hh, rfl⟩
    · exact Or.inl rfl
  · exact Or.inl rfl

/-- the error side concludes `¬PyStrOK P`, so that the one statement serves `C19_ports` (under `PyStrOK`)
    and `C19_ports_any` (no hypothesis on `P`) -/
theorem peersFromFeatures_spec (P : Py) (features : J) (source : String) :
    (∀ ps, peersFromFeatures P features source = .ok ps → ∀ p ∈ ps, PeerOK p) ∧
      ∀ e, peersFromFeatures P features source = .error e → e = .valueError ∧ ¬PyStrOK P := by
  rcases peersFromFeatures_cases P features source with e | ⟨kv, hosts, hh, e⟩ <;> rw [e]
  · exact ⟨fun _ h p hp => by cases h; exact absurd hp List.not_mem_nil, fun _ h => nomatch h⟩
  · refine ⟨fun ps h p hp => ?_, fun e h => ?_⟩
    · obtain ⟨host, hk, hmk⟩ := exists_of_map_eq_map (mapE_spec.1 ps h) p hp
      rw [mkPeer_of_host_key hh hk] at hmk
      exact (cleanup_spec P host source kv).1 p hmk
    · obtain ⟨host, hk, hmk⟩ := mapE_spec.2 e h
      rw [mkPeer_of_host_key hh hk] at hmk
      exact (cleanup_spec P host source kv).2 e hmk

theorem peersFromFeatures_ok {P : Py} (hP : PyStrOK P) (features : J) (source : String) :
    ∃ ps, peersFromFeatures P features source = .ok ps := by
  cases h : peersFromFeatures P features source with
  | ok ps => exact ⟨ps, rfl⟩
  | error e => exact absurd hP ((peersFromFeatures_spec P features source).2 e h).2

theorem foldl_digits_lt (l : List Nat) (a : Nat) (hl : ∀ d ∈ l, d < 10) :
    l.foldl (fun a d => a * 10 + d) a < (a + 1) * 10 ^ l.length := by
  induction l generalizing a with
  | nil => exact Nat.lt_of_lt_of_eq (Nat.lt_succ_self a) (Nat.mul_one _).symm
  | cons d l ih =>
    rw [List.forall_mem_cons] at hl
    refine Nat.lt_of_lt_of_le (ih (a * 10 + d) hl.2) ?_
    -- `(a * 10 + (d + 1)) * 10 ^ n ≤ (a * 10 + 10) * 10 ^ n`
    rw [List.length_cons, Nat.pow_succ, Nat.mul_comm (10 ^ l.length) 10, ← Nat.mul_assoc,
      Nat.succ_mul a 10, Nat.add_assoc]
    exact Nat.mul_le_mul_right _ (Nat.add_le_add_left hl.1 _)

theorem natOfDigits_bound {ds : List Nat} {v : Int} (hd : ∀ d ∈ ds, d < 10)
    (h : natOfDigits ds = some v) : v.natAbs < 10 ^ maxStrDigits := by
  unfold natOfDigits at h
  split at h
  · cases h
  · rename_i hlen
    cases h
    have h1 := foldl_digits_lt ds 0 hd
    rw [Nat.zero_add, Nat.one_mul] at h1
    exact Nat.lt_of_lt_of_le h1 (Nat.pow_le_pow_right (by omega) (by omega))

theorem isDigit_sub_lt {c : Char} (hc : c.isDigit = true) : c.toNat - 48 < 10 :=
  Nat.lt_of_le_of_lt (Nat.sub_le_sub_right (Char.isDigit_iff_toNat.mp hc).2 48) (by decide)

theorem digitsU_lt {cs : List Char} {last : Bool} {acc ds : List Nat}
    (hacc : ∀ d ∈ acc, d < 10) (h : digitsU cs last acc = some ds) : ∀ d ∈ ds, d < 10 := by
  induction cs generalizing last acc with
  | nil =>
    rw [digitsU] at h
    cases last <;> cases h
    exact fun d hd => hacc d (List.mem_reverse.mp hd)
  | cons c cs ih =>
    rw [digitsU] at h
    by_cases hc : c.isDigit = true
    · rw [if_pos hc] at h
      exact ih (List.forall_mem_cons.mpr ⟨isDigit_sub_lt hc, hacc⟩) h
    · rw [if_neg hc] at h
      split at h
      · exact ih hacc h
      · cases h

theorem digits_bound {cs : List Char} {ds : List Nat} {v : Int}
    (hds : digitsU cs false [] = some ds) (h : natOfDigits ds = some v) :
    v.natAbs < 10 ^ maxStrDigits :=
  natOfDigits_bound (digitsU_lt (fun _ hd => absurd hd List.not_mem_nil) hds) h

theorem pyIntAscii_bound {s : String} {v : Int} (h : pyIntAscii s = some v) :
    v.natAbs < 10 ^ maxStrDigits := by
  unfold pyIntAscii at h
  split at h <;> split at h <;> rename_i ds hds
  · obtain ⟨w, hw, rfl⟩ := Option.map_eq_some_iff.mp h
    rw [Int.natAbs_neg]
    exact digits_bound hds hw
  · cases h
  · exact digits_bound hds h
  · cases h
  · exact digits_bound hds h
  · cases h

theorem pyAscii_strOK : PyStrOK pyAscii := by
  refine ⟨?_, fun s v h => ?_⟩
  · simp only [pyAscii, pyStrOfInt, Int.natAbs_zero]
    rw [if_pos (Nat.pow_pos (by omega))]; rfl
  · simp only [pyAscii] at h ⊢
    simp only [pyStrOfInt, if_pos (pyIntAscii_bound h)]; rfl

end EV.Peers
