import EV.Proofs.AList
import EV.Proofs.IndexStep
import EV.Proofs.IndexEffect

/-!
Undo-information bookkeeping (C15): which blocks keep undo information, what start-up prunes,
when a back-out is refused.
-/
namespace EV.Index

/-- `block.height >= self.db.min_undo_height(self.daemon.cached_height())` -/
def undoKept (cfg : Cfg) (daemonH : Int) (height : Nat) : Bool :=
  decide ((height : Int) ≥ daemonH - cfg.reorgLimit + 1)

theorem undoKept_of_window (cfg : Cfg) (H D : Int) (b : Nat)
    (hD : D ≤ H) (hb : H - cfg.reorgLimit < b) : undoKept cfg D b = true := by
  simp only [undoKept, decide_eq_true_eq]; omega

theorem undoKept_false (cfg : Cfg) (D : Int) (b : Nat)
    (h : (b : Int) < D - cfg.reorgLimit + 1) : undoKept cfg D b = false := by
  simp only [undoKept, decide_eq_false_iff_not]; omega

theorem advance_undo {cfg : Cfg} {daemonH : Int} {s s' : Sys} {b : Block}
    (h : advance cfg daemonH s b = .ok s') :
    ∃ a : Acc Sys,
      advanceTxs sysOps cfg (s.m.st.height + 1).toNat b.txs { s := s, txNum := s.m.st.txCount } = .ok a ∧
      s'.m.undoU = (if undoKept cfg daemonH (s.m.st.height + 1).toNat
                    then a.s.m.undoU ++ [(a.undo, (s.m.st.height + 1).toNat)] else a.s.m.undoU) ∧
      s'.m.st.height = ((s.m.st.height + 1).toNat : Int) ∧ s'.p = a.s.p := by
  obtain ⟨-, a, ha, rfl⟩ := advance_ok_iff.mp h
  obtain ⟨c, d, hs⟩ := advanceTxs_setCD _ _ _ _ ha
  exact ⟨a, ha, by rw [hs]; rfl, rfl, by rw [hs]; rfl⟩

/-- the keys are visited in ascending order, so the ones taken while below `minH` are all that are below it -/
theorem mem_clearUndoKeys (undo : List (Nat × List CacheVal)) (minH : Int) (k : Nat) :
    k ∈ clearUndoKeys undo minH ↔ k ∈ undo.map (·.1) ∧ (k : Int) < minH := by
  have hsorted : ((undo.map (·.1)).mergeSort (fun a b => decide (a ≤ b))).Pairwise (· ≤ ·) :=
    (List.pairwise_mergeSort (le := fun (a b : Nat) => decide (a ≤ b)) (keyLe_trans id) (keyLe_total id)
      (undo.map (·.1))).imp of_decide_eq_true
  rw [clearUndoKeys, takeWhile_eq_filter _ (hsorted.imp fun hab hb =>
      decide_eq_true (by have := of_decide_eq_true hb; omega)),
    List.mem_filter, List.mem_mergeSort, decide_eq_true_eq]

/-- the undo table `_open_dbs` leaves behind -/
def undoAfterOpen (undo : List (Nat × List CacheVal)) (minH : Int) : List (Nat × List CacheVal) :=
  (clearUndoKeys undo minH).foldl (fun t k => aerase k t) undo

theorem openStore1_undo (p : Store) : (openStore1 p).undo = p.undo := by
  unfold openStore1 clearExcessEffect
  split <;> rfl

theorem applyEffects_openUndo (cfg : Cfg) (q : Store) (height : Int) :
    applyEffects q (openUndoEffects cfg q height) =
      { q with undo := undoAfterOpen q.undo (height - cfg.reorgLimit + 1) } := by
  rw [openUndoEffects, undoAfterOpen]
  split
  · next hempty => rw [List.isEmpty_iff.mp hempty]; rfl
  · rw [applyEffects, List.foldl_cons, applyEffect_eq]; rfl

theorem openStore_undo (cfg : Cfg) (p : Store) :
    (openStore cfg p).undo = undoAfterOpen p.undo ((p.ustate.getD {}).height - cfg.reorgLimit + 1) := by
  rw [openStore, applyEffects_openUndo, openStore1_undo]

theorem openDbs_undo {cfg : Cfg} {p : Store} {compacting : Bool} {keep : Option (List Nat)}
    {es : List Effect} {s : Sys} (h : openDbs cfg p compacting keep = some (es, s)) :
    s.p.undo = undoAfterOpen p.undo ((p.ustate.getD {}).height - cfg.reorgLimit + 1) ∧
    s.m.st.height = (p.ustate.getD {}).height := by
  rw [openDbs_eq] at h
  obtain ⟨l, -, h⟩ := Option.map_eq_some_iff.mp h
  cases h
  exact ⟨openStore_undo cfg p, rfl⟩

theorem openDbs_undo_keys {cfg : Cfg} {p : Store} {compacting : Bool} {keep : Option (List Nat)}
    {es : List Effect} {s : Sys} (h : openDbs cfg p compacting keep = some (es, s)) (k : Nat) :
    k ∈ s.p.undo.map (·.1) ↔
      k ∈ p.undo.map (·.1) ∧ ¬ ((k : Int) < s.m.st.height - cfg.reorgLimit + 1) := by
  obtain ⟨h1, h2⟩ := openDbs_undo h
  rw [h1, h2, undoAfterOpen, keys_foldl_aerase, mem_clearUndoKeys]
  constructor
  · rintro ⟨h1, h2⟩; exact ⟨h1, fun h3 => h2 ⟨h1, h3⟩⟩
  · rintro ⟨h1, h2⟩; exact ⟨h1, fun h3 => h2 h3.2⟩

theorem backup_refused_without_undo (cfg : Cfg) (s : Sys) (b : Block)
    (hflushed : assertFlushed s = true) (hpos : 0 < s.m.st.height)
    (hnone : alookup s.m.st.height.toNat s.p.undo = none) :
    backupFull cfg s b = .error .chainError := by
  have hg : bkGuard s = .error .chainError := by
    rw [bkGuard, hflushed, if_neg (by decide), if_neg (Int.not_le.mpr hpos), hnone]
  rw [backupFull_eq, bkLoop, hg]
  rfl

end EV.Index
