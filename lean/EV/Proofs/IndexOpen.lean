import EV.Proofs.IndexUndo

/-!
What `_open_dbs` does to a store, field by field: `History.clear_excess` as a filter (`histUpTo`), `openStore1`
(`History.open_db`) / `openStore`, the history state record they leave (`openHistState`), the state records put
into memory (`openState`), and the undo rows that survive (`alookup_undoAfterOpen`).
-/
namespace EV.Index

theorem clearExcess_filter (hist : List ((HashX × Nat) × List Nat)) (u0 : Nat) :
    ((hist.filter (fun e => decide (e.1.2 > u0))).map (·.1)).foldl (fun hs k => aerase k hs) hist =
      hist.filter (fun e => decide (e.1.2 ≤ u0)) := by
  rw [foldl_aerase_eq_filter]
  apply List.filter_congr
  intro e he
  by_cases h : e.1.2 ≤ u0
  · have : ¬ e.1 ∈ (hist.filter (fun e => decide (e.1.2 > u0))).map (·.1) := by
      simp only [List.mem_map, List.mem_filter, decide_eq_true_eq, not_exists, not_and, and_imp]
      intro e' _ h2 h3
      rw [h3] at h2
      omega
    simp [h, this]
  · have : e.1 ∈ (hist.filter (fun e => decide (e.1.2 > u0))).map (·.1) :=
      List.mem_map.mpr ⟨e, List.mem_filter.mpr ⟨he, by simp; omega⟩, rfl⟩
    simp [h, this]

def histUpTo (hist : List ((HashX × Nat) × List Nat)) (u0 : Nat) : List ((HashX × Nat) × List Nat) :=
  hist.filter (fun e => decide (e.1.2 ≤ u0))

theorem histUpTo_self {hist : List ((HashX × Nat) × List Nat)} {u0 : Nat}
    (h : ∀ e ∈ hist, e.1.2 ≤ u0) : histUpTo hist u0 = hist := by
  unfold histUpTo
  rw [List.filter_eq_self]
  intro e he
  simpa using h e he

theorem histUpTo_aerase_above (hist : List ((HashX × Nat) × List Nat)) (u0 : Nat) (k : HashX × Nat)
    (hk : u0 < k.2) : histUpTo (aerase k hist) u0 = histUpTo hist u0 := by
  unfold histUpTo aerase
  rw [List.filter_filter]
  apply List.filter_congr
  intro e _
  by_cases h : e.1 = k
  · have : ¬ e.1.2 ≤ u0 := by rw [h]; omega
    simp [this]
  · simp [h]

theorem histUpTo_foldl_ainsert_above (puts : List ((HashX × Nat) × List Nat))
    (hist : List ((HashX × Nat) × List Nat)) (u0 : Nat) (hp : ∀ e ∈ puts, u0 < e.1.2) :
    histUpTo (puts.foldl (fun hs (k, v) => ainsert k v hs) hist) u0 = histUpTo hist u0 := by
  induction puts generalizing hist with
  | nil => rfl
  | cons e puts ih =>
    obtain ⟨k, v⟩ := e
    rw [List.foldl_cons, ih _ (fun e he => hp e (List.mem_cons_of_mem _ he))]
    have hk : u0 < k.2 := hp (k, v) (List.mem_cons_self ..)
    have : ¬ k.2 ≤ u0 := by omega
    show histUpTo ((k, v) :: aerase k hist) u0 = _
    rw [histUpTo, List.filter_cons]
    simp only [this, decide_false, Bool.false_eq_true, if_false]
    exact histUpTo_aerase_above hist u0 k hk


theorem openStore1_fields (p : Store) :
    openStore1 p = { p with
      hist := if (p.hstate.getD {}).flushCount ≤ (p.ustate.getD {}).flushCount then p.hist
              else histUpTo p.hist (p.ustate.getD {}).flushCount
      hstate := if (p.hstate.getD {}).flushCount ≤ (p.ustate.getD {}).flushCount then p.hstate
                else some { (p.hstate.getD {}) with flushCount := (p.ustate.getD {}).flushCount } } := by
  by_cases h : (p.hstate.getD {}).flushCount ≤ (p.ustate.getD {}).flushCount
  · simp [openStore1, clearExcessEffect, h, applyEffects]
  · simp only [openStore1, clearExcessEffect, h, if_false, Option.toList_some, applyEffects,
      List.foldl_cons, List.foldl_nil, applyEffect, clearExcess_filter]
    rfl

theorem openStore_fields (cfg : Cfg) (p : Store) :
    openStore cfg p = { p with
      hist := if (p.hstate.getD {}).flushCount ≤ (p.ustate.getD {}).flushCount then p.hist
              else histUpTo p.hist (p.ustate.getD {}).flushCount
      hstate := if (p.hstate.getD {}).flushCount ≤ (p.ustate.getD {}).flushCount then p.hstate
                else some { (p.hstate.getD {}) with flushCount := (p.ustate.getD {}).flushCount }
      undo := undoAfterOpen p.undo ((p.ustate.getD {}).height - cfg.reorgLimit + 1) } := by
  rw [openStore, applyEffects_openUndo, openStore1_fields]

theorem openStore1_of_le {p : Store}
    (h : (p.hstate.getD {}).flushCount ≤ (p.ustate.getD {}).flushCount) : openStore1 p = p := by
  rw [openStore1_fields, if_pos h, if_pos h]

theorem openStore1_of_gt {p : Store}
    (h : (p.ustate.getD {}).flushCount < (p.hstate.getD {}).flushCount) :
    openStore1 p = { p with hist := histUpTo p.hist (p.ustate.getD {}).flushCount,
                            hstate := some { (p.hstate.getD {}) with
                                             flushCount := (p.ustate.getD {}).flushCount } } := by
  rw [openStore1_fields, if_neg (Nat.not_le.mpr h), if_neg (Nat.not_le.mpr h)]

theorem openStore1_ustate (p : Store) : (openStore1 p).ustate = p.ustate := by rw [openStore1_fields]

theorem openStore_eq (cfg : Cfg) (p : Store) :
    openStore cfg p = { openStore1 p with
      undo := undoAfterOpen p.undo ((p.ustate.getD {}).height - cfg.reorgLimit + 1) } := by
  rw [openStore_fields, openStore1_fields]

variable (cfg : Cfg) (p : Store)

theorem openStore_h : (openStore cfg p).h = p.h := by rw [openStore_fields]

theorem openStore_u : (openStore cfg p).u = p.u := by rw [openStore_fields]

theorem openStore_ustate : (openStore cfg p).ustate = p.ustate := by rw [openStore_fields]

theorem openStore_headers : (openStore cfg p).headers = p.headers := by rw [openStore_fields]

theorem openStore_txcounts : (openStore cfg p).txcounts = p.txcounts := by rw [openStore_fields]

theorem openStore_hashes : (openStore cfg p).hashes = p.hashes := by rw [openStore_fields]

theorem openStore_hist : (openStore cfg p).hist = (openStore1 p).hist := by
  rw [openStore_fields, openStore1_fields]

theorem openStore_hstate : (openStore cfg p).hstate = (openStore1 p).hstate := by
  rw [openStore_fields, openStore1_fields]

theorem openStore1_hist : (openStore1 p).hist =
    if (p.hstate.getD {}).flushCount ≤ (p.ustate.getD {}).flushCount then p.hist
    else histUpTo p.hist (p.ustate.getD {}).flushCount := by
  rw [openStore1_fields]

theorem openHistState_eq (p : Store) :
    openHistState p =
      if (p.hstate.getD {}).flushCount ≤ (p.ustate.getD {}).flushCount then p.hstate.getD {}
      else { (p.hstate.getD {}) with flushCount := (p.ustate.getD {}).flushCount } := by
  unfold openHistState clearExcessEffect
  by_cases h : (p.hstate.getD {}).flushCount ≤ (p.ustate.getD {}).flushCount <;> simp [h]

theorem openHistState_min (p : Store) :
    openHistState p = { (p.hstate.getD {}) with
      flushCount := min (p.hstate.getD {}).flushCount (p.ustate.getD {}).flushCount } := by
  rw [openHistState_eq]
  split
  · next h => rw [Nat.min_eq_left h]
  · next h => rw [Nat.min_eq_right (Nat.le_of_not_le h)]

theorem openStore1_hstate_getD : (openStore1 p).hstate.getD {} = openHistState p := by
  rw [openHistState_eq]
  split
  · next h => rw [openStore1_of_le h]
  · next h => rw [openStore1_of_gt (Nat.lt_of_not_le h)]; rfl

theorem openStore_hstate_getD : (openStore cfg p).hstate.getD {} = openHistState p := by
  rw [openStore_hstate, openStore1_hstate_getD]

theorem openStore1_flushCount : ((openStore1 p).hstate.getD {}).flushCount =
    min (p.hstate.getD {}).flushCount (p.ustate.getD {}).flushCount := by
  rw [openStore1_hstate_getD, openHistState_min]

theorem openState_eq (p : Store) :
    openState p false =
      ({ (p.ustate.getD {}) with
         flushCount := min (p.hstate.getD {}).flushCount (p.ustate.getD {}).flushCount },
       { flushCount := min (p.hstate.getD {}).flushCount (p.ustate.getD {}).flushCount,
         compFlushCount := -1, compCursor := -1 }) := by
  simp only [openState, openHistState_min, Bool.false_eq_true, if_false]

theorem openState_of_ge (p : Store)
    (h : (p.ustate.getD {}).flushCount ≤ (p.hstate.getD {}).flushCount) :
    openState p false =
      ({ (p.ustate.getD {}) with flushCount := (p.ustate.getD {}).flushCount },
       { flushCount := (p.ustate.getD {}).flushCount, compFlushCount := -1, compCursor := -1 }) := by
  rw [openState_eq, Nat.min_eq_right h]

theorem alookup_undoAfterOpen (undo : List (Nat × List CacheVal)) (minH : Int) (k : Nat)
    (hk : ¬ (k : Int) < minH) : alookup k (undoAfterOpen undo minH) = alookup k undo := by
  unfold undoAfterOpen
  apply alookup_foldl_aerase_of_not_mem
  intro hm
  exact hk ((mem_clearUndoKeys undo minH k).mp hm).2

end EV.Index
