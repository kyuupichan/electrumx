import EV.Proofs.IndexStore
import EV.Proofs.IndexEffect

/-!
The UTXO batch of a flush (`flush_utxo_db`): applied to a store that represents `U` through
cache + rows + queued deletes, it leaves rows that are exactly the `h`/`u` rows of `U`.
-/
namespace EV.Index
open EV.Spec

theorem delH_sublist (t : List (HKey × HashX)) (d : DelKey) : (delH t d).Sublist t := by
  cases d
  · exact List.filter_sublist
  · exact List.Sublist.refl t

theorem delU_sublist (t : List (UKey × Nat)) (d : DelKey) : (delU t d).Sublist t := by
  cases d
  · exact List.Sublist.refl t
  · exact List.filter_sublist

theorem mem_foldl_delH (dels : List DelKey) (t : List (HKey × HashX)) (e : HKey × HashX) :
    e ∈ dels.foldl delH t ↔ e ∈ t ∧ DelKey.h e.1 ∉ dels :=
  (mem_foldl_iff (P := fun d e => d = DelKey.h e.1)
    (fun t d e => by cases d <;> simp [delH, mem_aerase, eq_comm]) dels t e).trans
    (and_congr_right' ⟨fun h hm => h _ hm rfl, fun h _ hd heq => h (heq ▸ hd)⟩)

theorem mem_foldl_delU (dels : List DelKey) (t : List (UKey × Nat)) (e : UKey × Nat) :
    e ∈ dels.foldl delU t ↔ e ∈ t ∧ DelKey.u e.1 ∉ dels :=
  (mem_foldl_iff (P := fun d e => d = DelKey.u e.1)
    (fun t d e => by cases d <;> simp [delU, mem_aerase, eq_comm]) dels t e).trans
    (and_congr_right' ⟨fun h hm => h _ hm rfl, fun h _ hd heq => h (heq ▸ hd)⟩)

/-- a tx number names one tx; true of the specification's table of any chain (`txnumFun_of_specOK`) -/
def TxnumFun (U : List Utxo) : Prop := ∀ a ∈ U, ∀ b ∈ U, a.txnum = b.txnum → a.txid = b.txid

theorem eq_of_idx_txnum_U {U : List Utxo} (hn : (U.map opOf).Nodup) (hfun : TxnumFun U) {a b : Utxo}
    (ha : a ∈ U) (hb : b ∈ U) (hidx : a.idx = b.idx) (hnum : a.txnum = b.txnum) : a = b :=
  eq_of_nodup_map hn ha hb (by simp [opOf, hfun a ha b hb hnum, hidx])

theorem cache_mem {s : Sys} {U D Del : List Utxo} (w : RepSysW s U D Del)
    {c : (Hash × Nat) × CacheVal} (hc : c ∈ s.m.cache) :
    ∃ u ∈ U, c = (opOf u, cvOf u) ∧ alookup (opOf u) s.m.cache = some (cvOf u) := by
  obtain ⟨op, cv⟩ := c
  have hl := alookup_of_mem_nodup w.cacheKeys hc
  obtain ⟨u, hu, h1, h2⟩ := w.cacheU op cv hl
  subst h1; subst h2
  exact ⟨u, hu, rfl, hl⟩

/-- `t1` = a table after the deletes (rows of `D` whose key is not a key of `Del`); putting the
    image of every cache entry gives exactly the rows of `U`.  `key u` / `val u` are the `h` or the `u`
    row of a UTXO (`hkey`, `hx` or `ukey`, `value`), `put` turns a cache entry into that row, and `hk`
    says that the key determines `(idx, txnum)` — which with `TxnumFun` determines the UTXO. -/
theorem batch_rows {K V : Type} [DecidableEq K] (key : Utxo → K) (val : Utxo → V)
    (put : (Hash × Nat) × CacheVal → K × V)
    (hput : ∀ u, put (opOf u, cvOf u) = (key u, val u))
    (hk : ∀ a b, key a = key b → a.idx = b.idx ∧ a.txnum = b.txnum)
    {s : Sys} {U D Del : List Utxo} (w : RepSysW s U D Del) (hfun : TxnumFun U)
    (t1 : List (K × V))
    (rows1 : ∀ e, e ∈ t1 ↔ (∃ u ∈ D, e = (key u, val u)) ∧ ¬ ∃ d ∈ Del, e.1 = key d)
    (keys1 : (t1.map (·.1)).Nodup) :
    (∀ e, e ∈ (s.m.cache.map put).foldl (fun t (k, v) => ainsert k v t) t1 ↔
        ∃ u ∈ U, e = (key u, val u)) ∧
    (((s.m.cache.map put).foldl (fun t (k, v) => ainsert k v t) t1).map (·.1)).Nodup := by
  refine ⟨?_, nodup_keys_foldl_ainsert _ keys1⟩
  have putsNodup : ((s.m.cache.map put).map (·.1)).Nodup := by
    rw [List.map_map]
    apply nodup_map_of_keys (·.1) _ _ w.cacheKeys
    intro a ha b hb hab
    obtain ⟨x, hx, rfl, -⟩ := cache_mem w ha
    obtain ⟨y, hy, rfl, -⟩ := cache_mem w hb
    simp only [Function.comp, hput] at hab
    obtain ⟨h1, h2⟩ := hk x y hab
    rw [eq_of_idx_txnum_U w.uNodup hfun hx hy h1 h2]
  intro e
  rw [mem_foldl_ainsert _ putsNodup]
  constructor
  · rintro (h | ⟨h1, -⟩)
    · obtain ⟨c, hc, rfl⟩ := List.mem_map.mp h
      obtain ⟨x, hx, rfl, -⟩ := cache_mem w hc
      exact ⟨x, hx, hput x⟩
    · obtain ⟨⟨x, hx, rfl⟩, hnd⟩ := (rows1 e).mp h1
      have hxd : x ∉ Del := fun hd => hnd ⟨x, hd, rfl⟩
      exact ⟨x, (w.dbU x hx hxd).1, rfl⟩
  · rintro ⟨x, hx, rfl⟩
    rcases w.inU x hx with hc | ⟨hc, hD, hnDel⟩
    · left
      exact List.mem_map.mpr ⟨(opOf x, cvOf x), alookup_some_mem hc, hput x⟩
    · right
      constructor
      · refine (rows1 _).mpr ⟨⟨x, hD, rfl⟩, ?_⟩
        rintro ⟨d, hd, hkd⟩
        obtain ⟨h1, h2⟩ := hk x d hkd
        exact hnDel (w.rowsOf.eq_of_idx_txnum hD (w.delSub d hd) h1 h2 ▸ hd)
      · intro hmem
        obtain ⟨kv, hkv, hkeq⟩ := List.mem_map.mp hmem
        obtain ⟨c, hc', rfl⟩ := List.mem_map.mp hkv
        obtain ⟨y, hy, rfl, hl⟩ := cache_mem w hc'
        rw [hput] at hkeq
        obtain ⟨h1, h2⟩ := hk y x hkeq
        have := eq_of_idx_txnum_U w.uNodup hfun hy hx h1 h2
        subst this
        rw [hc] at hl; simp at hl

theorem utxoBatch_h (s : Sys) (st' : CState) :
    (applyEffect s.p (utxoBatchEffect s st')).h =
      (s.m.cache.map (fun ((txid, idx), cv) => ((pfx txid, idx, cv.txnum), cv.hx))).foldl
        (fun t (k, v) => ainsert k v t) (s.m.deletes.foldl delH s.p.h) := by
  rw [applyEffect_eq]; rfl

theorem utxoBatch_u (s : Sys) (st' : CState) :
    (applyEffect s.p (utxoBatchEffect s st')).u =
      (s.m.cache.map (fun ((_, idx), cv) => ((cv.hx, idx, cv.txnum), cv.value))).foldl
        (fun t (k, v) => ainsert k v t) (s.m.deletes.foldl delU s.p.u) := by
  rw [applyEffect_eq]; rfl

theorem utxoBatch_undo (s : Sys) (st' : CState) :
    (applyEffect s.p (utxoBatchEffect s st')).undo =
      (s.m.undoU.map (fun (ui, h) => (h, ui))).foldl (fun t (k, v) => ainsert k v t) s.p.undo := by
  rw [applyEffect_eq]; rfl

theorem flushUtxo_h {s : Sys} {U D Del : List Utxo} (w : RepSysW s U D Del)
    (hfun : TxnumFun U) (st' : CState) :
    (∀ e, e ∈ (applyEffect s.p (utxoBatchEffect s st')).h ↔ ∃ u ∈ U, e = (hkey u, u.hx)) ∧
    ((applyEffect s.p (utxoBatchEffect s st')).h.map (·.1)).Nodup := by
  rw [utxoBatch_h]
  refine batch_rows hkey (·.hx) _ (fun _ => rfl) ?_ w hfun _ ?_
    (w.hKeys.sublist ((foldl_sublist delH_sublist _ _).map _))
  · intro a b hab
    simp only [hkey, Prod.mk.injEq] at hab
    exact ⟨hab.2.1, hab.2.2⟩
  · intro e
    rw [mem_foldl_delH, w.hRows, w.dels]
    simp

theorem flushUtxo_u {s : Sys} {U D Del : List Utxo} (w : RepSysW s U D Del)
    (hfun : TxnumFun U) (st' : CState) :
    (∀ e, e ∈ (applyEffect s.p (utxoBatchEffect s st')).u ↔ ∃ u ∈ U, e = (ukey u, u.value)) ∧
    ((applyEffect s.p (utxoBatchEffect s st')).u.map (·.1)).Nodup := by
  rw [utxoBatch_u]
  refine batch_rows ukey (·.value) _ (fun _ => rfl) ?_ w hfun _ ?_
    (w.uKeys.sublist ((foldl_sublist delU_sublist _ _).map _))
  · intro a b hab
    simp only [ukey, Prod.mk.injEq] at hab
    exact ⟨hab.2.1, hab.2.2⟩
  · intro e
    rw [mem_foldl_delU, w.uRows, w.dels]
    simp

theorem utxoBatch_others (p : Store) (d : List DelKey) (hp : List (HKey × HashX))
    (up : List (UKey × Nat)) (ud : List Nat) (upp : List (Nat × List CacheVal)) (st : Option CState) :
    (applyEffect p (.utxoBatch d hp up ud upp st)).hist = p.hist ∧
    (applyEffect p (.utxoBatch d hp up ud upp st)).hstate = p.hstate ∧
    (applyEffect p (.utxoBatch d hp up ud upp st)).headers = p.headers ∧
    (applyEffect p (.utxoBatch d hp up ud upp st)).txcounts = p.txcounts ∧
    (applyEffect p (.utxoBatch d hp up ud upp st)).hashes = p.hashes := by
  rw [applyEffect_eq]
  exact ⟨rfl, rfl, rfl, rfl, rfl⟩

theorem utxoBatchEffect_undo (p : Store) {t : Sys} (st : CState) (h : t.m.undoU = []) :
    (applyEffect p (utxoBatchEffect t st)).undo = p.undo := by
  rw [applyEffect_eq, utxoBatchEffect, h]; rfl

theorem flushUtxo_rest (s : Sys) (st' : CState) :
    (applyEffect s.p (utxoBatchEffect s st')).ustate = some st' ∧
    (applyEffect s.p (utxoBatchEffect s st')).hist = s.p.hist ∧
    (applyEffect s.p (utxoBatchEffect s st')).hstate = s.p.hstate ∧
    (applyEffect s.p (utxoBatchEffect s st')).headers = s.p.headers ∧
    (applyEffect s.p (utxoBatchEffect s st')).txcounts = s.p.txcounts ∧
    (applyEffect s.p (utxoBatchEffect s st')).hashes = s.p.hashes :=
  ⟨rfl, utxoBatch_others s.p ..⟩

/-- the unflushed undo rows are put in order, so a later row of the same height wins (hence `reverse`) -/
theorem flushUtxo_undo (s : Sys) (st' : CState) (h : Nat) :
    alookup h (applyEffect s.p (utxoBatchEffect s st')).undo =
      match alookup h ((s.m.undoU.map (fun (ui, h) => (h, ui))).reverse) with
      | some ui => some ui
      | none => alookup h s.p.undo := by
  rw [utxoBatch_undo, alookup_foldl_ainsert]
  cases alookup h ((s.m.undoU.map (fun (ui, h) => (h, ui))).reverse) <;> rfl

theorem flushUtxo_rows {s : Sys} {U D Del : List Spec.Utxo} (w : RepSysW s U D Del)
    (hfun : TxnumFun U) (st' : CState) :
    let p' := applyEffect s.p (utxoBatchEffect s st')
    (∀ e, e ∈ p'.h ↔ ∃ u ∈ U, e = (hkey u, u.hx)) ∧ (p'.h.map (·.1)).Nodup ∧
    (∀ e, e ∈ p'.u ↔ ∃ u ∈ U, e = (ukey u, u.value)) ∧ (p'.u.map (·.1)).Nodup ∧
    p'.ustate = some st' ∧ p'.hist = s.p.hist ∧ p'.hstate = s.p.hstate ∧
    p'.headers = s.p.headers ∧ p'.txcounts = s.p.txcounts ∧ p'.hashes = s.p.hashes ∧
    (∀ h, alookup h p'.undo =
        match alookup h ((s.m.undoU.map (fun (ui, h) => (h, ui))).reverse) with
        | some ui => some ui
        | none => alookup h s.p.undo) := by
  intro p'
  obtain ⟨h1, h2⟩ := flushUtxo_h w hfun st'
  obtain ⟨u1, u2⟩ := flushUtxo_u w hfun st'
  obtain ⟨r1, r2, r3, r4, r5, r6⟩ := flushUtxo_rest s st'
  exact ⟨h1, h2, u1, u2, r1, r2, r3, r4, r5, r6, flushUtxo_undo s st'⟩

theorem flushUtxo_rep {s s' : Sys} {U D Del : List Spec.Utxo} (w : RepSysW s U D Del)
    (hfun : TxnumFun U) (st' : CState)
    (hp : s'.p.h = (applyEffect s.p (utxoBatchEffect s st')).h ∧
          s'.p.u = (applyEffect s.p (utxoBatchEffect s st')).u)
    (hcache : s'.m.cache = []) (hdel : s'.m.deletes = [])
    (hres : ∀ u ∈ U, resolve s' u.txnum = some u.txid) :
    RepSysW s' U U [] := by
  obtain ⟨h1, h2⟩ := flushUtxo_h w hfun st'
  obtain ⟨u1, u2⟩ := flushUtxo_u w hfun st'
  exact repSysW_of_rows ⟨w.uNodup, hp.1 ▸ h1, hp.2 ▸ u1, hp.2 ▸ u2, hres⟩ (hp.1 ▸ h2) hcache hdel

/-- non-vacuity of `RepSysW`: a system with one cached UTXO, one resident row and one resident row
    queued for deletion -/
example : ∃ (s : Sys) (U D Del : List Utxo), RepSysW s U D Del ∧ TxnumFun U ∧
    s.m.cache ≠ [] ∧ s.m.deletes ≠ [] ∧ U.length = 2 ∧ D.length = 2 := by
  refine ⟨{ m := { cache := [((7, 0), ⟨5, 2, 30⟩)],
                   deletes := [.h (0, 0, 1), .u (4, 0, 1)],
                   txCounts := [3], dbst := { height := 0 } },
            p := { h := [((0, 0, 0), 3), ((0, 0, 1), 4)],
                   u := [((3, 0, 0), 10), ((4, 0, 1), 20)],
                   hashes := [1, 2] } },
          [⟨1, 0, 0, 0, 10, 3⟩, ⟨7, 0, 2, 0, 30, 5⟩],
          [⟨1, 0, 0, 0, 10, 3⟩, ⟨2, 0, 1, 0, 20, 4⟩],
          [⟨2, 0, 1, 0, 20, 4⟩], ?_, ?_, by simp, by simp, rfl, rfl⟩
  · exact {
      uNodup := by decide
      dNodup := by decide
      hRows := by
        intro e
        simp [hkey, pfx]
      uRows := by
        intro e
        simp [ukey]
      hKeys := by decide
      uKeys := by decide
      cacheKeys := by decide
      res := by
        intro u hu
        simp at hu
        rcases hu with rfl | rfl <;> decide
      delSub := by simp
      dels := by
        intro dk
        simp [hkey, ukey, pfx]
      inU := by
        intro u hu
        simp at hu
        rcases hu with rfl | rfl
        · right; refine ⟨by decide, by simp, by simp⟩
        · left; decide
      cacheU := by
        intro op cv h
        simp only [alookup_cons, alookup_nil] at h
        by_cases hop : (7, 0) = op
        · simp [hop] at h; subst h; subst hop
          exact ⟨⟨7, 0, 2, 0, 30, 5⟩, by simp, rfl, rfl⟩
        · simp [hop] at h
      dbU := by
        intro u hu hnd
        simp at hu hnd
        rcases hu with rfl | rfl
        · exact ⟨by simp, by decide⟩
        · simp at hnd }
  · intro a ha b hb
    simp at ha hb
    rcases ha with rfl | rfl <;> rcases hb with rfl | rfl <;> simp

end EV.Index
