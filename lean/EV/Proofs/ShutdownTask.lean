import EV.Model.ShutdownTask
import EV.Proofs.IndexRunReorg

/-!
Task-level shutdown model: the transition relation in rule form, structural invariants and the
sequential log.
-/
namespace EV.ShutdownTask
open EV.Index

/-- `Op` is the model file's own type (that file imports the index model only); `IOp2`
    (`EV/Proofs/IndexRunReorg.lean`) has `reopen` in addition. -/
def Op.to2 : Op → IOp2
  | .adv b d => .adv b d
  | .flush a => .flush a
  | .backup b => .backup b

/-- the index operations attempted: of every job that ended, including those that raised -/
def att (log : List (Op × Bool)) : List IOp2 := log.map (·.1.to2)

def okOps (log : List (Op × Bool)) : List IOp2 := (log.filter (·.2)).map (·.1.to2)

theorem att_append (a b : List (Op × Bool)) : att (a ++ b) = att a ++ att b := by
  simp [att]

theorem okOps_append (a b : List (Op × Bool)) : okOps (a ++ b) = okOps a ++ okOps b := by
  simp [okOps]

@[simp] theorem okOps_single_true (o : Op) : okOps [(o, true)] = [o.to2] := rfl
@[simp] theorem okOps_single_false (o : Op) : okOps [(o, false)] = [] := rfl
@[simp] theorem att_single (o : Op) (b : Bool) : att [(o, b)] = [o.to2] := rfl

theorem okOps_eq_att {log : List (Op × Bool)} (h : ∀ e ∈ log, e.2 = true) : okOps log = att log := by
  unfold okOps att
  rw [List.filter_eq_self.mpr (by intro a ha; exact h a ha)]

theorem run_snoc (cfg : Cfg) (st : St) (evs : List Ev) (e : Ev) :
    run cfg st (evs ++ [e]) = (run cfg st evs).bind (fun s => step cfg s e) := by
  induction evs generalizing st with
  | nil => simp [run]; cases step cfg st e <;> rfl
  | cons a r ih =>
    simp only [List.cons_append, run]
    cases step cfg st a with
    | none => rfl
    | some s' => exact ih s'

def JobK.op (dH : Int) : JobK → Op
  | .adv b => .adv b dH
  | .flush a => .flush a
  | .backup b => .backup b

/-- `ok` after a job has raised: `advance_block` and `backup_block` clear it before they touch
    anything (`backup_block` only after its early checks), a flush leaves it alone -/
def okAfterErr (st : St) : JobK → Bool
  | .adv _ => false
  | .flush _ => st.ok
  | .backup _ => st.ok && backupFailsEarly st.sys

/-- the first job of a section -/
def Sec.job : Sec → JobK
  | .adv b => .adv b
  | .backup b => .backup b
  | _ => .flush true

/-- the outer task passes to its next control point without awaiting a section -/
inductive Move : Outer → Ev → Outer → Prop
  | begin : Move .start .begin (.idle .top)
  | fetched (bs : List Block) : Move (.idle .top) (.fetched bs) (.idle (.batch bs))
  | endBatch {bs : List Block} : Move (.idle (.batch bs)) .endBatch (.idle .top)
  | caughtUpDone : Move (.idle .postCaughtUp) .caughtUpDone (.idle .sleeping)
  | wake : Move (.idle .sleeping) .wake (.idle .top)
  | reorgRange (bs : List Block) : Move (.idle .reorgHashes) (.reorgRange bs) (.idle (.backups bs))
  | endReorg {bs : List Block} : Move (.idle (.backups bs)) .endReorg (.idle .top)
  | resume {p : Pt} : Move (.secReady p none) .resume (.idle p)
  | resumeErr {p : Pt} {e : Err} : Move (.secReady p (some e)) .resume .died

/-- the outer task creates the inner task of a section and awaits it at a control point -/
inductive Start : Outer → Ev → Pt → Sec → Prop
  | fetchedNone : Start (.idle .top) .fetchedNone .postCaughtUp .flush
  | nextBlock {b : Block} {rest : List Block} :
      Start (.idle (.batch (b :: rest))) .nextBlock (.batch rest) (.adv b)
  | endBatch {bs : List Block} : Start (.idle (.batch bs)) .endBatch .reorgHashes .flush
  | wake : Start (.idle .sleeping) .wake .reorgHashes .flush
  | nextBackup {b : Block} {rest : List Block} :
      Start (.idle (.backups (b :: rest))) .nextBackup (.backups rest) (.backup b)

abbrev flagsOf (x s : St) : St :=
  { s with forceFlushArg := x.forceFlushArg, caughtUp := x.caughtUp, reorgCount := x.reorgCount }

/-- `step` as a relation on what the invariants below read: one rule per way an event is taken, with
as hypotheses the part of its guard that some invariant needs (that the lock is free, for one, is
none: `Shape` knows it); every accepted event is an instance of a rule (`Step.of_step`, the one place
where `step` is inverted).  The three flags `force_flush_arg`, `caught_up`, `reorg_count` only steer
which of its branches the outer task takes and whether a section flushes; no invariant reads them, so
the rules neither test nor fix them: the new state has those of `x` (which `Step.of_step` takes to be
the new state itself).  `jobSkip`: the block does not
connect and nothing happens. -/
inductive Step (cfg : Cfg) (x st : St) : Ev → St → Prop
  | pressure (a : Bool) : Step cfg x st (.pressure a) (flagsOf x st)
  | forceReorg (n : Nat) : Step cfg x st (.forceReorg n) (flagsOf x st)
  | cancelStart : st.cancelled = false → st.outer = .start →
      Step cfg x st .cancel (flagsOf x { st with cancelled := true, outer := .died, logAtCancel := st.log,
                                                 innerAtCancel := st.inner })
  | cancel : st.cancelled = false →
      Step cfg x st .cancel (flagsOf x { st with cancelled := true, outer := .handler,
                                                 logAtCancel := st.log, innerAtCancel := st.inner })
  | move {e : Ev} {o o' : Outer} : st.outer = o → Move o e o' →
      Step cfg x st e (flagsOf x { st with outer := o' })
  /-- `reorg_chain` starts a back-out only for the block at the tip -/
  | start {e : Ev} {o : Outer} {p : Pt} {sec : Sec} : st.outer = o → Start o e p sec →
      (∀ b, sec = .backup b → b.hash = st.sys.m.st.tip) →
      Step cfg x st e (flagsOf x { st with outer := .awaitSec p, inner := some (.wantLock sec) })
  | innerStart {sec : Sec} : st.inner = some (.wantLock sec) → sec ≠ .safe →
      Step cfg x st .innerStart (flagsOf x { st with lock := true, inner := some (.job sec sec.job) })
  | hStart : st.outer = .handler → st.inner = none →
      Step cfg x st .hStart (flagsOf x { st with lock := true, inner := some (.job .safe (.flush true)) })
  | hSkip : st.outer = .handler → st.inner = none → st.ok = false →
      Step cfg x st .hStart (flagsOf x { st with outer := .returned })
  | jobSkip {sec : Sec} {b : Block} (dH : Int) : st.inner = some (.job sec (.adv b)) →
      Step cfg x st (.jobEnd dH) (flagsOf x { st with inner := some (.jobDone sec (.adv b) none) })
  | jobOk {sec : Sec} {j : JobK} {s' : Sys} (dH : Int) : st.inner = some (.job sec j) →
      (∀ b, j = .adv b → b.prev = st.sys.m.st.tip) → stepOp2 cfg st.sys (j.op dH).to2 = .ok s' →
      Step cfg x st (.jobEnd dH) (flagsOf x { st with sys := s', inner := some (.jobDone sec j none),
                                                      log := st.log ++ [(j.op dH, true)] })
  | jobErr {sec : Sec} {j : JobK} {e : Err} (dH : Int) : st.inner = some (.job sec j) →
      (∀ b, j = .adv b → b.prev = st.sys.m.st.tip) → stepOp2 cfg st.sys (j.op dH).to2 = .error e →
      Step cfg x st (.jobEnd dH) (flagsOf x { st with ok := okAfterErr st j,
                                                      inner := some (.jobDone sec j (some e)),
                                                      log := st.log ++ [(j.op dH, false)] })
  | handlerEnd {j : JobK} {err : Option Err} : st.inner = some (.jobDone .safe j err) →
      Step cfg x st .deliver (flagsOf x { st with lock := false, inner := none,
                                                  outer := match err with
                                                    | none => .returned
                                                    | some _ => .died })
  | secEnd {sec : Sec} {j : JobK} {err : Option Err} {p : Pt} : st.inner = some (.jobDone sec j err) →
      st.outer = .awaitSec p →
      Step cfg x st .deliver (flagsOf x { st with lock := false, inner := none, outer := .secReady p err })
  /-- the outer task no longer awaits the section (it is in the handler): the result is dropped -/
  | secDrop {sec : Sec} {j : JobK} {err : Option Err} : st.inner = some (.jobDone sec j err) →
      sec ≠ .safe → (∀ p, st.outer ≠ .awaitSec p) →
      Step cfg x st .deliver (flagsOf x { st with lock := false, inner := none })
  | secFlush {b b' : Block} {a : Bool} : st.inner = some (.jobDone (.adv b) (.adv b') none) →
      Step cfg x st .deliver (flagsOf x { st with inner := some (.job (.adv b) (.flush a)) })

variable {cfg : Cfg} {fl st st' : St} {e : Ev}

theorem Step.of_finish {sec : Sec} {j : JobK} {err : Option Err}
    (hin : st.inner = some (.jobDone sec j err)) :
    Step cfg fl st .deliver (flagsOf fl (finish st sec err)) := by
  unfold finish
  split
  · exact .handlerEnd hin
  · split
    · exact .secEnd hin ‹_›
    · exact .secDrop hin ‹_› ‹_›

theorem Step.of_step (h : step cfg st e = some st') : Step cfg st' st e st' := by
  cases e <;> simp only [step] at h
  case pressure a => cases h; exact .pressure a
  case forceReorg n => split at h <;> cases h; exact .forceReorg n
  case cancel =>
    split at h
    · cases h
    · have hc : st.cancelled = false := by simpa using ‹¬ st.cancelled = true›
      split at h <;> cases h
      · exact .cancelStart hc ‹_›
      all_goals exact .cancel hc
  case begin => split at h <;> cases h; exact .move ‹_› .begin
  case fetched bs =>
    split at h
    · split at h <;> cases h
      exact .move ‹_› (.fetched bs)
    · cases h
  case fetchedNone => split at h <;> cases h; exact .start ‹_› .fetchedNone (fun _ h => nomatch h)
  case nextBlock =>
    split at h
    · split at h <;> cases h
      exact .start ‹_› .nextBlock (fun _ h => nomatch h)
    · cases h
  case endBatch =>
    split at h <;> cases h
    unfold afterBody
    split
    · exact .start ‹_› .endBatch (fun _ h => nomatch h)
    · exact .move ‹_› .endBatch
  case caughtUpDone => split at h <;> cases h; exact .move ‹_› .caughtUpDone
  case wake =>
    split at h <;> cases h
    unfold afterBody
    split
    · exact .start ‹_› .wake (fun _ h => nomatch h)
    · exact .move ‹_› .wake
  case reorgRange bs => split at h <;> cases h; exact .move ‹_› (.reorgRange bs)
  case nextBackup =>
    split at h
    · split at h <;> cases h
      exact .start ‹_› .nextBackup (by rintro _ ⟨⟩; exact ‹_›)
    · cases h
  case endReorg => split at h <;> cases h; exact .move ‹_› .endReorg
  case resume =>
    split at h <;> cases h
    · exact .move ‹_› .resume
    · exact .move ‹_› .resumeErr
  case innerStart =>
    split at h
    · cases h
    · split at h <;> cases h
      all_goals exact .innerStart ‹_› (fun h => nomatch h)
  case hStart =>
    split at h
    · cases h
    · split at h
      · split at h <;> cases h
        · exact .hStart ‹_› ‹_›
        · exact .hSkip ‹_› ‹_› (by simpa using ‹¬ st.ok = true›)
      · cases h
  case jobEnd dH =>
    split at h <;> cases h
    rename_i sec j hin
    unfold runJob
    cases j <;> dsimp only
    case adv b =>
      split
      · exact .jobSkip dH hin
      · have hc : ∀ b', JobK.adv b = .adv b' → b'.prev = st.sys.m.st.tip := by
          rintro _ ⟨⟩; exact Decidable.of_not_not ‹_›
        split
        · exact .jobOk dH hin hc ‹_›
        · exact .jobErr dH hin hc ‹_›
    all_goals
      split
      · exact .jobOk dH hin (fun _ h => nomatch h) ‹_›
      · exact .jobErr dH hin (fun _ h => nomatch h) ‹_›
  case deliver =>
    split at h <;> cases h
    rename_i sec j err hin
    unfold continueSec
    split
    · exact .of_finish hin
    · split
      · split
        · exact .secFlush hin
        · exact .of_finish hin
      · exact .of_finish hin

/-- induction along a run, with the events taken so far at hand (for facts that count them) -/
theorem run_induct {P : List Ev → St → Prop} {st0 : St} (h0 : P [] st0)
    (hstep : ∀ evs fl st e st', P evs st → Step cfg fl st e st' → P (evs ++ [e]) st') :
    ∀ (evs : List Ev) (st : St), run cfg st0 evs = some st → P evs st := by
  intro evs
  induction evs using List.snoc_induction with
  | nil => intro st h; cases h; exact h0
  | snoc evs e ih =>
    intro st h
    rw [run_snoc] at h
    cases hr : run cfg st0 evs with
    | none => rw [hr] at h; cases h
    | some s1 => rw [hr] at h; exact hstep _ _ _ _ _ (ih s1 hr) (.of_step h)

/-- which section the outer task awaits at which control point -/
def SecFor : Pt → Sec → Prop
  | .batch _, .adv _ => True
  | .postCaughtUp, .flush => True
  | .reorgHashes, .flush => True
  | .backups _, .backup _ => True
  | _, _ => False

def JobFor : Sec → JobK → Prop
  | .adv b, j => j = .adv b ∨ ∃ a, j = .flush a
  | .flush, j => j = .flush true
  | .backup b, j => j = .backup b
  | .safe, j => j = .flush true

/-- the handler's section never waits for the lock: `hStart` creates it with the lock taken -/
def InnerWf : Inner → Prop
  | .wantLock s => s ≠ .safe
  | .job s j => JobFor s j
  | .jobDone s j _ => JobFor s j

/-- the outer task is before the request and not awaiting a section -/
def Outer.plain : Outer → Bool
  | .start | .idle _ | .secReady _ _ => true
  | _ => false

theorem Move.plain {o o' : Outer} (m : Move o e o') : o.plain = true := by cases m <;> rfl

theorem Start.plain {o : Outer} {p : Pt} {sec : Sec} (s : Start o e p sec) : o.plain = true := by
  cases s <;> rfl

/-- structural invariant, as a predicate of the four fields it speaks about: the reachable combinations of
    outer task, inner task, lock and `cancelled`.  The lock is held exactly by an inner task past
    `async with`; the outer task awaits a section iff an inner task of the matching kind exists, except
    in the handler, where the section in flight at the request may still be running and where alone the
    handler's own section exists -/
inductive ShapeOf : Outer → Option Inner → Bool → Bool → Prop
  | start : ShapeOf .start none false false
  | idle {p : Pt} : ShapeOf (.idle p) none false false
  | ready {p : Pt} {e : Option Err} : ShapeOf (.secReady p e) none false false
  | sec {p : Pt} {x : Inner} : SecFor p x.sec → InnerWf x → ShapeOf (.awaitSec p) (some x) x.holds false
  | handler : ShapeOf .handler none false true
  | handlerSec {x : Inner} : InnerWf x → ShapeOf .handler (some x) x.holds true
  | returned : ShapeOf .returned none false true
  | died {c : Bool} : ShapeOf .died none false c

abbrev Shape (st : St) : Prop := ShapeOf st.outer st.inner st.lock st.cancelled

variable {o o' : Outer} {i : Option Inner} {x x' : Inner} {l c : Bool}

theorem ShapeOf.lock (w : ShapeOf o i l c) : l = (i.map Inner.holds).getD false := by cases w <;> rfl

theorem ShapeOf.wf (w : ShapeOf o i l c) (x : Inner) (hi : i = some x) : InnerWf x := by
  subst hi; cases w <;> assumption

theorem ShapeOf.inner_none (w : ShapeOf o i l c) (ho : o.plain = true) : i = none := by
  cases w <;> first | rfl | cases ho

theorem ShapeOf.not_cancelled (w : ShapeOf o i l c) (ho : o.plain = true) : c = false := by
  cases w <;> first | rfl | cases ho

theorem ShapeOf.outer_of_inner (w : ShapeOf o i l c) (hi : i = some x) :
    (∃ p, o = .awaitSec p ∧ SecFor p x.sec) ∨ o = .handler := by
  subst hi
  cases w
  · exact .inl ⟨_, rfl, ‹_›⟩
  · exact .inr rfl

theorem ShapeOf.safe (w : ShapeOf o i l c) (x : Inner) (hi : i = some x) (hs : x.sec = .safe) :
    o = .handler := by
  rcases w.outer_of_inner hi with ⟨p, -, h⟩ | h
  · rw [hs] at h; cases p <;> cases h
  · exact h

theorem ShapeOf.cancelled_of_outer (w : ShapeOf o i l c) (h : o = .handler ∨ o = .returned) : c = true := by
  rcases h with rfl | rfl <;> cases w <;> rfl

theorem ShapeOf.outer_of_cancelled (w : ShapeOf o i l c) (h : c = true) :
    o = .handler ∨ o = .returned ∨ o = .died := by
  subst h
  cases w
  · exact .inl rfl
  · exact .inl rfl
  · exact .inr (.inl rfl)
  · exact .inr (.inr rfl)

theorem ShapeOf.inner_next (w : ShapeOf o (some x) l c) (hs : x'.sec = x.sec) (hw : InnerWf x') :
    ShapeOf o (some x') x'.holds c := by
  cases w
  · exact .sec (hs ▸ ‹_›) hw
  · exact .handlerSec hw

theorem shape_step (w : Shape st) (h : Step cfg fl st e st') : Shape st' := by
  -- with the state taken apart the four indices are variables, which `cases w` can solve
  obtain ⟨sys, o, i, l, ok, f1, f2, f3, c, log, lac, iac⟩ := st
  unfold Shape at w ⊢
  cases h <;> dsimp only at *
  case pressure | forceReorg => exact w
  case cancelStart hc ho => subst ho; cases w; exact .died
  case cancel hc => subst hc; cases w <;> first | exact .handler | exact .handlerSec ‹_›
  case move ho m => subst ho; cases m <;> cases w <;> constructor
  case start ho _ s => subst ho; cases s <;> cases w <;> exact .sec trivial (fun h => nomatch h)
  case innerStart sec hin _ =>
    subst hin
    exact w.inner_next rfl (by cases sec <;> first | exact .inl rfl | rfl)
  case jobSkip hin | jobOk hin _ _ | jobErr hin _ _ =>
    subst hin
    cases w.lock
    have hw := w.wf _ rfl
    exact w.inner_next rfl hw
  case secFlush hin => subst hin; cases w.lock; exact w.inner_next rfl (.inr ⟨_, rfl⟩)
  case hStart ho hi => subst ho hi; cases w; exact .handlerSec (x := .job .safe (.flush true)) rfl
  case hSkip ho hi _ => subst ho hi; cases w; exact .returned
  case handlerEnd err hin =>
    subst hin
    cases w.safe _ rfl rfl
    cases w
    cases err
    · exact .returned
    · exact .died
  case secEnd hin ho => subst hin ho; cases w; exact .ready
  case secDrop hin _ hna =>
    subst hin
    cases w
    · exact absurd rfl (hna _)
    · exact .handler

def Seq (s0 : Sys) (cfg : Cfg) (st : St) : Prop := runOps2 cfg s0 (okOps st.log) = .ok st.sys

theorem seq_step {s0 : Sys} (hq : Seq s0 cfg st) (h : Step cfg fl st e st') : Seq s0 cfg st' := by
  unfold Seq at hq ⊢
  cases h
  case jobOk hs =>
    show runOps2 cfg s0 (okOps (st.log ++ _)) = _
    rw [okOps_append, okOps_single_true]
    exact runOps2_concat_of_ok hq hs
  case jobErr =>
    show runOps2 cfg s0 (okOps (st.log ++ _)) = _
    rw [okOps_append, okOps_single_false, List.append_nil]; exact hq
  all_goals exact hq

end EV.ShutdownTask
