import EV.Proofs.IndexRunReorg
import EV.Proofs.CrashBackup
import EV.Proofs.CompactStore

/-!
The history DB along index runs.  Only history batches write the history DB (`histDb`), and they read
nothing else, so a flush, a back-out or any crash cut of one leaves in it what its one history batch
leaves, or nothing.  `RunShape` (no compaction in progress, in memory or on disk; no empty row, pending
or on disk) is kept by every operation of `runOps2` that does not fail, valid or not; `RunInv` is the
run invariant `TrackInv` together with it, with the one step lemma that runs, crash cuts (one more
step) and the block-processing task (`Ghost`) go through.
-/
namespace EV.Compact
open EV.Index

/-! ### the history DB of a store; its writers are `History.flush`, `History.backup`, `clear_excess`, compaction -/

def histDb (p : Store) : List Row × Option HState := (p.hist, p.hstate)

theorem hist_of_histDb {p q : Store} (h : histDb p = histDb q) : p.hist = q.hist := congrArg Prod.fst h

theorem hstate_of_histDb {p q : Store} (h : histDb p = histDb q) : p.hstate = q.hstate := congrArg Prod.snd h

theorem histDb_applyEffect_keeps {e : Effect} (h : e.isHistBatch = false) (p : Store) :
    histDb (applyEffect p e) = histDb p := by
  rw [applyEffect_eq]
  cases e <;> first | rfl | cases h

theorem histDb_applyEffects_keeps {l : List Effect} (h : ∀ e ∈ l, e.isHistBatch = false) (p : Store) :
    histDb (applyEffects p l) = histDb p :=
  List.foldlRecOn (motive := (histDb · = histDb p)) l applyEffect rfl
    fun q hq e he => (histDb_applyEffect_keeps (h e he) q).trans hq

/-- for the effect lists of the model, which are literals -/
theorem not_histBatch_of_all {l : List Effect} (h : l.all (fun e => !e.isHistBatch) = true) :
    ∀ e ∈ l, e.isHistBatch = false := by
  simpa using h

theorem histDb_applyEffect_congr {p q : Store} (h : histDb p = histDb q) (e : Effect) :
    histDb (applyEffect p e) = histDb (applyEffect q e) := by
  rw [applyEffect_eq, applyEffect_eq]
  exact Prod.ext (congrArg e.act.hist (hist_of_histDb h)) (congrArg e.act.hstate (hstate_of_histDb h))

theorem histDb_around {pre post : List Effect} (hpre : ∀ e ∈ pre, e.isHistBatch = false)
    (hpost : ∀ e ∈ post, e.isHistBatch = false) (p : Store) (e : Effect) :
    histDb (applyEffects p (pre ++ e :: post)) = histDb (applyEffect p e) := by
  rw [applyEffects_append]
  exact (histDb_applyEffects_keeps hpost _).trans
    (histDb_applyEffect_congr (histDb_applyEffects_keeps hpre p) e)

/-! #### crash cuts (`EV/Model/Crash.lean`): a torn file write is not a history batch either -/

theorem torn_not_histBatch {e t : Effect} (h : t ∈ tornPrefixes e) : t.isHistBatch = false := by
  rcases mem_tornPrefixes h with ⟨_, _, _, -, rfl⟩ | ⟨_, _, _, -, rfl⟩ | ⟨_, _, _, -, rfl⟩ <;> rfl

theorem not_histBatch_of_cut {es c : List Effect} (h : ∀ e ∈ es, e.isHistBatch = false)
    (hc : c ∈ cuts es) : ∀ e ∈ c, e.isHistBatch = false :=
  forall_mem_cuts (fun _ _ _ ht => torn_not_histBatch ht) h hc

/-- `e` is the one batch that writes the history DB, and batches are atomic -/
theorem histDb_cut_around {pre post : List Effect} (hpre : ∀ e ∈ pre, e.isHistBatch = false)
    (hpost : ∀ e ∈ post, e.isHistBatch = false) (p : Store) {e : Effect} (he : tornPrefixes e = [])
    {c : List Effect} (hc : c ∈ cuts (pre ++ e :: post)) :
    histDb (applyEffects p c) = histDb p ∨ histDb (applyEffects p c) = histDb (applyEffect p e) := by
  rcases mem_cuts_commit he hc with h | ⟨c', hc', rfl⟩
  · exact Or.inl (histDb_applyEffects_keeps (not_histBatch_of_cut hpre h) p)
  · exact Or.inr (histDb_around hpre (not_histBatch_of_cut hpost hc') p e)

theorem histDb_flushHistStep (s : Sys) :
    histDb (flushHistStep s).p = histDb (applyEffect s.p (histFlushEffect s)) :=
  histDb_around (post := []) (not_histBatch_of_all (l := flushFsEffects s) rfl) (fun _ h => nomatch h) s.p _

theorem histDb_flushUtxoStep (s : Sys) : histDb (flushUtxoStep s).p = histDb s.p :=
  histDb_applyEffects_keeps (not_histBatch_of_all rfl) s.p

theorem flush_cut_hist {s : Sys} {fu : Bool} {es : List Effect} {m' : Mem}
    (hf : flushDbs s fu = some (es, m')) {c : List Effect} (hc : c ∈ cuts es) :
    histDb (applyEffects s.p c) = histDb s.p ∨ histDb (applyEffects s.p c) = histDb (flushHistStep s).p := by
  have hfiles := not_histBatch_of_all (l := flushFsEffects s) rfl
  rw [histDb_flushHistStep]
  rcases flushDbs_cases hf with ⟨rfl, -⟩ | ⟨-, -, -, -, rfl | rfl⟩
  · rw [List.mem_singleton.mp hc]
    exact Or.inl rfl
  · exact histDb_cut_around hfiles (post := []) (fun _ h => nomatch h) s.p rfl hc
  · rw [flushHead, List.append_assoc] at hc
    exact histDb_cut_around hfiles (not_histBatch_of_all rfl) s.p rfl hc

theorem backup_cut_hist {cfg : Cfg} {s s' : Sys} {b : Block} {es : List Effect}
    (h : backupFull cfg s b = .ok (es, s')) {c : List Effect} (hc : c ∈ cuts es) :
    histDb (applyEffects s.p c) = histDb s.p ∨ histDb (applyEffects s.p c) = histDb s'.p := by
  obtain ⟨e1, e2, rfl, h1, h2, hp⟩ := EV.Index.backupFull_effects h
  have hk2 : ∀ e ∈ [e2], e.isHistBatch = false :=
    not_histBatch_of_all (by cases e2 <;> first | rfl | cases h2)
  rw [hp, show histDb (applyEffects s.p [e1, e2]) = histDb (applyEffect s.p e1) from
    histDb_around (pre := []) (fun _ h => nomatch h) hk2 s.p e1]
  exact histDb_cut_around (pre := []) (fun _ h => nomatch h) hk2 s.p (tornPrefixes_of_histBatch h1) hc

/-- what the index keeps true of the history DB on disk, whatever the blocks: no compaction is
    recorded as in progress (`comp_flush_count = comp_cursor = -1`) and no row is empty -/
structure DiskShape (p : Store) : Prop where
  flush : (p.hstate.getD {}).compFlushCount = -1
  cursor : (p.hstate.getD {}).compCursor = -1
  noEmpty : ∀ e ∈ p.hist, e.2 ≠ []

theorem diskShape_congr {p p' : Store} (h : histDb p' = histDb p) (hD : DiskShape p) : DiskShape p' :=
  ⟨by rw [hstate_of_histDb h]; exact hD.flush, by rw [hstate_of_histDb h]; exact hD.cursor,
    by rw [hist_of_histDb h]; exact hD.noEmpty⟩

theorem diskShape_histBatch {p : Store} (hD : DiskShape p) (dels : List (HashX × Nat)) {puts : List Row}
    {st : HState} (h1 : st.compFlushCount = -1) (h2 : st.compCursor = -1) (hp : ∀ e ∈ puts, e.2 ≠ []) :
    DiskShape (applyEffect p (.histBatch dels puts st)) :=
  ⟨h1, h2, fun e he => (mem_histBatch_sub p dels puts st e he).elim (hp e) (hD.noEmpty e)⟩

/-- what every state of an index run satisfies: the same in memory, and no `unflushed` entry is empty -/
structure RunShape (s : Sys) : Prop where
  memFlush : s.m.compFlush = -1
  memCursor : s.m.compCursor = -1
  unfNoEmpty : ∀ e ∈ s.m.unflushed, e.2 ≠ []
  disk : DiskShape s.p

theorem runShape_init : RunShape {} :=
  ⟨rfl, rfl, fun _ he => absurd he List.not_mem_nil, rfl, rfl, fun _ he => absurd he List.not_mem_nil⟩

theorem runShape_congr {s s' : Sys} (h1 : s'.m.compFlush = s.m.compFlush)
    (h2 : s'.m.compCursor = s.m.compCursor) (h3 : s'.m.unflushed = s.m.unflushed)
    (h4 : histDb s'.p = histDb s.p) (hI : RunShape s) : RunShape s' :=
  ⟨h1.trans hI.memFlush, h2.trans hI.memCursor, by rw [h3]; exact hI.unfNoEmpty, diskShape_congr h4 hI.disk⟩


theorem addUnflushed_noEmpty (unf : List (HashX × List Nat)) (hxsByTx : List (List HashX)) (first : Nat)
    (h : ∀ e ∈ unf, e.2 ≠ []) : ∀ e ∈ addUnflushed unf hxsByTx first, e.2 ≠ [] := by
  have inner : ∀ (n : Nat) (hxs : List HashX) (unf : List (HashX × List Nat)), (∀ e ∈ unf, e.2 ≠ []) →
      ∀ e ∈ hxs.foldl (fun unf hx => ainsert hx ((alookup hx unf).getD [] ++ [n]) unf) unf, e.2 ≠ [] := by
    intro n hxs
    induction hxs with
    | nil => exact fun unf h => h
    | cons a r ih =>
      intro unf h
      refine ih _ fun e he => ?_
      rcases List.mem_cons.mp he with rfl | he
      · exact List.append_ne_nil_of_right_ne_nil _ (List.cons_ne_nil _ _)
      · exact h e (List.mem_filter.mp he).1
  induction hxsByTx generalizing unf first with
  | nil => exact h
  | cons hxs r ih => exact ih _ (first + 1) (inner first hxs.eraseDups unf h)

/-- `advance_block` writes nothing to disk and, of these fields, only adds to `unflushed` -/
theorem runShape_advance {cfg : Cfg} {daemonH : Int} {s s' : Sys} {b : Block} (hI : RunShape s)
    (h : advance cfg daemonH s b = .ok s') : RunShape s' := by
  obtain ⟨-, a, -, rfl⟩ := advance_ok_iff.mp h
  exact ⟨hI.memFlush, hI.memCursor, addUnflushed_noEmpty _ _ _ hI.unfNoEmpty, hI.disk⟩


/-- `History.flush` writes the entries of `unflushed` and the compaction fields of memory -/
theorem diskShape_histFlush {s : Sys} (hI : RunShape s) : DiskShape (flushHistStep s).p := by
  refine diskShape_congr (histDb_flushHistStep s) (diskShape_histBatch hI.disk []
    (st := { hstateOf s.m with flushCount := s.m.histFlush + 1 }) hI.memFlush hI.memCursor fun e he => ?_)
  obtain ⟨x, hx, rfl⟩ := List.mem_map.mp he
  exact hI.unfNoEmpty x ((List.mergeSort_perm _ _).mem_iff.mp hx)

theorem runShape_flush {s s' : Sys} {fu : Bool} (hI : RunShape s) (h : flush s fu = .ok s') :
    RunShape s' := by
  rcases flush_ok_cases h with ⟨-, -, rfl⟩ | ⟨-, -, rfl⟩
  · exact hI
  · have h1 : RunShape (flushHistStep s) :=
      ⟨hI.memFlush, hI.memCursor, fun _ h => absurd h List.not_mem_nil, diskShape_histFlush hI⟩
    cases fu
    · exact h1
    · exact runShape_congr (s := flushHistStep s) rfl rfl rfl (histDb_flushUtxoStep _) h1


theorem histBackupOne_puts_noEmpty (tc : Nat) (rd : List Row) :
    ∀ e ∈ (histBackupOne tc rd).2, e.2 ≠ [] := by
  induction rd with
  | nil => exact fun _ h => nomatch h
  | cons e rest ih =>
    obtain ⟨k, nums⟩ := e
    by_cases h : bisectLeft nums tc > 0
    · rw [HistAux.histBackupOne_pos _ _ _ _ h]
      intro e he hnil
      -- a prefix of positive length; `bisect_left` of the empty list is 0
      rw [List.mem_singleton.mp he] at hnil
      rcases List.take_eq_nil_iff.mp hnil with h0 | rfl
      · omega
      · cases h
    · rw [HistAux.histBackupOne_neg _ _ _ _ h]
      exact ih

theorem diskShape_histBackup {p : Store} (hD : DiskShape p) (s : Sys) (h1 : s.m.compFlush = -1)
    (h2 : s.m.compCursor = -1) (touched : List HashX) (tc : Nat) :
    DiskShape (applyEffect p (histBackupEffect s touched tc)) := by
  refine diskShape_histBatch hD _ (st := { hstateOf s.m with flushCount := s.m.histFlush + 1 })
    h1 h2 fun e he => ?_
  obtain ⟨part, hpart, he⟩ := List.mem_flatMap.mp he
  obtain ⟨hx, -, rfl⟩ := List.mem_map.mp hpart
  exact histBackupOne_puts_noEmpty _ _ e he

theorem runShape_backup {cfg : Cfg} {s s' : Sys} {b : Block} (hI : RunShape s)
    (h : backup cfg s b = .ok s') : RunShape s' := by
  obtain ⟨es, hb⟩ := backup_ok h
  obtain ⟨-, -, undo, a, -, -, hr⟩ := backupFull_inv hb
  obtain rfl : s' = (bkResult a s b).2 := congrArg Prod.snd hr
  -- `flush_backup` (`bkResult`): `History.backup`'s batch, then a UTXO batch; memory but for cache and queue is `s`'s
  exact ⟨hI.memFlush, hI.memCursor, hI.unfNoEmpty,
    diskShape_congr (histDb_around (pre := []) (fun _ h => nomatch h) (not_histBatch_of_all rfl) s.p _)
      (diskShape_histBackup hI.disk s hI.memFlush hI.memCursor _ _)⟩


theorem openStore_hist_sublist (cfg : Cfg) (p : Store) : (openStore cfg p).hist.Sublist p.hist := by
  rw [openStore_hist, openStore1_hist]
  split
  · exact List.Sublist.refl _
  · exact List.filter_sublist

/-- `clear_excess` lowers the history flush count to the UTXO one and leaves the compaction fields -/
theorem openStore_hstate_min (cfg : Cfg) (p : Store) :
    (openStore cfg p).hstate.getD {} = { (p.hstate.getD {}) with
      flushCount := min (p.hstate.getD {}).flushCount (p.ustate.getD {}).flushCount } := by
  rw [openStore_hstate_getD, openHistState_min]

theorem diskShape_openStore (cfg : Cfg) {p : Store} (hD : DiskShape p) : DiskShape (openStore cfg p) :=
  ⟨by rw [openStore_hstate_min]; exact hD.flush, by rw [openStore_hstate_min]; exact hD.cursor,
    fun e he => hD.noEmpty e ((openStore_hist_sublist cfg p).mem he)⟩

/-- a process other than the compaction script (`c = false`) cancels a compaction in memory -/
theorem openDbs_facts {cfg : Cfg} {p : Store} {c : Bool} {keep : Option (List Nat)} {es : List Effect}
    {s : Sys} (h : openDbs cfg p c keep = some (es, s)) :
    s.p = openStore cfg p ∧ s.m.unflushed = [] ∧ s.m.dbst.firstSync = (p.ustate.getD {}).firstSync ∧
    (c = false → s.m.compFlush = -1 ∧ s.m.compCursor = -1) := by
  rw [openDbs_eq] at h
  obtain ⟨l, -, h⟩ := Option.map_eq_some_iff.mp h
  cases h
  exact ⟨rfl, rfl, rfl, fun hc => by subst hc; exact ⟨rfl, rfl⟩⟩

/-- what a restart (`recover`, `reopen`, a server start) leaves -/
theorem runShape_openDbs {cfg : Cfg} {p : Store} (hD : DiskShape p) {keep : Option (List Nat)}
    {es : List Effect} {s : Sys} (h : openDbs cfg p false keep = some (es, s)) : RunShape s := by
  obtain ⟨o1, o2, -, o3⟩ := openDbs_facts h
  exact ⟨(o3 rfl).1, (o3 rfl).2, by rw [o2]; exact fun _ he => absurd he List.not_mem_nil,
    by rw [o1]; exact diskShape_openStore cfg hD⟩

theorem runShape_step {cfg : Cfg} {s s' : Sys} (hI : RunShape s) {op : IOp2}
    (h : stepOp2 cfg s op = .ok s') : RunShape s' := by
  cases op with
  | adv b d => exact runShape_advance hI h
  | flush fu => exact runShape_flush hI h
  | backup b => exact runShape_backup hI h
  | reopen =>
    obtain ⟨es, ho⟩ := reopen_ok h
    exact runShape_openDbs hI.disk ho

/-- **the shape invariant holds after every index run** — any operation list, valid or not, as long
    as no operation fails -/
theorem runShape_run {cfg : Cfg} (ops : List IOp2) {s s' : Sys} (hI : RunShape s)
    (h : runOps2 cfg s ops = .ok s') : RunShape s' :=
  run_explained (E := fun _ s => RunShape s) (ops0 := []) (fun _ hI h => runShape_step hI h) hI ops h

theorem runShape_flush_cut {cfg : Cfg} {s r : Sys} (hI : RunShape s) {fu : Bool} {es c e : List Effect}
    {m' : Mem} (hf : flushDbs s fu = some (es, m')) (hc : c ∈ cuts es)
    (hrec : recover cfg (applyEffects s.p c) = some (e, r)) : RunShape r :=
  runShape_openDbs ((flush_cut_hist hf hc).elim (diskShape_congr · hI.disk)
    (diskShape_congr · (diskShape_histFlush hI))) hrec

structure RunInv (cfg : Cfg) (t : Track) (s : Sys) : Prop extends TrackInv cfg t s where
  shape : RunShape s

theorem runInv_init (cfg : Cfg) : RunInv cfg {} {} := ⟨trackInv_init cfg, runShape_init⟩

theorem runInv_step {cfg : Cfg} {t : Track} {s : Sys} (ri : RunInv cfg t s) (op : IOp2)
    (hok : OkOp cfg t op) : ∃ s', stepOp2 cfg s op = .ok s' ∧ RunInv cfg (t.step cfg op) s' := by
  obtain ⟨s', h, ti⟩ := trackInv_step ri.toTrackInv op hok
  exact ⟨s', h, ti, runShape_step ri.shape h⟩

theorem runInv_of_run {cfg : Cfg} {ops : List IOp2} (hv : ValidOps2 cfg {} ops) {s : Sys}
    (hs : runOps2 cfg {} ops = .ok s) : RunInv cfg (Track.run cfg {} ops) s :=
  ⟨trackInv_of_run hv hs, runShape_run ops runShape_init hs⟩

end EV.Compact
