import EV.Model.Crash

/-!
Membership in `cuts` without unfolding it again: the recursive equation (`mem_cuts_cons`), the split at an atomic
effect, which is the commit point of a flush or a back-out (`mem_cuts_commit`), and one induction principle for
what every cut preserves (`cuts_invariant`).
-/
namespace EV.Index

theorem mem_cuts_cons {e : Effect} {es c : List Effect} :
    c ∈ cuts (e :: es) ↔ c = [] ∨ (∃ t ∈ tornPrefixes e, c = [t]) ∨ ∃ c' ∈ cuts es, c = e :: c' := by
  simp only [cuts, List.mem_cons, List.mem_append, List.mem_map, eq_comm]

theorem cuts_cons_atomic {e : Effect} (he : tornPrefixes e = []) (es : List Effect) :
    cuts (e :: es) = [] :: (cuts es).map (e :: ·) := by
  rw [cuts, he]; rfl

theorem cuts_atomic2 (e1 e2 : Effect) (h1 : tornPrefixes e1 = []) (h2 : tornPrefixes e2 = []) :
    cuts [e1, e2] = [[], [e1], [e1, e2]] := by
  rw [cuts_cons_atomic h1, cuts_cons_atomic h2]; rfl

theorem nil_mem_cuts (es : List Effect) : [] ∈ cuts es := by
  cases es
  · exact List.mem_singleton.mpr rfl
  · exact mem_cuts_cons.mpr (.inl rfl)

theorem self_mem_cuts (es : List Effect) : es ∈ cuts es := by
  induction es with
  | nil => exact List.mem_singleton.mpr rfl
  | cons e es ih => exact mem_cuts_cons.mpr (.inr (.inr ⟨es, ih, rfl⟩))

theorem mem_cuts_atomic {es c : List Effect} (h : es = [] ∨ ∃ e, tornPrefixes e = [] ∧ es = [e])
    (hc : c ∈ cuts es) : c = [] ∨ c = es := by
  rcases h with rfl | ⟨e, he, rfl⟩
  · exact Or.inl (List.mem_singleton.mp hc)
  · simpa [cuts, he] using hc

theorem mem_tornPrefixes {e t : Effect} (h : t ∈ tornPrefixes e) :
    (∃ off d j, e = .writeHeaders off d ∧ t = .writeHeaders off (d.take j)) ∨
    (∃ off d j, e = .writeTxCounts off d ∧ t = .writeTxCounts off (d.take j)) ∨
    (∃ off d j, e = .writeHashes off d ∧ t = .writeHashes off (d.take j)) := by
  cases e with
  | writeHeaders off d =>
    obtain ⟨j, -, rfl⟩ := List.mem_map.mp h
    exact Or.inl ⟨off, d, j, rfl, rfl⟩
  | writeTxCounts off d =>
    obtain ⟨j, -, rfl⟩ := List.mem_map.mp h
    exact Or.inr (Or.inl ⟨off, d, j, rfl, rfl⟩)
  | writeHashes off d =>
    obtain ⟨j, -, rfl⟩ := List.mem_map.mp h
    exact Or.inr (Or.inr ⟨off, d, j, rfl, rfl⟩)
  | histBatch _ _ _ => cases h
  | utxoBatch _ _ _ _ _ _ => cases h
  | putUState _ => cases h

theorem tornAt_mem {j : Nat} {e t : Effect} (h : tornAt j e = some t) : t ∈ tornPrefixes e := by
  cases e with
  | writeHeaders off d | writeTxCounts off d | writeHashes off d =>
    by_cases hj : j < d.length
    · rw [tornAt, if_pos hj] at h
      exact List.mem_map.mpr ⟨j, List.mem_range.mpr hj, Option.some.inj h⟩
    · rw [tornAt, if_neg hj] at h
      cases h
  | histBatch _ _ _ | utxoBatch _ _ _ _ _ _ | putUState _ => cases h

theorem forall_mem_cuts {P : Effect → Prop} (htorn : ∀ e t, P e → t ∈ tornPrefixes e → P t)
    {es c : List Effect} (hes : ∀ e ∈ es, P e) (hc : c ∈ cuts es) : ∀ e ∈ c, P e := by
  induction es generalizing c with
  | nil =>
    cases List.mem_singleton.mp hc
    exact fun _ h => nomatch h
  | cons e es ih =>
    obtain ⟨he, hes⟩ := List.forall_mem_cons.mp hes
    rcases mem_cuts_cons.mp hc with rfl | ⟨t, ht, rfl⟩ | ⟨c0, hc0, rfl⟩
    · exact fun _ h => nomatch h
    · exact List.forall_mem_singleton.mpr (htorn e t he ht)
    · exact List.forall_mem_cons.mpr ⟨he, ih hes hc0⟩

theorem cuts_invariant {P : Effect → Prop} {I : Store → Prop}
    (hstep : ∀ {q : Store} {e : Effect}, P e → I q → I (applyEffect q e))
    (htorn : ∀ e t : Effect, P e → t ∈ tornPrefixes e → P t)
    {es : List Effect} (hes : ∀ e ∈ es, P e) {c : List Effect} (hc : c ∈ cuts es) {q : Store}
    (h : I q) : I (applyEffects q c) :=
  List.foldlRecOn c applyEffect h fun _ hq e he => hstep (forall_mem_cuts htorn hes hc e he) hq

/-- the cut the harness names `(k, j)` (driver command `CUT k j`) is one of the model's cuts -/
theorem cutAt_mem_cuts (es : List Effect) (k j : Nat) : cutAt es k j ∈ cuts es := by
  induction es generalizing k with
  | nil => exact List.mem_singleton.mpr (by simp [cutAt])
  | cons e es ih =>
    cases k with
    | zero =>
      show [] ++ (tornAt j e).toList ∈ _
      cases h : tornAt j e with
      | none => exact nil_mem_cuts _
      | some t => exact mem_cuts_cons.mpr (.inr (.inl ⟨t, tornAt_mem h, rfl⟩))
    | succ k => exact mem_cuts_cons.mpr (.inr (.inr ⟨_, ih k, by simp [cutAt]⟩))

theorem mem_cuts_append {a b c : List Effect} (h : c ∈ cuts (a ++ b)) :
    c ∈ cuts a ∨ ∃ c' ∈ cuts b, c = a ++ c' := by
  induction a generalizing c with
  | nil => exact Or.inr ⟨c, h, rfl⟩
  | cons e a ih =>
    rcases mem_cuts_cons.mp h with rfl | ⟨t, ht, rfl⟩ | ⟨c0, hc0, rfl⟩
    · exact Or.inl (nil_mem_cuts _)
    · exact Or.inl (mem_cuts_cons.mpr (.inr (.inl ⟨t, ht, rfl⟩)))
    · rcases ih hc0 with h1 | ⟨c', hc', rfl⟩
      · exact Or.inl (mem_cuts_cons.mpr (.inr (.inr ⟨c0, h1, rfl⟩)))
      · exact Or.inr ⟨c', hc', rfl⟩

theorem mem_cuts_commit {pre post : List Effect} {e : Effect} (he : tornPrefixes e = []) {c : List Effect}
    (hc : c ∈ cuts (pre ++ e :: post)) : c ∈ cuts pre ∨ ∃ c' ∈ cuts post, c = pre ++ e :: c' := by
  rcases mem_cuts_append hc with h | ⟨c1, h1, rfl⟩
  · exact Or.inl h
  · rw [cuts_cons_atomic he] at h1
    rcases List.mem_cons.mp h1 with rfl | h1
    · exact Or.inl (by rw [List.append_nil]; exact self_mem_cuts pre)
    · obtain ⟨c', hc', rfl⟩ := List.mem_map.mp h1
      exact Or.inr ⟨c', hc', rfl⟩



end EV.Index
