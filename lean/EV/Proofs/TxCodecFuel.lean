import EV.Proofs.TxCodecTrunc
import EV.Proofs.StepX

/-! The fuel of the loops never runs out, for *every* file content and chunk size: `outOfFuel`
is not a reachable outcome of `iterTxs`, `chunkOffsetsG`, `iterTxsReversedG`. -/
namespace EV.TxCodec

structure Progress {α : Type} (r : Reader α) : Prop where
  noOof : ∀ buf c, r buf c ≠ .error .outOfFuel
  adv : ∀ buf c x e, r buf c = .ok (x, e) → c < e ∧ e ≤ buf.length

theorem progress_readTx : Progress readTx where
  noOof := regular_readTx.noOof
  adv := fun _ _ _ _ h => by have := readTx_bounds h; omega

theorem progress_readTxAndHash : Progress readTxAndHash where
  noOof := fun buf c => by
    cases h : readTx buf c with
    | error err =>
      rw [readTxAndHash_err h]
      exact fun he => progress_readTx.noOof buf c (Except.error.inj he ▸ h)
    | ok p => rw [readTxAndHash_ok h]; exact nofun
  adv := fun buf c x e hx => by
    cases h : readTx buf c with
    | error err => rw [readTxAndHash_err h] at hx; cases hx
    | ok p =>
      rw [readTxAndHash_ok h] at hx; cases hx
      exact progress_readTx.adv _ _ _ _ h

theorem parseRun_fuel {α : Type} {reader : Reader α} (P : Progress reader)
    (buf : Bytes) : ∀ (fuel c : Nat), 1 ≤ fuel → buf.length < fuel + c →
      (parseRun reader buf fuel c).exc ≠ .outOfFuel := by
  intro fuel
  induction fuel with
  | zero => intro c h; omega
  | succ f ih =>
    intro c _ h
    simp only [parseRun]
    split
    · rename_i e he; intro h'; simp only at h'; subst h'; exact P.noOof _ _ he
    · rename_i x c1 he
      have := P.adv _ _ _ _ he
      simp only [Run.cons]
      exact ih c1 (by omega) (by omega)

theorem parseRun_exc {α : Type} {reader : Reader α} (P : Progress reader) (buf : Bytes) (c : Nat) :
    (parseRun reader buf (buf.length + 1) c).exc ≠ .outOfFuel :=
  parseRun_fuel P buf _ c (Nat.le_add_left 1 _) (Nat.lt_add_right c (Nat.lt_succ_self _))

theorem drop_lt_of_take_ne_nil {α : Type} (l : List α) (n : Nat) (h : ¬ (l.take n).isEmpty = true) :
    (l.drop n).length < l.length := by
  have : (l.take n).length ≠ 0 := fun h0 => h (by rw [List.eq_nil_of_length_eq_zero h0]; rfl)
  simp only [List.length_take, List.length_drop] at this ⊢; omega

/-- One round of either refill loop: if the refill was not empty, less is left in the file than
    there is fuel for the next round, which is why `len(data)` is fuel enough. -/
theorem refill_round {ρ : Type} {P : ρ → Prop} {a b : Prop} [Decidable a] [Decidable b]
    {rest : Bytes} {chunk f : Nat} {A B C D : ρ} (h : rest.length < f + 1)
    (hA : P A) (hB : P B) (hC : P C) (hD : (rest.drop chunk).length < f → P D) :
    P (if a then A else if b then B else if (rest.take chunk).isEmpty then C else D) :=
  ite_ind (fun _ => hA) fun _ => ite_ind (fun _ => hB) fun _ => ite_ind (fun _ => hC) fun hne =>
    hD (Nat.lt_of_lt_of_le (drop_lt_of_take_ne_nil rest chunk hne) (Nat.le_of_lt_succ h))

theorem rest_lt {data : Bytes} (h : ¬ (data.take 80).isEmpty = true) (chunk : Nat) :
    ((data.drop 80).drop chunk).length < data.length := by
  have := drop_lt_of_take_ne_nil data 80 h
  simp only [List.length_drop] at this ⊢; omega

theorem iterLoop_fuel (chunk N : Nat) : ∀ (fuel : Nat) (raw : Bytes) (c : Nat) (rest : Bytes) (count : Nat),
    rest.length < fuel → (iterLoop chunk N fuel raw c rest count).err ≠ some .outOfFuel := by
  intro fuel
  induction fuel with
  | zero => intro raw c rest count h; omega
  | succ f ih =>
    intro raw c rest count h
    have hp := parseRun_exc progress_readTxAndHash raw c
    rw [iterLoop]
    generalize parseRun readTxAndHash raw (raw.length + 1) c = r at hp ⊢
    obtain ⟨items, cur, e⟩ := r
    exact refill_round (P := fun r : GenRes Item => r.err ≠ some .outOfFuel) h (fun h => hp (Option.some.inj h))
      nofun nofun fun hlt => by rw [GenRes.prepend_err]; exact ih _ _ _ _ hlt

theorem iterTxs_fuel (chunk : Nat) (data : Bytes) : (iterTxs chunk data).err ≠ some .outOfFuel := by
  unfold iterTxs
  split
  · exact nofun
  rename_i hhdr
  split
  · exact nofun
  split
  · rename_i e he
    exact fun h => regular_readVarint.noOof _ _ (he.trans (by rw [Option.some.inj h]))
  · exact iterLoop_fuel _ _ _ _ _ _ _ (rest_lt hhdr chunk)

theorem offLoop_fuel (fixed : Bool) (chunk : Nat) :
    ∀ (fuel : Nat) (raw : Bytes) (c : Nat) (rest : Bytes) (base : Nat) (txCount : Int) (offs : List Nat),
    rest.length < fuel → offLoop fixed chunk fuel raw c rest base txCount offs ≠ .error .outOfFuel := by
  intro fuel
  induction fuel with
  | zero => intro raw c rest base txCount offs h; omega
  | succ f ih =>
    intro raw c rest base txCount offs h
    have hp := parseRun_exc progress_readTx raw c
    rw [offLoop]
    generalize parseRun readTx raw (raw.length + 1) c = r at hp ⊢
    obtain ⟨items, cur, e⟩ := r
    exact refill_round (P := fun r : Except PyExc (List Nat) => r ≠ .error .outOfFuel) h (fun h => hp (Except.error.inj h))
      nofun nofun (ih _ _ _ _ _ _)

theorem chunkOffsetsG_fuel (fixed : Bool) (chunk : Nat) (data : Bytes) :
    chunkOffsetsG fixed chunk data ≠ .error .outOfFuel := by
  unfold chunkOffsetsG
  split
  · exact nofun
  rename_i hhdr
  split
  · exact nofun
  split
  · exact nofun
  split
  · rename_i e he
    exact fun (h : Except.error e = _) => regular_readVarint.noOof _ _ (Except.error.inj h ▸ he)
  · exact offLoop_fuel _ _ _ _ _ _ _ _ _ (rest_lt hhdr chunk)

theorem readAll_fuel (buf : Bytes) : ∀ (fuel c : Nat), buf.length ≤ fuel + c →
    readAll buf buf.length fuel c ≠ .error .outOfFuel := by
  intro fuel
  induction fuel with
  | zero =>
    intro c h
    rw [readAll, if_neg (by omega)]; exact nofun
  | succ f ih =>
    intro c h
    rw [readAll]
    by_cases hc : c < buf.length
    · rw [if_pos hc]
      cases he : readTxAndHash buf c with
      | error e => exact fun (h : Except.error e = _) => progress_readTxAndHash.noOof _ _ (Except.error.inj h ▸ he)
      | ok p =>
        obtain ⟨x, c1⟩ := p
        have := progress_readTxAndHash.adv _ _ _ _ he
        simp only []
        cases he2 : readAll buf buf.length f c1 with
        | error e => exact fun (h : Except.error e = _) => ih c1 (by omega) (Except.error.inj h ▸ he2)
        | ok xs => exact fun (h : Except.ok _ = _) => nomatch h
    · rw [if_neg hc]; exact nofun

theorem chunkItems_fuel (data : Bytes) (a b : Nat) : chunkItems data a b ≠ .error .outOfFuel := by
  unfold chunkItems
  split
  · exact nofun
  · split
    · exact nofun
    · rename_i h1 h2
      have := readAll_fuel (slice data a b) (b - a) 0 (by omega)
      rwa [Decidable.of_not_not h2] at this

theorem revChunks_fuel (data : Bytes) (ps : List (Nat × Nat)) :
    (revChunks data ps).err ≠ some .outOfFuel := by
  induction ps with
  | nil => exact nofun
  | cons p ps ih =>
    rw [revChunks_cons]
    cases he : chunkItems data p.1 p.2 with
    | error e => exact fun h => chunkItems_fuel _ _ _ (he.trans (by rw [Option.some.inj h]))
    | ok xs => exact ih

theorem iterTxsReversedG_fuel (fixed : Bool) (chunk : Nat) (data : Bytes) :
    (iterTxsReversedG fixed chunk data).err ≠ some .outOfFuel := by
  unfold iterTxsReversedG
  cases he : chunkOffsetsG fixed chunk data with
  | error e => exact fun h => chunkOffsetsG_fuel _ _ _ (he.trans (by rw [Option.some.inj h]))
  | ok offs => exact revChunks_fuel _ _

end EV.TxCodec
