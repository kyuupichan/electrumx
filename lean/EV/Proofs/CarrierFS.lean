import EV.Proofs.CarrierModel
import EV.Proofs.IndexEffect

/-!
`ChainState.first_sync` is never read by `advance_block`, `flush_dbs`, `backup_block` or
`flush_backup`, only copied (into `DB.state` and the state record by a UTXO flush).  `on_caught_up`
clears the flag in `BlockProcessor.state` *before* its flush, and when that flush is the early
return of `flush_dbs` (nothing to flush) `DB.state` keeps the old flag: there `FullInv'` (clause
`dbEq`: `DB.state` is the processor's state when the heights agree) does not hold literally.  So the
loop proofs keep the invariant on a *ghost* system that never clears the flag, related to the real
one by `setFS` (same system, other flags), with which the three operations commute up to the flags
of `DB.state` and the state record, which a UTXO flush overwrites with the processor's.
-/
namespace EV.Index
open EV.Spec

def setFS (s : Sys) (f1 f2 f3 : Bool) : Sys :=
  { m := { s.m with st := { s.m.st with firstSync := f1 }, dbst := { s.m.dbst with firstSync := f2 } },
    p := { s.p with ustate := s.p.ustate.map (fun x => { x with firstSync := f3 }) } }

theorem uAgree_setFS (s : Sys) (f1 f2 f3 : Bool) : UAgree s (setFS s f1 f2 f3) :=
  ⟨rfl, rfl, rfl, rfl, rfl, rfl, rfl⟩

@[simp] theorem setFS_touched (s : Sys) (f1 f2 f3 : Bool) :
    (setFS s f1 f2 f3).m.touched = s.m.touched := rfl

theorem setFS_setFS (s : Sys) (f1 f2 f3 g1 g2 g3 : Bool) :
    setFS (setFS s f1 f2 f3) g1 g2 g3 = setFS s g1 g2 g3 := by
  simp only [setFS, Option.map_map]
  rfl

theorem setTouched_setFS (s : Sys) (f1 f2 f3 : Bool) (T : List HashX) :
    setTouched (setFS s f1 f2 f3) T = setFS (setTouched s T) f1 f2 f3 := rfl

/-- the flags are not among what `advance_block` reads before its bookkeeping (`advLoop_congr`),
    and the bookkeeping copies `state` field by field -/
theorem advance_setFS (cfg : Cfg) (dH : Int) (s : Sys) (b : Block) (f1 f2 f3 : Bool) :
    advance cfg dH (setFS s f1 f2 f3) b = (advance cfg dH s b).map (setFS · f1 f2 f3) := by
  rw [advance_eq, advLoop_congr cfg b (uAgree_setFS s f1 f2 f3).view ⟨rfl, rfl, rfl⟩, advance_eq]
  cases advLoop cfg s b <;> rfl

/-! ### `Store.ustate` is a cell of its own

An effect acts on every field of the store by a function of that field alone (`applyEffect_eq`), so
a change of the state record commutes with any effect list, which then acts on the new record. -/

theorem applyEffects_ustate (es : List Effect) (p : Store) (x : Option CState) :
    applyEffects { p with ustate := x } es =
      { applyEffects p es with ustate := es.foldl (fun o e => e.act.ustate o) x } := by
  induction es generalizing p x with
  | nil => rfl
  | cons e r ih =>
    have h1 : applyEffect { p with ustate := x } e = { applyEffect p e with ustate := e.act.ustate x } := by
      rw [applyEffect_eq, applyEffect_eq]; rfl
    show applyEffects (applyEffect { p with ustate := x } e) r = _
    rw [h1]
    exact ih (applyEffect p e) (e.act.ustate x)

theorem ustate_applyEffects (es : List Effect) (p : Store) :
    (applyEffects p es).ustate = es.foldl (fun o e => e.act.ustate o) p.ustate := by
  have h := applyEffects_ustate es p p.ustate
  -- by rewriting: handed `congrArg Store.ustate h`, the unifier evaluates the effect list on whole stores
  rw [show ({ p with ustate := p.ustate } : Store) = p from rfl] at h
  rw [h]

theorem flushHistStep_setFS (s : Sys) (f1 f2 f3 : Bool) :
    flushHistStep (setFS s f1 f2 f3) = setFS (flushHistStep s) f1 f2 f3 := by
  -- no effect of `flush_fs` or `History.flush` writes the state record
  have h : ∀ x, applyEffects { s.p with ustate := x } (flushFsEffects s ++ [histFlushEffect s]) =
      { applyEffects s.p (flushFsEffects s ++ [histFlushEffect s]) with ustate := x } :=
    applyEffects_ustate _ s.p
  have hu : (flushHistStep s).p.ustate = s.p.ustate := ustate_applyEffects _ s.p
  unfold setFS
  rw [hu]
  exact congrArg (Sys.mk _) (h _)

/-- the UTXO step writes the processor's state into `DB.state` and the state record, so all three
    flags become `f1` -/
theorem flushUtxoStep_setFS (s : Sys) (f1 f2 f3 : Bool) :
    flushUtxoStep (setFS s f1 f2 f3) = setFS (flushUtxoStep s) f1 f1 f1 := by
  unfold flushUtxoStep setFS
  simp only [applyEffects, List.foldl_cons, List.foldl_nil, applyEffect_eq]
  rfl

theorem assertFlushed_setFS (s : Sys) (f1 f2 f3 : Bool) :
    assertFlushed (setFS s f1 f2 f3) = assertFlushed s := by
  simp only [assertFlushed, setFS]

theorem flushFsAsserts_setFS (s : Sys) (f1 f2 f3 : Bool) :
    flushFsAsserts (setFS s f1 f2 f3) = flushFsAsserts s := by
  unfold flushFsAsserts
  rfl

theorem flush_setFS {s s' : Sys} {fu : Bool} (h : flush s fu = .ok s') (f1 f2 f3 : Bool) :
    ∃ g2 g3, flush (setFS s f1 f2 f3) fu = .ok (setFS s' f1 g2 g3) := by
  obtain ⟨heq, ha, hs⟩ | ⟨hne, ha, rfl⟩ := flush_ok_cases h
  · rw [hs]
    exact ⟨f2, f3, flush_noop (s := setFS s f1 f2 f3) heq ((assertFlushed_setFS s f1 f2 f3).trans ha) fu⟩
  · have ha' := (flushFsAsserts_setFS s f1 f2 f3).trans ha
    cases fu with
    | false => exact ⟨f2, f3, by rw [flush_hist (s := setFS s f1 f2 f3) hne ha', flushHistStep_setFS]; rfl⟩
    | true =>
      exact ⟨f1, f1, by
        rw [flush_full (s := setFS s f1 f2 f3) hne ha', flushHistStep_setFS, flushUtxoStep_setFS]; rfl⟩

/-- the two accumulators in the form in which `backupTxs_sim` delivers them; all three flags become `f1`
    as in `flushUtxoStep_setFS` (the UTXO batch of `flush_backup`) -/
theorem bkResult_setFS (a : Acc Sys) (s : Sys) (b : Block) (c : List ((Hash × Nat) × CacheVal))
    (d : List DelKey) (ha : a.s = setCD s c d) (f1 f2 f3 : Bool) :
    (bkResult { a with s := setCD (setFS s f1 f2 f3) c d } (setFS s f1 f2 f3) b).2 =
      setFS (bkResult a s b).2 f1 f1 f1 := by
  rw [bkResult, bkResult, ha]
  simp only [setFS, setCD, applyEffects, List.foldl_cons, List.foldl_nil, applyEffect_eq]
  rfl

theorem backupFull_setFS {cfg : Cfg} {s s' : Sys} {b : Block} {es : List Effect}
    (h : backupFull cfg s b = .ok (es, s')) (f1 f2 f3 : Bool) :
    ∃ es', backupFull cfg (setFS s f1 f2 f3) b = .ok (es', setFS s' f1 f1 f1) := by
  obtain ⟨h1, h2, undo, a, h3, h4, hr⟩ := backupFull_inv h
  obtain ⟨c, d, ha, hsim⟩ := backupTxs_sim cfg _ _ undo _ a [] (setFS s f1 f2 f3)
    (uAgree_setFS s f1 f2 f3) h4
  have hs' : s' = (bkResult a s b).2 := congrArg Prod.snd hr
  rw [hs', ← bkResult_setFS a s b c d ha f1 f2 f3]
  exact ⟨_, backupFull_of ((assertFlushed_setFS s f1 f2 f3).trans h1) h2 h3 hsim⟩

/-- `reopen` is excluded: it copies the flag of the state record into `BlockProcessor.state`, so the
    processor's flag would not stay `f1` -/
theorem stepOp2_setFS {cfg : Cfg} {s s' : Sys} {op : IOp2} (hne : op ≠ .reopen)
    (h : stepOp2 cfg s op = .ok s') (f1 f2 f3 : Bool) :
    ∃ g2 g3, stepOp2 cfg (setFS s f1 f2 f3) op = .ok (setFS s' f1 g2 g3) := by
  cases op with
  | adv b d =>
    exact ⟨f2, f3, (advance_setFS cfg d s b f1 f2 f3).trans (congrArg _ (show advance cfg d s b = _ from h))⟩
  | flush fu => exact flush_setFS h f1 f2 f3
  | backup b =>
    obtain ⟨es, hbf⟩ := backup_ok h
    obtain ⟨es', h2⟩ := backupFull_setFS hbf f1 f2 f3
    exact ⟨f1, f1, backup_of_ok h2⟩
  | reopen => exact absurd rfl hne

end EV.Index
