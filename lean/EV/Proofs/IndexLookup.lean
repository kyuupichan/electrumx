import EV.Proofs.IndexFiles
import EV.Model.IndexSplit

/-!
What `DB.lookup_utxos` answers (`lookupUtxo`: the `h` rows under `pfx(txid) + idx`, each candidate's
tx number resolved through `fs_tx_hash` and compared with the FULL hash, then the `u` row).  It
reads only the persistent rows, the hashes file, `tx_counts` and `DB.state.height`, so the answer is
determined by the list `V` of UTXOs resident in the rows (`RowsOf`, `EV/Proofs/IndexRows.lean`,
where `lookupUtxo_rows` is proved): the specification's UTXO set of
the chain in a flushed state, of the COMMITTED chain `chain.take (DB.state.height + 1)` in any state
of `FullInv'`.  Also the two `run_in_thread` jobs of `lookup_utxos` read in different states.
-/
namespace EV.Index
open EV.Spec

/-- `DB.lookup_utxos(prevouts)`: one answer per prevout, in order -/
def lookupUtxos (s : Sys) (ps : List (Hash × Nat)) : List (Option (HashX × Nat)) :=
  ps.map (fun p => lookupUtxo s p.1 p.2)

theorem lookupUtxo_congr {s s' : Sys} (hh : s'.p.h = s.p.h) (hu : s'.p.u = s.p.u)
    (hf : s'.p.hashes = s.p.hashes) (hc : s'.m.txCounts = s.m.txCounts)
    (hd : s'.m.dbst.height = s.m.dbst.height) (txid : Hash) (idx : Nat) :
    lookupUtxo s' txid idx = lookupUtxo s txid idx := by
  have hr : ∀ n, resolve s' n = resolve s n := by
    intro n
    rw [resolve_eq, resolve_eq, hf, hc, hd]
  simp only [lookupUtxo_unfold, hh, hu, hr]

theorem lookupUtxos_rows {s : Sys} {V : List Utxo} (r : RowsOf s V) (ps : List (Hash × Nat)) :
    lookupUtxos s ps = ps.map (fun p => lookupIn V p.1 p.2) := by
  simp only [lookupUtxos, lookupUtxo_rows r]

theorem lookupUtxo_rows_iff {s : Sys} {V : List Utxo} (r : RowsOf s V) (txid : Hash) (idx : Nat) :
    (∀ hx v, lookupUtxo s txid idx = some (hx, v) ↔
      ∃ u ∈ V, u.txid = txid ∧ u.idx = idx ∧ u.hx = hx ∧ u.value = v) ∧
    (lookupUtxo s txid idx = none ↔ ∀ u ∈ V, ¬ (u.txid = txid ∧ u.idx = idx)) := by
  rw [lookupUtxo_rows r]
  exact ⟨fun hx v => lookupIn_eq_some_iff r.nodup, lookupIn_eq_none_iff⟩

def OutputOf (act : Nat) (chain : List Block) (u : Utxo) : Prop :=
  ∃ b tx o, chain[u.height]? = some b ∧ tx ∈ b.txs ∧ tx.id = u.txid ∧ tx.outs[u.idx]? = some o ∧
    o.hx = u.hx ∧ o.value = u.value ∧ unspendable act u.height o.kind = false

theorem foldl_applyTx_all {act height : Nat} {P : Utxo → Prop} (txs : List Tx) {S : St}
    (hS : ∀ u ∈ S.utxos, P u)
    (hnew : ∀ tx ∈ txs, ∀ n, ∀ x ∈ newUtxos act height n tx.id tx.outs 0, P x) :
    ∀ u ∈ (txs.foldl (applyTx act height) S).utxos, P u := by
  refine List.foldlRecOn (motive := fun S : St => ∀ u ∈ S.utxos, P u) txs _ hS fun S hS tx ht u hu => ?_
  rw [applyTx_eq] at hu
  rcases List.mem_append.mp hu with hu | hu
  · exact hS u ((spendAll_sublist _ _).subset hu)
  · exact hnew tx ht _ u hu

theorem OutputOf.prefix {act : Nat} {c chain : List Block} {u : Utxo} (h : OutputOf act c u)
    (hp : c <+: chain) : OutputOf act chain u := by
  obtain ⟨suf, rfl⟩ := hp
  obtain ⟨b', tx, o, h1, rest⟩ := h
  have hlt : u.height < c.length := (List.getElem?_eq_some_iff.mp h1).1
  exact ⟨b', tx, o, by rw [List.getElem?_append_left hlt]; exact h1, rest⟩

theorem specChain_outputOf (act : Nat) (chain : List Block) :
    ∀ u ∈ (specChain act chain).utxos, OutputOf act chain u := by
  induction chain using List.snoc_induction with
  | nil => intro u hu; simp [specChain, specFrom] at hu
  | snoc l b ih =>
    rw [specChain_snoc, applyBlock]
    apply foldl_applyTx_all
    · intro u hu
      exact (ih u hu).prefix (List.prefix_append l [b])
    · intro tx htx n x hx
      obtain ⟨i, o, h1, h2, rfl⟩ := newUtxos_out hx
      exact ⟨b, tx, o, List.getElem?_concat_length, htx, rfl, by rw [Nat.zero_add]; exact h1, rfl,
        rfl, h2⟩

/-! Job 2 of the fixed code reads the `u` row and then calls `fs_tx_hash`.  The model (like every
other reader in it) takes one job in one state.  `lookupValue2` is below that granularity: it splits
job 2 once more, the `u` row read in `sa`, the re-check in `sb`. -/

def lookupValue2 (sa sb : Sys) (txid : Hash) (idx : Nat) :
    Option (HashX × Nat) → Option (HashX × Nat)
  | none => none
  | some (hx, n) =>
    match alookup (hx, idx, n) sa.p.u with
    | none => none
    | some v => if resolve sb n != some txid then none else some (hx, v)

theorem lookupValue2_self (s : Sys) (txid : Hash) (idx : Nat) (ph : Option (HashX × Nat)) :
    lookupValue2 s s txid idx ph = lookupValue true s txid idx ph := by
  cases ph with
  | none => rfl
  | some p =>
    obtain ⟨hx, n⟩ := p
    simp only [lookupValue2, lookupValue_unfold, Bool.true_and]
    rfl

/-- `ph` is whatever job 1 handed over, from any earlier state.  `hres`: nothing backed out and
re-advanced below a resident tx number between the two statements of job 2.  The `u` row belongs to
a resident output `y` with tx number `n`, and the re-check makes `y.txid` the asked txid. -/
theorem lookupValue2_rows {sa sb : Sys} {Va : List Utxo} (ra : RowsOf sa Va)
    (hres : ∀ y ∈ Va, ∀ t, resolve sb y.txnum = some t → t = y.txid)
    (txid : Hash) (idx : Nat) (ph : Option (HashX × Nat)) :
    lookupValue2 sa sb txid idx ph = none ∨ lookupValue2 sa sb txid idx ph = lookupIn Va txid idx := by
  cases ph with
  | none => exact Or.inl rfl
  | some p =>
    obtain ⟨hx, n⟩ := p
    simp only [lookupValue2]
    cases hl : alookup (hx, idx, n) sa.p.u with
    | none => exact Or.inl rfl
    | some v =>
      obtain ⟨y, hy, rfl, ha⟩ := ra.uRow_answer hl
      cases hc : resolve sb y.txnum != some txid with
      | true => exact Or.inl (if_pos rfl)
      | false =>
        obtain rfl := hres y hy txid (bne_eq_false_iff_eq.mp hc)
        exact Or.inr ((if_neg Bool.false_ne_true).trans ha.symm)

/-- `s1` is unconstrained; with job 2 in one state the re-check is against the very table
`RowsOf.res` speaks of. -/
theorem lookupUtxoSplit_fixed_rows (s1 : Sys) {s2 : Sys} {V2 : List Utxo} (r2 : RowsOf s2 V2)
    (txid : Hash) (idx : Nat) :
    lookupUtxoSplit true s1 s2 txid idx = none ∨
      lookupUtxoSplit true s1 s2 txid idx = lookupIn V2 txid idx := by
  rw [lookupUtxoSplit, ← lookupValue2_self]
  exact lookupValue2_rows r2 (fun y hy t ht => Option.some.inj (ht.symm.trans (r2.res y hy)))
    txid idx _

/-- `u` in both lists is the same record, so the same tx number: not backed out and re-created in
between. -/
theorem lookupUtxoSplit_stable (b : Bool) {s1 s2 : Sys} {V1 V2 : List Utxo} (r1 : RowsOf s1 V1)
    (r2 : RowsOf s2 V2) {u : Utxo} (h1 : u ∈ V1) (h2 : u ∈ V2) :
    lookupUtxoSplit b s1 s2 u.txid u.idx = some (u.hx, u.value) := by
  rw [lookupUtxoSplit, lookupHashX_rows r1, outAt_of_mem r1.nodup h1, Option.map_some,
    lookupValue_unfold, r2.alookup_of_mem h2]
  simp only [r2.res u h2, bne_self_eq_false, Bool.and_false, Bool.false_eq_true, if_false]

/-- **The code before the fix** (`recheck = false`) is sound only if no tx number is reused in
between (`hnum`): `lookupUtxoSplit_reorg_hazard` in `EV/Props/C08lookup.lean` shows the failure. -/
theorem lookupUtxoSplit_orig_rows {s1 s2 : Sys} {V1 V2 : List Utxo} (r1 : RowsOf s1 V1)
    (r2 : RowsOf s2 V2) (hnum : ∀ a ∈ V1, ∀ b ∈ V2, a.txnum = b.txnum → a.txid = b.txid)
    (txid : Hash) (idx : Nat) :
    lookupUtxoSplit false s1 s2 txid idx = none ∨
      lookupUtxoSplit false s1 s2 txid idx = lookupIn V2 txid idx := by
  rw [lookupUtxoSplit, lookupHashX_rows r1]
  cases hph : outAt V1 txid idx with
  | none => exact Or.inl rfl
  | some x =>
    obtain ⟨hxV, rfl, -⟩ := outAt_some hph
    rw [Option.map_some, lookupValue_unfold]
    cases hl : alookup (x.hx, idx, x.txnum) s2.p.u with
    | none => exact Or.inl rfl
    | some v =>
      -- the row is trusted: it answers for `x.txid` only because `y` has `x`'s tx number
      obtain ⟨y, hy, hn, ha⟩ := r2.uRow_answer hl
      rw [← hnum x hxV y hy hn.symm] at ha
      exact Or.inr ha.symm

theorem spec_txid_of_prefix (act : Nat) {c' c : List Block} (hp : c' <+: c) :
    ∀ u ∈ (specChain act c').utxos, u.txid = (allTxids c).getD u.txnum 0 := by
  intro u hu
  obtain ⟨hlt, hid, -⟩ := spec_txid act c' hu
  rw [hid, allTxids_prefix_getD hp hlt]

theorem txnum_txid_of_prefixes (act : Nat) {c1 c2 c : List Block} (h1 : c1 <+: c) (h2 : c2 <+: c) :
    ∀ a ∈ (specChain act c1).utxos, ∀ b ∈ (specChain act c2).utxos, a.txnum = b.txnum →
      a.txid = b.txid := by
  intro a ha b hb hab
  rw [spec_txid_of_prefix act h1 a ha, spec_txid_of_prefix act h2 b hb, hab]

theorem resolve_of_prefix {chain c : List Block} {s : Sys} (f : FilesInv chain s)
    (hp : chain.take (s.m.dbst.height + 1).toNat <+: c) {n : Nat} {t : Hash}
    (h : resolve s n = some t) : t = (allTxids c).getD n 0 := by
  have hlt := resolve_some_lt f h
  rw [resolve_some_eq f h, ← allTxids_prefix_getD (List.take_prefix _ _) hlt,
    allTxids_prefix_getD hp hlt]

end EV.Index
