import EV.Model.Peers
import EV.Proofs.ListX

/-! `on_peers_subscribe` stage by stage.  A Python `set` of `Peer` objects is a list without repeated `id`
that only grows at its end (`setUpdate_eq_append`); the caps come from the slice lengths alone, and of a
shuffle only `x ∈ shuf i l → x ∈ l` is used. -/
namespace EV.Peers

/-- the assumed behaviour of `random.shuffle`: every call returns a permutation of its input -/
def IsShuffle (shuf : Nat → List PeerV → List PeerV) : Prop := ∀ i l, (shuf i l).Perm l

theorem IsShuffle.sub {shuf : Nat → List PeerV → List PeerV} (h : IsShuffle shuf) :
    ∀ i l x, x ∈ shuf i l → x ∈ l := fun i l _ hx => (h i l).subset hx

theorem countP_eq_zero_of {q : PeerV → Bool} {l : List PeerV} (h : ∀ x ∈ l, q x = false) :
    l.countP q = 0 :=
  List.countP_eq_zero.mpr fun x hx => ne_true_of_eq_false (h x hx)

theorem setAdd_eq (s : List PeerV) (p : PeerV) : setAdd s p = s ∨ setAdd s p = s ++ [p] := by
  unfold setAdd
  split
  · exact Or.inl rfl
  · exact Or.inr rfl

theorem setUpdate_eq_append (l s : List PeerV) :
    ∃ extra, setUpdate s l = s ++ extra ∧ extra.Sublist l := by
  induction l generalizing s with
  | nil => exact ⟨[], (List.append_nil s).symm, .slnil⟩
  | cons a l ih =>
    obtain ⟨ex, h1, h2⟩ := ih (setAdd s a)
    replace h1 : setUpdate s (a :: l) = setAdd s a ++ ex := h1
    rcases setAdd_eq s a with e | e <;> rw [e] at h1
    · exact ⟨ex, h1, h2.cons a⟩
    · exact ⟨a :: ex, by rw [h1, List.append_assoc]; rfl, h2.cons_cons a⟩

theorem mem_setUpdate {l s : List PeerV} {x : PeerV} (h : x ∈ setUpdate s l) : x ∈ s ∨ x ∈ l := by
  obtain ⟨ex, h1, h2⟩ := setUpdate_eq_append l s
  rw [h1, List.mem_append] at h
  exact h.imp_right (h2.subset ·)

theorem countP_setUpdate_le (q : PeerV → Bool) (l s : List PeerV) :
    (setUpdate s l).countP q ≤ s.countP q + l.countP q := by
  obtain ⟨ex, h1, h2⟩ := setUpdate_eq_append l s
  rw [h1, List.countP_append]
  exact Nat.add_le_add_left h2.countP_le _

theorem setAdd_nodup {s : List PeerV} (p : PeerV) (h : (s.map (·.id)).Nodup) :
    ((setAdd s p).map (·.id)).Nodup := by
  unfold setAdd
  split
  · exact h
  · rename_i hany
    rw [List.map_append]
    refine nodup_snoc h fun hm => hany ?_
    obtain ⟨q, hq, e⟩ := List.mem_map.mp hm
    exact List.any_eq_true.mpr ⟨q, hq, beq_iff_eq.mpr e⟩

theorem setUpdate_nodup (l : List PeerV) {s : List PeerV} (h : (s.map (·.id)).Nodup) :
    ((setUpdate s l).map (·.id)).Nodup :=
  List.foldlRecOn (motive := fun s => (s.map (·.id)).Nodup) l setAdd h
    fun _ hs a _ => setAdd_nodup a hs

theorem mem_recentGood {now : Int} {peers : List PeerV} {x : PeerV} (h : x ∈ recentGood now peers) :
    x ∈ peers ∧ x.lastGood > now - EV.Gen.staleSecs ∧ x.bad = false ∧ x.isPublic = true := by
  simp only [recentGood, fresh, List.mem_filter, Bool.and_eq_true, decide_eq_true_eq,
    Bool.not_eq_true'] at h
  exact ⟨h.1, h.2.1.1, h.2.1.2, h.2.2⟩

theorem mem_initSet {now : Int} {myselves : List PeerV} {x : PeerV} (h : x ∈ initSet now myselves) :
    x ∈ myselves ∧ x.lastGood > now - EV.Gen.staleSecs := by
  rcases mem_setUpdate h with h | h
  · exact absurd h List.not_mem_nil
  · simp only [fresh, List.mem_filter, decide_eq_true_eq] at h
    exact h

theorem isMyself_of_mem {myselves : List PeerV} {x : PeerV} (h : x ∈ myselves) :
    isMyself myselves x = true :=
  List.any_eq_true.mpr ⟨x, h, beq_iff_eq.mpr rfl⟩

theorem keys_bucketAdd (bs : List (String × List PeerV)) (p : PeerV) :
    (bucketAdd bs p).map (·.1) = bs.map (·.1) ∨
      (p.bucket ∉ bs.map (·.1) ∧ (bucketAdd bs p).map (·.1) = bs.map (·.1) ++ [p.bucket]) := by
  induction bs with
  | nil => exact Or.inr ⟨List.not_mem_nil, rfl⟩
  | cons e rest ih =>
    obtain ⟨k, l⟩ := e
    rw [bucketAdd]
    by_cases hk : k = p.bucket
    · rw [if_pos hk]; exact Or.inl rfl
    · rw [if_neg hk, List.map_cons, List.map_cons]
      rcases ih with e | ⟨hm, e⟩ <;> rw [e]
      · exact Or.inl rfl
      · exact Or.inr ⟨fun h => (List.mem_cons.mp h).elim (fun h => hk h.symm) hm, rfl⟩

theorem keys_bucketAdd_nodup (bs : List (String × List PeerV)) (p : PeerV)
    (h : (bs.map (·.1)).Nodup) : ((bucketAdd bs p).map (·.1)).Nodup := by
  rcases keys_bucketAdd bs p with e | ⟨hm, e⟩ <;> rw [e]
  · exact h
  · exact nodup_snoc h hm

theorem bucketAdd_elem (Q : PeerV → Prop) (bs : List (String × List PeerV)) (p : PeerV) (hQ : Q p)
    (h : ∀ kl ∈ bs, ∀ x ∈ kl.2, Q x ∧ x.bucket = kl.1) :
    ∀ kl ∈ bucketAdd bs p, ∀ x ∈ kl.2, Q x ∧ x.bucket = kl.1 := by
  induction bs with
  | nil =>
    intro kl hkl x hx
    cases List.mem_singleton.mp hkl
    rw [List.mem_singleton.mp hx]
    exact ⟨hQ, rfl⟩
  | cons e rest ih =>
    obtain ⟨k, l⟩ := e
    rw [List.forall_mem_cons] at h
    rw [bucketAdd]
    split
    · rename_i hk
      rw [List.forall_mem_cons]
      refine ⟨fun x hx => ?_, h.2⟩
      rcases List.mem_append.mp hx with hx | hx
      · exact h.1 x hx
      · rw [List.mem_singleton.mp hx]; exact ⟨hQ, hk.symm⟩
    · rw [List.forall_mem_cons]
      exact ⟨h.1, ih h.2⟩

/-- invariant of the loop `for peer in recent` on `(onion_peers, buckets)`; `Q` holds of every peer fed in -/
structure SplitOK (Q : PeerV → Prop) (acc : List PeerV × List (String × List PeerV)) : Prop where
  onion : ∀ x ∈ acc.1, Q x ∧ x.isTor = true
  elems : ∀ kl ∈ acc.2, ∀ x ∈ kl.2, (Q x ∧ x.isTor = false) ∧ x.bucket = kl.1
  nodup : (acc.2.map (·.1)).Nodup

theorem splitStep_ok (Q : PeerV → Prop) (acc : List PeerV × List (String × List PeerV)) (p : PeerV)
    (hQ : Q p) (h : SplitOK Q acc) : SplitOK Q (splitStep acc p) := by
  unfold splitStep
  split
  · rename_i ht
    refine ⟨fun x hx => ?_, h.elems, h.nodup⟩
    rcases List.mem_append.mp hx with hx | hx
    · exact h.onion x hx
    · rw [List.mem_singleton.mp hx]; exact ⟨hQ, ht⟩
  · rename_i ht
    exact ⟨h.onion, bucketAdd_elem _ acc.2 p ⟨hQ, Bool.eq_false_iff.mpr ht⟩ h.elems,
      keys_bucketAdd_nodup _ _ h.nodup⟩

theorem split_ok (recent : List PeerV) : SplitOK (· ∈ recent) (split recent) :=
  List.foldlRecOn recent splitStep
    ⟨fun _ hx => absurd hx List.not_mem_nil, fun _ hkl => absurd hkl List.not_mem_nil, List.nodup_nil⟩
    fun acc h p hp => splitStep_ok _ acc p hp h

theorem SplitOK.countP_any_le_one {Q : PeerV → Prop} {acc : List PeerV × List (String × List PeerV)}
    (ok : SplitOK Q acc) {q : PeerV → Bool} {b : String} (hq : ∀ x, q x = true → x.bucket = b) :
    acc.2.countP (fun kl => kl.2.any q) ≤ 1 := by
  have h1 : acc.2.countP (fun kl => kl.2.any q) ≤ acc.2.countP (fun kl => kl.1 == b) := by
    refine List.countP_mono_left fun kl hkl h => ?_
    obtain ⟨x, hx, hqx⟩ := List.any_eq_true.mp h
    rw [beq_iff_eq, ← (ok.elems kl hkl x hx).2]
    exact hq x hqx
  have h2 := List.nodup_iff_count.mp ok.nodup b
  rw [List.count_eq_countP, List.countP_map] at h2
  exact Nat.le_trans h1 h2

theorem pickBuckets_nodup (shuf : Nat → List PeerV → List PeerV)
    (bs : List (String × List PeerV)) (i : Nat) {s : List PeerV} (h : (s.map (·.id)).Nodup) :
    ((pickBuckets shuf i bs s).map (·.id)).Nodup := by
  induction bs generalizing i s with
  | nil => exact h
  | cons e rest ih => exact ih (i + 1) (setUpdate_nodup _ h)

/-! All that is used of a shuffle: it returns elements of its argument. -/
section
variable {shuf : Nat → List PeerV → List PeerV} (hsub : ∀ i l x, x ∈ shuf i l → x ∈ l)
include hsub

theorem mem_pickBuckets (bs : List (String × List PeerV)) (i : Nat) (s : List PeerV) (x : PeerV)
    (h : x ∈ pickBuckets shuf i bs s) : x ∈ s ∨ ∃ kl ∈ bs, x ∈ kl.2 := by
  induction bs generalizing i s with
  | nil => exact Or.inl h
  | cons e rest ih =>
    obtain ⟨k, l⟩ := e
    rw [pickBuckets] at h
    rcases ih _ _ h with h1 | ⟨kl, hkl, hx⟩
    · rcases mem_setUpdate h1 with h2 | h2
      · exact Or.inl h2
      · exact Or.inr ⟨(k, l), List.mem_cons_self, hsub i l x (List.mem_of_mem_take h2)⟩
    · exact Or.inr ⟨kl, List.mem_cons_of_mem _ hkl, hx⟩

/-- Each bucket adds at most `Gen.bucketCap` peers (the slice length),
and none satisfying `q` unless it holds one. -/
theorem countP_pickBuckets_le (q : PeerV → Bool)
    (bs : List (String × List PeerV)) (i : Nat) (s : List PeerV) :
    (pickBuckets shuf i bs s).countP q ≤
      s.countP q + EV.Gen.bucketCap * bs.countP (fun kl => kl.2.any q) := by
  induction bs generalizing i s with
  | nil => exact Nat.le_refl _
  | cons e rest ih =>
    obtain ⟨k, l⟩ := e
    rw [pickBuckets]
    refine Nat.le_trans (ih (i + 1) _) (Nat.le_trans (Nat.add_le_add_right
      (countP_setUpdate_le q ((shuf i l).take EV.Gen.bucketCap) s) _) ?_)
    rw [Nat.add_assoc]
    apply Nat.add_le_add_left
    -- what the slice of this bucket adds is within the bucket's share of the bound
    cases hq : l.any q with
    | true =>
      rw [List.countP_cons_of_pos (p := fun kl : String × List PeerV => kl.2.any q) hq,
        Nat.mul_succ, Nat.add_comm]
      exact Nat.add_le_add_left (Nat.le_trans List.countP_le_length (List.length_take_le _ _)) _
    | false =>
      have h0 : ((shuf i l).take EV.Gen.bucketCap).countP q = 0 :=
        countP_eq_zero_of fun x hx =>
          Bool.eq_false_iff.mpr (List.any_eq_false.mp hq x (hsub i l x (List.mem_of_mem_take hx)))
      rw [List.countP_cons_of_neg (p := fun kl : String × List PeerV => kl.2.any q)
        (ne_true_of_eq_false hq), h0, Nat.zero_add]
      exact Nat.le_refl _

theorem mem_clearPart {now : Int} {peers myselves : List PeerV} {x : PeerV}
    (h : x ∈ clearPart now peers myselves shuf) :
    x ∈ initSet now myselves ∨ (x ∈ recentGood now peers ∧ x.isTor = false) := by
  rcases mem_pickBuckets hsub _ _ _ _ h with h | ⟨kl, hkl, hx⟩
  · exact Or.inl h
  · exact Or.inr ((split_ok (recentGood now peers)).elems kl hkl x hx).1

theorem mem_onionPicks {now : Int} {peers myselves : List PeerV} {isTor : Bool} {x : PeerV}
    (h : x ∈ onionPicks now peers myselves isTor shuf) :
    x ∈ recentGood now peers ∧ x.isTor = true :=
  (split_ok (recentGood now peers)).onion x (hsub _ _ x (List.mem_of_mem_take h))

theorem countP_answer_le_cap (now : Int) (peers myselves : List PeerV) (isTor : Bool)
    (q : PeerV → Bool) (b : String) (hmy : ∀ x ∈ myselves, q x = false)
    (htor : ∀ x, x.isTor = true → q x = false) (hb : ∀ x, q x = true → x.bucket = b) :
    (onPeersSubscribe now peers myselves isTor shuf).countP q ≤ EV.Gen.bucketCap := by
  refine Nat.le_trans (countP_setUpdate_le _ _ _) ?_
  rw [countP_eq_zero_of fun x hx => htor x (mem_onionPicks hsub hx).2, Nat.add_zero]
  refine Nat.le_trans
    (countP_pickBuckets_le hsub q (split (recentGood now peers)).2 0 (initSet now myselves)) ?_
  rw [countP_eq_zero_of fun x hx => hmy x (mem_initSet hx).1, Nat.zero_add]
  -- only one bucket holds peers satisfying `q`
  exact Nat.le_trans
    (Nat.mul_le_mul_left _ ((split_ok (recentGood now peers)).countP_any_le_one hb))
    (Nat.le_of_eq (Nat.mul_one _))

end

/-- **Parametric bucket bound** (any value of the slice length `Gen.bucketCap`). -/
theorem bucket_le_cap (now : Int) (peers myselves : List PeerV) (isTor : Bool)
    (shuf : Nat → List PeerV → List PeerV) (hsub : ∀ i l x, x ∈ shuf i l → x ∈ l) (b : String) :
    (onPeersSubscribe now peers myselves isTor shuf).countP
      (fun r => !r.isTor && decide (r.bucket = b) && !isMyself myselves r) ≤ EV.Gen.bucketCap := by
  refine countP_answer_le_cap hsub now peers myselves isTor _ b (fun x hx => ?_) (fun x hx => ?_)
    (fun x hx => ?_)
  · simp [isMyself_of_mem hx]
  · simp [hx]
  · simp only [Bool.and_eq_true, decide_eq_true_eq] at hx
    exact hx.1.2

theorem onion_le_max (now : Int) (peers myselves : List PeerV) (isTor : Bool)
    (shuf : Nat → List PeerV → List PeerV) (hsub : ∀ i l x, x ∈ shuf i l → x ∈ l) :
    (onPeersSubscribe now peers myselves isTor shuf).countP
      (fun r => r.isTor && !isMyself myselves r) ≤
      maxOnion isTor (clearPart now peers myselves shuf).length := by
  refine Nat.le_trans (countP_setUpdate_le _ _ _) ?_
  rw [countP_eq_zero_of (l := clearPart now peers myselves shuf), Nat.zero_add]
  · exact Nat.le_trans List.countP_le_length (List.length_take_le _ _)
  · -- nothing in the clearnet part counts: its members are own identities or clearnet peers
    intro x hx
    rcases mem_clearPart hsub hx with h | h
    · simp [isMyself_of_mem (mem_initSet h).1]
    · simp [h.2]

end EV.Peers
