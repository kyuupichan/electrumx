import EV.Proofs.TxCacheDB
import EV.Props.C12

/-!
C11 (transaction proofs) / C10 (by-height answers): lemmas about one request of `EV.TxCache` under
the fixed code (`Cfg.fixed thr`, any threshold).

`TxcOK` / `McOK`: the entries of `_tx_hashes_cache` / `_merkle_cache` are over the reference chain
`ref`.  `ReqOK` says what is known at each wait point of a request: a list that has been read is
the list of a block that was visible during the request, and *if `_reorg_count` has not moved since
the read was issued* it is still the list of the reference chain — exactly what the re-read loop
tests before the list is stored.

The `…_pc` lemmas at the end hold for every `cfg`: a request function moves the program counter and nothing else.
-/
namespace EV.TxCache
open EV.Merkle

variable {Node : Type} [DecidableEq Node] (H : Node → Node → Node)

omit [DecidableEq Node] in
theorem exists_getElem?_of_prefix {α : Type} {S T : List α} (hp : S <+: T) {k : Nat} {P : α → Prop} :
    (∃ b, S[k]? = some b ∧ P b) → ∃ b, T[k]? = some b ∧ P b
  | ⟨_, hb, h⟩ =>
    have ⟨hk, e⟩ := List.getElem?_eq_some_iff.mp hb
    ⟨_, e ▸ List.prefix_iff_getElem?.mp hp k hk, h⟩

omit [DecidableEq Node] in
theorem forall_setAt {α : Type} {Q : Nat → α → Prop} {m : Nat → Option α} (h : ∀ j x, m j = some x → Q j x)
    (k : Nat) {v : Option α} (hv : ∀ x, v = some x → Q k x) : ∀ j x, setAt m k v j = some x → Q j x := by
  intro j x hj
  unfold setAt at hj
  split at hj
  · next e => exact e ▸ hv x hj
  · exact h j x hj

def TxcOK (ref : List (Block Node)) (txc : Nat → Option (List Node)) : Prop :=
  ∀ h L, txc h = some L → ∃ b, ref[h]? = some b ∧ L = b.txs

def McOK (ref : List (Block Node)) (mc : Nat → Option (MEntry Node)) : Prop :=
  ∀ h e, mc h = some e → ∃ b, ref[h]? = some b ∧ e.src = b.txs ∧ CacheInv H e.c e.src

omit [DecidableEq Node] in
theorem TxcOK.mono {ref ref' : List (Block Node)} {txc : Nat → Option (List Node)} (h : TxcOK ref txc)
    (hp : ref <+: ref') : TxcOK ref' txc :=
  fun k L hk => exists_getElem?_of_prefix hp (h k L hk)

omit [DecidableEq Node] in
theorem McOK.mono {ref ref' : List (Block Node)} {mc : Nat → Option (MEntry Node)} (h : McOK H ref mc)
    (hp : ref <+: ref') : McOK H ref' mc :=
  fun k e hk => exists_getElem?_of_prefix hp (h k e hk)

theorem query_ok {c : Cache Node} {L : List Node} {pos : Nat} (tsc : Bool) (hci : CacheInv H c L)
    (hpos : pos < L.length) :
    (c.query H L (.int L.length) (.int pos) tsc).2 = Outcome.ofExcept (branchAndRoot H L (.int pos) none tsc) ∧
      CacheInv H (c.query H L (.int L.length) (.int pos) tsc).1 L := by
  have h := cache_correct_nat H hci (Nat.le_refl _) hpos tsc
  rwa [List.take_length] at h

/-- **`_merkle_branch` returns the from-scratch branch and root of the list it is given**, whichever
path it takes (direct, a `MerkleCache` found in `_merkle_cache`, a new one), provided the list is the
reference chain's list for that height; and it leaves `_merkle_cache` consistent (C12 `cache_init`,
`cache_correct`, `bar_root`). -/
theorem merkleBranch_ok (thr : Nat) (mc : Nat → Option (MEntry Node)) (ref : List (Block Node)) (h : Nat)
    (b : Block Node) (L : List Node) (pos : Nat) (tsc : Bool) (hmc : McOK H ref mc)
    (hb : ref[h]? = some b) (hL : L = b.txs) (hpos : pos < L.length) :
    ∃ br root, branchAndRoot H L (.int pos) none tsc = .ok (br, root) ∧
      (merkleBranch H thr mc h L pos tsc).2 = .ret (br, root) ∧
      McOK H ref (merkleBranch H thr mc h L pos tsc).1 := by
  obtain ⟨br, hbr⟩ := bar_root H L pos tsc hpos
  refine ⟨br, _, hbr, ?_⟩
  unfold merkleBranch
  split
  · split
    · next e he =>
      -- the entry found is over this very list
      obtain ⟨b', hb', hsrc, hci⟩ := hmc h e he
      cases hb.symm.trans hb'
      have hsL : e.src = L := hsrc.trans hL.symm
      obtain ⟨h1, h2⟩ := query_ok H tsc (hsL ▸ hci) hpos
      rw [hsL, h1, hbr]
      exact ⟨rfl, forall_setAt hmc _ fun e' he' => Option.some.inj he' ▸ ⟨b, hb, hL, h2⟩⟩
    · obtain ⟨hnone, hci⟩ := cache_init H ({} : Cache Node) L L.length (Nat.zero_lt_of_lt hpos) (Nat.le_refl _)
      obtain ⟨h1, h2⟩ := query_ok H tsc hci hpos
      rw [hnone, h1, hbr]
      exact ⟨rfl, forall_setAt hmc _ fun e' he' => Option.some.inj he' ▸ ⟨b, hb, hL, h2⟩⟩
  · rw [hbr]
    exact ⟨rfl, hmc⟩

structure ReqOK (rc : Nat) (ref V : List (Block Node)) (r : Req Node) : Prop where
  /-- an unfinished request has the current visible chain in its history -/
  head : r.active = true → V ∈ r.seen
  /-- `rc0` is the `_reorg_count` sampled when the read was issued.  `rc0 ≤ rc` is kept so that after
      `_handle_chain_reorgs` (`rc + 1`) the guard `rc0 = rc` of the last clause is false for ever
      (`ReqOK.handler`) -/
  rd : ∀ rc0 x, r.pc = .rd rc0 x → rc0 ≤ rc ∧ ∀ L, x = .got L →
    (∃ S ∈ r.seen, ∃ b, S[r.height]? = some b ∧ L = b.txs) ∧
    (rc0 = rc → ∃ b, ref[r.height]? = some b ∧ L = b.txs)
  hdr : ∀ pos br root x, r.pc = .hdr pos br root x →
    (∃ tx, r.kind = .tsc tx ∧ ∃ S ∈ r.seen, ∃ b, S[r.height]? = some b ∧ pos = b.txs.idxOf tx ∧
      pos < b.txs.length ∧ barOpt H b.txs pos true = some (br, root)) ∧
    ∀ hd, x = .got hd → ∃ S ∈ r.seen, ∃ b, S[r.height]? = some b ∧ b.hdr = hd
  safe : r.Safe H

theorem safe_of_active {r : Req Node} (h : r.active = true) : r.Safe H := by
  unfold Req.Safe
  cases hpc : r.pc with
  | rd rc x => exact True.intro
  | hdr pos br root x => exact True.intro
  | done res => simp [Req.active, hpc] at h

theorem ReqOK.see {rc : Nat} {ref V : List (Block Node)} {r : Req Node} (h : ReqOK H rc ref V r)
    (V' : List (Block Node)) : ReqOK H rc ref V' (r.see V') := by
  unfold Req.see
  split
  · next hact =>
    have up {P : List (Block Node) → Prop} : (∃ S ∈ r.seen, P S) → ∃ S ∈ V' :: r.seen, P S :=
      fun ⟨S, hS, hP⟩ => ⟨S, List.mem_cons_of_mem _ hS, hP⟩
    exact ⟨fun _ => List.mem_cons_self,
      fun rc0 x hpc => (h.rd rc0 x hpc).imp_right fun h2 L hL => (h2 L hL).imp_left up,
      fun pos br root x hpc => (h.hdr pos br root x hpc).imp (fun ⟨tx, hk, hs⟩ => ⟨tx, hk, up hs⟩)
        fun h2 hd hx => up (h2 hd hx),
      safe_of_active H hact⟩
  · next hact => exact { h with head := fun h' => absurd h' hact }

theorem ReqOK.mono {rc : Nat} {ref ref' V : List (Block Node)} {r : Req Node} (h : ReqOK H rc ref V r)
    (hp : ref <+: ref') : ReqOK H rc ref' V r :=
  { h with rd := fun rc0 x hpc => (h.rd rc0 x hpc).imp_right fun h2 L hL =>
      (h2 L hL).imp_right fun h3 hrc => exists_getElem?_of_prefix hp (h3 hrc) }

/-- `_handle_chain_reorgs` runs: every read in flight is now known to be possibly stale -/
theorem ReqOK.handler {rc : Nat} {ref V : List (Block Node)} {r : Req Node} (h : ReqOK H rc ref V r) :
    ReqOK H (rc + 1) V V r := by
  refine { h with rd := fun rc0 x hpc => ?_ }
  obtain ⟨h1, h2⟩ := h.rd rc0 x hpc
  exact ⟨Nat.le_succ_of_le h1, fun L hL => ⟨(h2 L hL).1, fun hrc => absurd hrc (Nat.ne_of_lt (Nat.lt_succ_of_le h1))⟩⟩

theorem reqOK_done {rc : Nat} {ref V : List (Block Node)} (r : Req Node) {res : Res Node}
    (hs : ({ r with pc := .done res } : Req Node).Safe H) :
    ReqOK H rc ref V { r with pc := .done res } :=
  ⟨fun h => (by simp [Req.active] at h), fun _ _ h => (by cases h), fun _ _ _ _ h => (by cases h), hs⟩

theorem reqOK_issued {rc rc0 : Nat} {ref V : List (Block Node)} (r : Req Node) (hV : V ∈ r.seen) (hrc : rc0 ≤ rc) :
    ReqOK H rc ref V { r with pc := .rd rc0 .issued } :=
  ⟨fun _ => hV, fun _ _ h => by cases h; exact ⟨hrc, fun _ hL => nomatch hL⟩, (fun _ _ _ _ h => nomatch h),
    safe_of_active H rfl⟩

omit [DecidableEq Node] in
theorem barOpt_eq_some {L : List Node} {pos : Nat} {tsc : Bool} {x : List (Elt Node) × Node} :
    barOpt H L pos tsc = some x ↔ branchAndRoot H L (.int pos) none tsc = .ok x := by
  unfold barOpt
  cases branchAndRoot H L (.int pos) none tsc <;> simp

omit [DecidableEq Node] in
theorem branchOnly_of_ok {L : List Node} {pos : Nat} {tsc : Bool} {br : List (Elt Node)} {root : Node}
    (h : branchAndRoot H L (.int pos) none tsc = .ok (br, root)) : branchOnly H L pos tsc = some br := by
  delta branchOnly
  rw [(barOpt_eq_some H).mpr h]
  rfl

omit [DecidableEq Node] in
theorem branchOnly_some {L : List Node} {pos : Nat} {tsc : Bool} {br : List (Elt Node)}
    (h : branchOnly H L pos tsc = some br) :
    ∃ hne, branchAndRoot H L (.int pos) none tsc = .ok (br, merkleRoot H L hne) := by
  obtain ⟨⟨br', root⟩, hx, rfl⟩ := Option.map_eq_some_iff.mp h
  have hbar := (barOpt_eq_some H).mp hx
  obtain ⟨-, hne, rfl, -⟩ := bar_ok H hbar
  exact ⟨hne, hbar⟩

theorem finishBranch_ok {thr rc : Nat} {ref V : List (Block Node)} {mc : Nat → Option (MEntry Node)}
    {r : Req Node} {b : Block Node} {L : List Node} {pos : Nat} {tsc : Bool}
    {mk : List (Elt Node) → Node → PC Node} (hmc : McOK H ref mc) (hb : ref[r.height]? = some b)
    (hL : L = b.txs) (hpos : pos < L.length)
    (hmk : ∀ br root, branchAndRoot H L (.int pos) none tsc = .ok (br, root) →
      ReqOK H rc ref V { r with pc := mk br root }) :
    McOK H ref (merkleBranch H thr mc r.height L pos tsc).1 ∧
      ReqOK H rc ref V (finishBranch r mk (merkleBranch H thr mc r.height L pos tsc).2) := by
  obtain ⟨br, root, hbar, hout, hmc'⟩ := merkleBranch_ok H thr mc ref r.height b L pos tsc hmc hb hL hpos
  rw [hout]
  exact ⟨hmc', hmk br root hbar⟩

theorem afterHashes_ok {thr rc : Nat} {ref V : List (Block Node)} {txc : Nat → Option (List Node)}
    {mc : Nat → Option (MEntry Node)} {r : Req Node} {L : List Node}
    (htxc : TxcOK ref txc) (hmc : McOK H ref mc) (hV : V ∈ r.seen)
    (href : ∃ b, ref[r.height]? = some b ∧ L = b.txs)
    (hseen : ∃ S ∈ r.seen, ∃ b, S[r.height]? = some b ∧ L = b.txs) :
    TxcOK ref (afterHashes H thr txc mc r L).txc ∧ McOK H ref (afterHashes H thr txc mc r L).mc ∧
      ReqOK H rc ref V (afterHashes H thr txc mc r L).req := by
  obtain ⟨b, hb, hL⟩ := href
  obtain ⟨S, hS, b', hb', rfl⟩ := hseen
  unfold afterHashes
  split
  · -- id_from_pos
    next pos hk =>
    split
    · exact ⟨htxc, hmc, reqOK_done H r trivial⟩
    · next tx htx =>
      refine ⟨htxc, hmc, reqOK_done H r ?_⟩
      unfold Req.Safe
      simp only [hk]
      exact ⟨S, hS, b', hb', htx⟩
  · -- merkle_branch_for_tx_pos
    next pos hk =>
    split
    · exact ⟨htxc, hmc, reqOK_done H r trivial⟩
    · next tx htx =>
      refine ⟨htxc, ?_⟩
      dsimp only
      refine finishBranch_ok H hmc hb hL (List.getElem?_eq_some_iff.mp htx).1
        fun br root hbar => reqOK_done H r ?_
      unfold Req.Safe
      simp only [hk]
      exact ⟨S, hS, b', hb', htx, branchOnly_of_ok H hbar⟩
  · -- merkle_branch_for_tx_hash
    next tx hk =>
    split
    · next hpos =>
      refine ⟨htxc, ?_⟩
      dsimp only
      refine finishBranch_ok H hmc hb hL hpos fun br root hbar => reqOK_done H r ?_
      unfold Req.Safe
      simp only [hk]
      exact ⟨S, hS, b', hb', rfl, hpos, branchOnly_of_ok H hbar⟩
    · exact ⟨htxc, hmc, reqOK_done H r trivial⟩
  · -- tsc_merkle_proof_for_tx_hash, up to `await self.raw_header(height)`
    next tx hk =>
    split
    · next hpos =>
      refine ⟨htxc, ?_⟩
      dsimp only
      refine finishBranch_ok H hmc hb hL hpos fun br root hbar =>
        ⟨fun _ => hV, (fun _ _ h => nomatch h), fun _ _ _ _ hpc => ?_, safe_of_active H rfl⟩
      cases hpc
      exact ⟨⟨tx, hk, S, hS, b', hb', rfl, hpos, (barOpt_eq_some H).mpr hbar⟩, fun _ hx => nomatch hx⟩
    · exact ⟨htxc, hmc, reqOK_done H r trivial⟩

@[simp] theorem fixed_reread (thr : Nat) : (Cfg.fixed thr).reread = true := rfl
@[simp] theorem fixed_stateBound (thr : Nat) : (Cfg.fixed thr).stateBound = true := rfl
@[simp] theorem fixed_signal (thr : Nat) : (Cfg.fixed thr).signal = true := rfl
@[simp] theorem fixed_hitBound (thr : Nat) : (Cfg.fixed thr).hitBound = true := rfl
@[simp] theorem fixed_sanity (thr : Nat) : (Cfg.fixed thr).sanity = true := rfl
@[simp] theorem fixed_fifo (thr : Nat) : (Cfg.fixed thr).fifo = true := rfl
@[simp] theorem fixed_thr (thr : Nat) : (Cfg.fixed thr).thr = thr := rfl

omit [DecidableEq Node] in
theorem cacheHit_some {thr : Nat} {s : St Node} {h : Nat} {L : List Node}
    (hc : cacheHit (Cfg.fixed thr) s h = some L) : s.txc h = some L ∧ h < s.vis := by
  unfold cacheHit at hc
  split at hc
  · next x xs hx =>
    simp only [fixed_hitBound, Bool.true_and] at hc
    split at hc
    · cases hc
    · next hd =>
      cases hc
      exact ⟨hx, by simpa using hd⟩
  · cases hc

theorem newReq_ok (thr : Nat) (s : St Node) (k : Kind Node) (h : Nat) (hdb : DBInv s)
    (hpre : visible s <+: s.ref) (htxc : TxcOK s.ref s.txc) (hmc : McOK H s.ref s.mc) :
    TxcOK s.ref (newReq H (Cfg.fixed thr) s k h).txc ∧ McOK H s.ref (newReq H (Cfg.fixed thr) s k h).mc ∧
      ReqOK H s.rc s.ref (visible s) (newReq H (Cfg.fixed thr) s k h).req := by
  unfold newReq
  split
  · next L hc =>
    -- a hit is for a height `DB.state` has: the reference chain's block there is the visible one
    obtain ⟨hL, hv⟩ := cacheHit_some hc
    obtain ⟨b, hb, hLb⟩ := htxc h L hL
    have hlt : h < (visible s).length := (visible_length hdb).symm ▸ hv
    obtain rfl := Option.some.inj (hb.symm.trans (List.prefix_iff_getElem?.mp hpre h hlt))
    exact afterHashes_ok H htxc hmc List.mem_cons_self ⟨_, hb, hLb⟩
      ⟨visible s, List.mem_cons_self, _, List.getElem?_eq_getElem hlt, hLb⟩
  · exact ⟨htxc, hmc, reqOK_issued H ⟨k, h, .rd s.rc .issued, [visible s]⟩ List.mem_cons_self (Nat.le_refl _)⟩

theorem performReq_ok (thr : Nat) (s : St Node) (r : Req Node) (hdb : DBInv s)
    (hpre : visible s <+: s.ref) (hr : ReqOK H s.rc s.ref (visible s) r) :
    ReqOK H s.rc s.ref (visible s) (performReq (Cfg.fixed thr) s r) := by
  unfold performReq
  split
  · next rc0 hpc =>
    have hV := hr.head (by rw [Req.active, hpc])
    refine ⟨fun _ => hV, fun _ _ hpc1 => ?_, (fun _ _ _ _ h => nomatch h), safe_of_active H rfl⟩
    cases hpc1
    refine ⟨(hr.rd _ _ hpc).1, fun L hL => ?_⟩
    obtain ⟨b, hb, hLb⟩ := readTx_got (Cfg.fixed thr) rfl hdb r.height L hL
    exact ⟨⟨visible s, hV, b, hb, hLb⟩, fun _ => exists_getElem?_of_prefix hpre ⟨b, hb, hLb⟩⟩
  · next pos br root hpc =>
    have hV := hr.head (by rw [Req.active, hpc])
    refine ⟨fun _ => hV, (fun _ _ h => nomatch h), fun _ _ _ _ hpc1 => ?_, safe_of_active H rfl⟩
    cases hpc1
    refine ⟨(hr.hdr _ _ _ _ hpc).1, fun hd hx => ?_⟩
    obtain ⟨b, hb, hbh⟩ := readHdr_got hdb r.height hd hx
    exact ⟨visible s, hV, b, hb, hbh⟩
  · exact hr

/-- the re-read loop stores and uses the list only if `_reorg_count` has not moved; the TSC sanity
    check passes only a header whose root field is the root of the branch -/
theorem deliverReq_ok (thr : Nat) (s : St Node) (r : Req Node)
    (htxc : TxcOK s.ref s.txc) (hmc : McOK H s.ref s.mc) (hr : ReqOK H s.rc s.ref (visible s) r) :
    TxcOK s.ref (deliverReq H (Cfg.fixed thr) s r).txc ∧ McOK H s.ref (deliverReq H (Cfg.fixed thr) s r).mc ∧
      ReqOK H s.rc s.ref (visible s) (deliverReq H (Cfg.fixed thr) s r).req := by
  unfold deliverReq
  split
  · next rc0 L hpc =>
    have hV := hr.head (by rw [Req.active, hpc])
    obtain ⟨hseen, href⟩ := (hr.rd _ _ hpc).2 L rfl
    simp only [fixed_reread, if_true, fixed_thr]
    split
    · next hrc =>
      exact afterHashes_ok H (forall_setAt htxc _ fun L' hL' => Option.some.inj hL' ▸ href hrc) hmc hV
        (href hrc) hseen
    · exact ⟨htxc, hmc, reqOK_issued H r hV (Nat.le_refl _)⟩
  · exact ⟨htxc, hmc, reqOK_done H r trivial⟩
  · exact ⟨htxc, hmc, reqOK_done H r trivial⟩
  · next pos br root hd hpc =>
    obtain ⟨⟨tx, hk, hbr⟩, h2⟩ := hr.hdr _ _ _ _ hpc
    simp only [fixed_sanity, Bool.true_and]
    split
    · exact ⟨htxc, hmc, reqOK_done H r trivial⟩
    · next hne =>
      obtain rfl : root = hd.root := by simpa using hne
      refine ⟨htxc, hmc, reqOK_done H r ?_⟩
      unfold Req.Safe
      simp only [hk]
      exact ⟨hbr, h2 hd rfl⟩
  · exact ⟨htxc, hmc, reqOK_done H r trivial⟩
  · exact ⟨htxc, hmc, hr⟩

omit [DecidableEq Node] in
theorem finishBranch_pc (r : Req Node) (mk : List (Elt Node) → Node → PC Node)
    (o : Outcome (List (Elt Node) × Node)) : ∃ pc, finishBranch r mk o = { r with pc := pc } := by
  unfold finishBranch
  split <;> exact ⟨_, rfl⟩

theorem afterHashes_pc (thr : Nat) (txc : Nat → Option (List Node)) (mc : Nat → Option (MEntry Node))
    (r : Req Node) (L : List Node) : ∃ pc, (afterHashes H thr txc mc r L).req = { r with pc := pc } := by
  unfold afterHashes
  split
  · split <;> exact ⟨_, rfl⟩
  · split
    · exact ⟨_, rfl⟩
    · -- `dsimp only` reduces `.req` of the record; unification does not get past it by itself
      dsimp only
      exact finishBranch_pc ..
  · split
    · dsimp only
      exact finishBranch_pc ..
    · exact ⟨_, rfl⟩
  · split
    · dsimp only
      exact finishBranch_pc ..
    · exact ⟨_, rfl⟩

theorem newReq_pc (cfg : Cfg) (s : St Node) (k : Kind Node) (h : Nat) :
    ∃ pc, (newReq H cfg s k h).req = ⟨k, h, pc, [visible s]⟩ := by
  unfold newReq
  split
  · exact afterHashes_pc H ..
  · exact ⟨_, rfl⟩

omit [DecidableEq Node] in
theorem performReq_pc (cfg : Cfg) (s : St Node) (r : Req Node) :
    ∃ pc, performReq cfg s r = { r with pc := pc } := by
  unfold performReq
  split <;> exact ⟨_, rfl⟩

theorem deliverReq_pc (cfg : Cfg) (s : St Node) (r : Req Node) :
    ∃ pc, (deliverReq H cfg s r).req = { r with pc := pc } := by
  unfold deliverReq
  split
  · split
    · split
      · exact afterHashes_pc H ..
      · exact ⟨_, rfl⟩
    · exact afterHashes_pc H ..
  · exact ⟨_, rfl⟩
  · exact ⟨_, rfl⟩
  · split <;> exact ⟨_, rfl⟩
  · exact ⟨_, rfl⟩
  · exact ⟨_, rfl⟩

end EV.TxCache
