import EV.Proofs.IndexLogic

/-! The plain map instance of the representation interface (`mapOps`, `Rep`, `mapIface`): a check
that the obvious store satisfies `RepIface`.  The index proofs instantiate the interface with the
concrete system (`sysIface`). -/
namespace EV.Index
open EV.Spec

abbrev AMap := List ((Hash × Nat) × CacheVal)

def mapOps : UOps AMap where
  spend := fun m txid idx =>
    match alookup (txid, idx) m with
    | some cv => .ok (cv, aerase (txid, idx) m)
    | none => .error .chainError
  add := fun m txid idx cv => ainsert (txid, idx) cv m

theorem mapOps_spend_some {m : AMap} {t : Hash} {i : Nat} {cv : CacheVal}
    (h : alookup (t, i) m = some cv) : mapOps.spend m t i = .ok (cv, aerase (t, i) m) := by
  simp [mapOps, h]

theorem mapOps_spend_none {m : AMap} {t : Hash} {i : Nat}
    (h : alookup (t, i) m = none) : mapOps.spend m t i = .error .chainError := by
  simp [mapOps, h]

theorem mapOps_add (m : AMap) (t : Hash) (i : Nat) (cv : CacheVal) :
    mapOps.add m t i cv = ainsert (t, i) cv m := rfl

structure Rep (M : AMap) (U : List Utxo) : Prop where
  nodup : (U.map opOf).Nodup
  look : ∀ op, alookup op M = (U.find? (fun u => decide (opOf u = op))).map cvOf

theorem rep_erase {M : AMap} {U : List Utxo} (h : Rep M U) (op : Hash × Nat) :
    Rep (aerase op M) (U.filter (fun u => !decide (opOf u = op))) := by
  refine ⟨?_, ?_⟩
  · exact List.Nodup.sublist (List.Sublist.map _ List.filter_sublist) h.nodup
  · intro op'
    rw [alookup_aerase, find?_key_filter (key := opOf) (fun o => !decide (o = op)), h.look]
    by_cases hh : op = op' <;> simp [hh, eq_comm]

theorem rep_insert {M : AMap} {U : List Utxo} (h : Rep M U) (u : Utxo)
    (hfresh : ∀ x ∈ U, opOf x ≠ opOf u) :
    Rep (ainsert (opOf u) (cvOf u) M) (U ++ [u]) := by
  refine ⟨nodup_map_snoc h.nodup hfresh, ?_⟩
  · intro op
    rw [alookup_ainsert, List.find?_append, h.look]
    by_cases hop : opOf u = op
    · have : U.find? (fun x => decide (opOf x = op)) = none := by
        apply List.find?_eq_none.mpr
        intro x hx
        simp only [decide_eq_true_eq]
        intro heq; exact hfresh x hx (heq.trans hop.symm)
      simp [hop, this]
    · simp [hop]

theorem rep_perm {M : AMap} {U U' : List Utxo} (h : Rep M U) (hp : U.Perm U') : Rep M U' :=
  ⟨(hp.map opOf).nodup_iff.mp h.nodup,
   fun op => (h.look op).trans (congrArg (·.map cvOf) (find?_key_perm h.nodup hp op))⟩

theorem rep_mapEq {M M' : AMap} {U : List Utxo} (h : Rep M U) (h' : Rep M' U) : MapEq M M' :=
  fun op => (h.look op).trans (h'.look op).symm

theorem mapIface : RepIface mapOps Rep where
  nodup := fun h => h.nodup
  perm := fun h hp => rep_perm h hp
  spend := by
    intro s U u h hu
    refine ⟨aerase (u.txid, u.idx) s, ?_, rep_erase h (opOf u)⟩
    apply mapOps_spend_some
    have := h.look (opOf u)
    rw [find?_key_of_mem h.nodup hu] at this
    exact this
  add := by
    intro s U u h hf
    exact rep_insert h u hf

end EV.Index
