import EV.Proofs.SystemStep
import EV.Proofs.Dict

/-!
Inductive invariant of the status / history-cache / tip coherence model (`EV/Model/System.lean`)
for `batch = false`, `checkCount = true`, `recheck = true` and either value of `cmpLive` and
`raiseOnRace` (the current code and the two pinned variants whose loss is recorded by the ghost sets
`suppressed` / `lost`), over the rules of `Step` (`SystemStep`).
-/
namespace EV.System

theorem lookup_isLookup {β : Type} : IsLookup (lookup (β := β)) := ⟨fun _ => rfl, fun _ _ _ _ => rfl⟩

theorem lookup_filter {β : Type} (q : Nat → Bool) (k : Nat) (l : List (Nat × β)) :
    lookup k (l.filter (fun e => q e.1)) = if q k then lookup k l else none :=
  lookup_isLookup.filter q k l

theorem lookup_put {β : Type} (k' k : Nat) (v : β) (l : List (Nat × β)) :
    lookup k' (put k v l) = if k' = k then some v else lookup k' l :=
  (lookup_isLookup.insert k' k v l).trans (by simp only [eq_comm])

theorem lookup_dictSet {β : Type} (k' k : Nat) (v : β) (l : List (Nat × β)) :
    lookup k' (dictSet k v l) = if k' = k then some v else lookup k' l := by
  induction l with
  | nil => grind [dictSet, lookup]
  | cons e r ih => grind [dictSet, lookup]

theorem lookup_dictErase {β : Type} (k' k : Nat) (l : List (Nat × β)) :
    lookup k' (dictErase k l) = if k' = k then none else lookup k' l :=
  (lookup_isLookup.erase k' k l).trans (by simp only [eq_comm])

theorem mem_keys_of_lookup {β : Type} {k : Nat} {v : β} {l : List (Nat × β)}
    (h : lookup k l = some v) : k ∈ l.map Prod.fst :=
  List.mem_map.mpr ⟨_, lookup_isLookup.some_mem h, rfl⟩

theorem mem_insertSorted {x y : Nat} {l : List Nat} : y ∈ insertSorted x l ↔ y = x ∨ y ∈ l := by
  induction l with
  | nil => simp [insertSorted]
  | cons z r ih =>
    simp only [insertSorted]
    split
    · simp
    · split
      · simp_all
      · simp only [List.mem_cons, ih]; grind

theorem mem_eraseIdx_or {α : Type} {l : List α} {j : Nat} {t a : α} (hj : l[j]? = some t)
    (ha : a ∈ l) : a = t ∨ a ∈ l.eraseIdx j := by
  obtain ⟨i, hi⟩ := List.mem_iff_getElem?.mp ha
  by_cases hij : i = j
  · subst hij; rw [hi] at hj; exact Or.inl (Option.some.inj hj)
  · exact Or.inr (List.mem_eraseIdx_iff_getElem?.mpr ⟨i, hij, hi⟩)

theorem lt_of_mem_subsOf {st : St} {s hx : Nat} (h : hx ∈ subsOf st s) : s < st.subs.length := by
  apply Classical.byContradiction
  intro hn
  have : st.subs[s]? = none := List.getElem?_eq_none (by omega)
  simp [subsOf, List.getD_eq_getElem?_getD, this] at h

theorem contains_false_of_not_mem {l : List Nat} {x : Nat} (h : x ∉ l) : l.contains x = false := by
  cases hc : l.contains x
  · rfl
  · exact absurd (List.contains_iff_mem.mp hc) h

theorem mem_foldr_insertSorted {l : List Nat} {y : Nat} : y ∈ l.foldr insertSorted [] ↔ y ∈ l := by
  induction l with
  | nil => simp
  | cons x r ih => rw [List.foldr_cons, List.mem_cons, mem_insertSorted, ih]

theorem mem_touchedOf {st : St} {s : Nat} {xs : List Nat} {hx : Nat} :
    hx ∈ touchedOf st s xs ↔ hx ∈ xs ∧ hx ∈ subsOf st s := by
  unfold touchedOf
  rw [mem_foldr_insertSorted, List.mem_filter, List.contains_iff_mem]

theorem isEmpty_false_of_lookup {β : Type} {k : Nat} {v : β} {l : List (Nat × β)}
    (h : lookup k l = some v) : l.isEmpty = false :=
  List.isEmpty_eq_false_iff_exists_mem.mpr ⟨_, lookup_isLookup.some_mem h⟩

theorem mem_filter_not_contains {l xs : List Nat} {x : Nat} (h : x ∈ l) (hn : x ∉ xs) :
    x ∈ l.filter (fun y => !xs.contains y) := by
  rw [List.mem_filter]
  exact ⟨h, by rw [contains_false_of_not_mem hn]; rfl⟩

theorem mem_subsOf_modifyAt {st : St} {s x s' hx' : Nat}
    (h : hx' ∈ (modifyAt st.subs s (insertSorted x)).getD s' []) :
    hx' ∈ subsOf st s' ∨ (s' = s ∧ s < st.subs.length ∧ hx' = x) := by
  rw [getD_modifyAt] at h
  split at h
  · next hc =>
    obtain ⟨rfl, hl⟩ := hc
    rcases mem_insertSorted.mp h with h | h
    · exact Or.inr ⟨rfl, hl, h⟩
    · exact Or.inl h
  · exact Or.inl h

/-- a full recomputation of `hx` for every subscriber is owed by the environment (still carried, or
    handed to a `_notify_sessions` call that is suspended in `_refresh_hsub_results`) — or was lost
    for good (`lost`: the refresh raised; `suppressed`: the stale-copy comparison) -/
def Owed (st : St) (hx : Nat) : Prop :=
  hx ∈ st.carrier ∨ hx ∈ st.lost ∨ hx ∈ st.suppressed ∨ ∃ r ∈ st.hreads, hx ∈ r.xs

/-- a re-check of `hx` through `mempool_statuses` is owed (a flip not yet followed by a
    height-changing notification, or taken over by one that is suspended in the header read) -/
def OwedF (st : St) (hx : Nat) : Prop :=
  hx ∈ st.flipped ∨ ∃ r ∈ st.hreads, hx ∈ r.flips

def validC (st : St) (hx c : Nat) : Prop := c = confOf st hx ∨ Owed st hx

/-- what an accepted read satisfies -/
def valid0 (st : St) (hx c : Nat) : Prop := c = confOf st hx ∨ hx ∈ st.carrier

theorem valid0.validC {st : St} {hx c : Nat} (h : valid0 st hx c) : validC st hx c := by
  rcases h with h | h
  · exact Or.inl h
  · exact Or.inr (Or.inl h)

/-- the first loop of a `_notify_inner` of session `s` is suspended (its second loop will follow) -/
def Loop2 (st : St) (s : Nat) : Prop := ∃ t ∈ st.tasks, ∃ rest ch, t.cont = .notify s rest ch

/-- a recomputation of (s, hx) is pending inside some `_notify_inner` -/
def Pending (st : St) (s hx : Nat) : Prop :=
  ∃ t ∈ st.tasks, (∃ rest ch, t.cont = .notify s rest ch ∧ (t.hx = hx ∨ hx ∈ rest)) ∨
    (∃ old rest ch, t.cont = .notify2 s old rest ch ∧ (t.hx = hx ∨ hx ∈ rest.map Prod.fst))

/-- the client holds what `mempool_statuses` records, with the current confirmed version: at most the mempool
    part is stale, and the second loop of `_notify_inner` finds the entry -/
def FlipStale (st : St) (s hx : Nat) : Prop :=
  ∃ c m, heldOf st s hx = some (c, m) ∧ c = confOf st hx ∧ lookup hx (msOf st s) = some (c, m)

/-- session `s` holds a status of `hx` that is current, or something is on its way -/
def HeldOK (st : St) (s hx : Nat) : Prop :=
  Pending st s hx ∨ Owed st hx ∨
    ∃ c m, heldOf st s hx = some (c, m) ∧ c = confOf st hx ∧
      ((m = 0 ∧ memOf st hx = 0) ∨
       (lookup hx (msOf st s) = some (c, m) ∧ (m = memOf st hx ∨ OwedF st hx ∨ Loop2 st s)))

/-- what the coroutine `k` of `_notify_inner`, about to be resumed with the history of `hx`, is going to
    recompute for (s', hx'); a first loop also re-checks, in the second one, what is `FlipStale` -/
def Excuse (st : St) (hx : Nat) : Cont → Nat → Nat → Prop
  | .notify s rest _, s', hx' => s' = s ∧ (hx' ∈ hx :: rest ∨ FlipStale st s hx')
  | .notify2 s _ rest _, s', hx' => s' = s ∧ hx' ∈ hx :: rest.map Prod.fst
  | _, _, _ => False

theorem FlipStale.heldOK_of_loop2 {st : St} {s hx : Nat} (h : FlipStale st s hx) (hl : Loop2 st s) :
    HeldOK st s hx := by
  obtain ⟨c, m, h1, h2, h3⟩ := h
  exact Or.inr (Or.inr ⟨c, m, h1, h2, Or.inr ⟨h3, Or.inr (Or.inr hl)⟩⟩)

/-- `Inv` without the `held` clause: what holds of the states inside `finishNotify` and `resume`, where
    the pairs about to be recomputed have lost their excuse and are not yet `HeldOK` -/
structure Base (st : St) : Prop where
  lens : st.held.length = st.subs.length
  lenMs : st.ms.length = st.subs.length
  cache : ∀ hx c, lookup hx st.cache = some c → validC st hx c
  reads : ∀ t ∈ st.tasks, ∀ c, t.value = some c → t.countAtStart = st.notifyCount → valid0 st t.hx c
  counts : ∀ t ∈ st.tasks, t.countAtStart ≤ st.notifyCount
  /-- non-batch mode: `_notify_inner` never accumulates computed statuses -/
  nochg : ∀ t ∈ st.tasks, (∀ s rest ch, t.cont = .notify s rest ch → ch = []) ∧
    (∀ s old rest ch, t.cont = .notify2 s old rest ch → ch = [])
  subhx : ∀ t ∈ st.tasks, ∀ s x, t.cont = .sub s x → t.hx = x

structure Inv (st : St) : Prop extends Base st where
  held : ∀ s hx, aliveOf st s = true → hx ∈ subsOf st s → HeldOK st s hx

theorem inv_init (n m : Nat) : Inv (init n m) := by
  refine ⟨⟨by simp [init], by simp [init], ?_, ?_, ?_, ?_, ?_⟩, ?_⟩
  · intro hx v h; simp [init, lookup] at h
  · intro t ht; simp [init] at ht
  · intro t ht; simp [init] at ht
  · intro t ht; simp [init] at ht
  · intro t ht; simp [init] at ht
  · intro s hx _ h
    simp only [subsOf, init, List.getD_eq_getElem?_getD, List.getElem?_replicate] at h
    split at h <;> simp at h

theorem heldOf_deliver (st : St) (s hx : Nat) (v : Status) (s' hx' : Nat) :
    heldOf (deliver st s hx v) s' hx' =
      if s' = s ∧ s < st.held.length ∧ hx' = hx then some v else heldOf st s' hx' := by
  simp only [heldOf, deliver, getD_modifyAt]
  by_cases hs : s' = s
  · subst hs
    by_cases hl : s' < st.held.length
    · simp only [hl, and_self, if_true, lookup_put, true_and]
    · simp [hl]
  · simp [hs]

theorem msOf_setMs (st : St) (s hx : Nat) (v : Status) (s' hx' : Nat) :
    lookup hx' (msOf (setMs st s hx v) s') =
      if s' = s ∧ s < st.ms.length ∧ hx' = hx then (if v.2 != 0 then some v else none)
      else lookup hx' (msOf st s') := by
  simp only [msOf, setMs, getD_modifyAt]
  by_cases hs : s' = s
  · subst hs
    by_cases hl : s' < st.ms.length
    · simp only [hl, and_self, if_true, true_and]
      by_cases hv : (v.2 != 0) = true
      · simp only [hv, if_true, lookup_dictSet]
      · simp only [hv, Bool.false_eq_true, if_false, lookup_dictErase]
    · simp [hl]
  · simp [hs]

theorem length_ms_setMs (st : St) (s hx : Nat) (v : Status) : (setMs st s hx v).ms.length = st.ms.length := by
  simp only [setMs, length_modifyAt]

/-- `address_status` stores the status and the client receives it (subscribe reply / notification) -/
def send (st : St) (s hx : Nat) (v : Status) : St := deliver (setMs st s hx v) s hx v

theorem heldOf_send (st : St) (s hx : Nat) (v : Status) (s' hx' : Nat) :
    heldOf (send st s hx v) s' hx' =
      if s' = s ∧ s < st.held.length ∧ hx' = hx then some v else heldOf st s' hx' := by
  unfold send; rw [heldOf_deliver]; rfl

theorem msOf_send (st : St) (s hx : Nat) (v : Status) (s' hx' : Nat) :
    lookup hx' (msOf (send st s hx v) s') =
      if s' = s ∧ s < st.ms.length ∧ hx' = hx then (if v.2 != 0 then some v else none)
      else lookup hx' (msOf st s') := by
  unfold send; rw [← msOf_setMs]; rfl

theorem length_held_send (st : St) (s hx : Nat) (v : Status) : (send st s hx v).held.length = st.held.length :=
  length_modifyAt st.held s _

theorem length_ms_send (st : St) (s hx : Nat) (v : Status) : (send st s hx v).ms.length = st.ms.length :=
  length_ms_setMs st s hx v

def TasksKept (st st' : St) : Prop :=
  ∀ t ∈ st.tasks, ∃ t' ∈ st'.tasks, t'.hx = t.hx ∧ t'.cont = t.cont

theorem TasksKept.of_mem {st st' : St} (h : ∀ t ∈ st.tasks, t ∈ st'.tasks) : TasksKept st st' :=
  fun t ht => ⟨t, h t ht, rfl, rfl⟩

theorem Pending.map {st st' : St} (h : TasksKept st st') {s hx : Nat} :
    Pending st s hx → Pending st' s hx := by
  rintro ⟨t, ht, hc⟩
  obtain ⟨t', ht', e1, e2⟩ := h t ht
  exact ⟨t', ht', by rw [e1, e2]; exact hc⟩

theorem Loop2.map {st st' : St} (h : TasksKept st st') {s : Nat} : Loop2 st s → Loop2 st' s := by
  rintro ⟨t, ht, hc⟩
  obtain ⟨t', ht', _, e2⟩ := h t ht
  exact ⟨t', ht', by rw [e2]; exact hc⟩

/-- How `HeldOK` of (s, hx) moves to a state that agrees with the old one on the values the clause
    reads.  `A` is what a pending recomputation may turn into; under `B` an owed re-check or the coming
    second loop may disappear: the status held is then still the one `mempool_statuses` records.
    Instances: `A = B = False` (`HeldOK.mono`); `B` = the header read that had taken the flip over has
    arrived (`Inv.finishNotify`); `A` = `Excuse` of a task that is removed, `B` = that task was a first
    loop of `s` (`HeldOK.erase_task`). -/
theorem HeldOK.imp {st st' : St} {s hx : Nat} {A B : Prop}
    (hconf : confOf st' hx = confOf st hx) (hmem : memOf st' hx = memOf st hx)
    (hheld : heldOf st' s hx = heldOf st s hx)
    (hms : lookup hx (msOf st' s) = lookup hx (msOf st s))
    (hP : Pending st s hx → Pending st' s hx ∨ A)
    (hO : Owed st hx → Owed st' hx)
    (hF : OwedF st hx → OwedF st' hx ∨ Owed st' hx ∨ B)
    (hL : Loop2 st s → Loop2 st' s ∨ B)
    (h : HeldOK st s hx) : HeldOK st' s hx ∨ A ∨ (B ∧ FlipStale st' s hx) := by
  rcases h with h | h | ⟨c, m, h1, h2, h3⟩
  · exact (hP h).imp Or.inl Or.inl
  · exact Or.inl (Or.inr (Or.inl (hO h)))
  · rw [← hheld] at h1
    rw [← hconf] at h2
    rw [← hmem, ← hms] at h3
    rcases h3 with h3 | ⟨h3, h4⟩
    · exact Or.inl (Or.inr (Or.inr ⟨c, m, h1, h2, Or.inl h3⟩))
    · have ok : (m = memOf st' hx ∨ OwedF st' hx ∨ Loop2 st' s) → HeldOK st' s hx :=
        fun h4 => Or.inr (Or.inr ⟨c, m, h1, h2, Or.inr ⟨h3, h4⟩⟩)
      have stale : B → HeldOK st' s hx ∨ A ∨ (B ∧ FlipStale st' s hx) :=
        fun hb => Or.inr (Or.inr ⟨hb, c, m, h1, h2, h3⟩)
      rcases h4 with h4 | h4 | h4
      · exact Or.inl (ok (Or.inl h4))
      · rcases hF h4 with h5 | h5 | h5
        · exact Or.inl (ok (Or.inr (Or.inl h5)))
        · exact Or.inl (Or.inr (Or.inl h5))
        · exact stale h5
      · rcases hL h4 with h5 | h5
        · exact Or.inl (ok (Or.inr (Or.inr h5)))
        · exact stale h5

theorem HeldOK.mono {st st' : St} {s hx : Nat}
    (hconf : confOf st' hx = confOf st hx) (hmem : memOf st' hx = memOf st hx)
    (howed : Owed st hx → Owed st' hx) (howedF : OwedF st hx → OwedF st' hx ∨ Owed st' hx)
    (htasks : TasksKept st st')
    (hheld : heldOf st' s hx = heldOf st s hx)
    (hms : lookup hx (msOf st' s) = lookup hx (msOf st s))
    (h : HeldOK st s hx) : HeldOK st' s hx :=
  (h.imp (A := False) (B := False) hconf hmem hheld hms (fun hp => Or.inl (hp.map htasks)) howed
    (fun hf => (howedF hf).imp id Or.inl) (fun hl => Or.inl (hl.map htasks))).elim id
    (fun h => h.elim False.elim (fun h => h.1.elim))

theorem FlipStale.congr {st st' : St} {s hx : Nat}
    (hconf : confOf st' hx = confOf st hx)
    (hheld : heldOf st' s hx = heldOf st s hx)
    (hms : lookup hx (msOf st' s) = lookup hx (msOf st s))
    (h : FlipStale st s hx) : FlipStale st' s hx := by
  obtain ⟨c, m, h1, h2, h3⟩ := h
  exact ⟨c, m, by rw [hheld]; exact h1, by rw [hconf]; exact h2, by rw [hms]; exact h3⟩

theorem HeldOK.fresh {st : St} {s hx c : Nat} (hv : validC st hx c)
    (hheld : heldOf st s hx = some (c, memOf st hx))
    (hms : memOf st hx ≠ 0 → lookup hx (msOf st s) = some (c, memOf st hx)) : HeldOK st s hx := by
  rcases hv with hv | hv
  · refine Or.inr (Or.inr ⟨c, memOf st hx, hheld, hv, ?_⟩)
    by_cases hm : memOf st hx = 0
    · exact Or.inl ⟨hm, hm⟩
    · exact Or.inr ⟨hms hm, Or.inl rfl⟩
  · exact Or.inr (Or.inl hv)

theorem send_heldOK (st : St) (s hx c : Nat) (hv : validC st hx c)
    (hs : s < st.held.length) (hlen : st.held.length = st.ms.length) :
    HeldOK (send st s hx (c, memOf st hx)) s hx := by
  refine HeldOK.fresh (st := send st s hx (c, memOf st hx)) hv ?_ fun hm => ?_
  · rw [heldOf_send, if_pos ⟨rfl, hs, rfl⟩]; rfl
  · rw [msOf_send, if_pos ⟨rfl, hlen ▸ hs, rfl⟩]
    exact if_pos (bne_iff_ne.mpr hm)

/-- what the loops of `_notify_inner` do to the rest of the state -/
structure Frame0 (st st' : St) : Prop where
  conf : st'.conf = st.conf
  mem : st'.mem = st.mem
  carrier : st'.carrier = st.carrier
  lost : st'.lost = st.lost
  flipped : st'.flipped = st.flipped
  hreads : st'.hreads = st.hreads
  cache : st'.cache = st.cache
  subs : st'.subs = st.subs
  alive : st'.alive = st.alive
  count : st'.notifyCount = st.notifyCount
  supp : ∀ x ∈ st.suppressed, x ∈ st'.suppressed
  lenHeld : st'.held.length = st.held.length
  lenMs : st'.ms.length = st.ms.length
  tasks : ∃ extra, st'.tasks = st.tasks ++ extra ∧
    ∀ t ∈ extra, t.value = none ∧ t.countAtStart = st.notifyCount ∧
      ((∃ s rest, t.cont = .notify s rest []) ∨ (∃ s old rest, t.cont = .notify2 s old rest []))
  heldOK : ∀ s' hx, HeldOK st s' hx → HeldOK st' s' hx

structure Frame (s : Nat) (st st' : St) : Prop extends Frame0 st st' where
  other : ∀ s', s' ≠ s → ∀ hx, lookup hx (msOf st' s') = lookup hx (msOf st s') ∧
    heldOf st' s' hx = heldOf st s' hx
  flipStale : ∀ hx, FlipStale st s hx → FlipStale st' s hx ∨ HeldOK st' s hx

theorem Frame0.trans {a b c : St} (h1 : Frame0 a b) (h2 : Frame0 b c) : Frame0 a c := by
  obtain ⟨e1, he1, hp1⟩ := h1.tasks
  obtain ⟨e2, he2, hp2⟩ := h2.tasks
  refine ⟨h2.conf.trans h1.conf, h2.mem.trans h1.mem, h2.carrier.trans h1.carrier,
    h2.lost.trans h1.lost, h2.flipped.trans h1.flipped, h2.hreads.trans h1.hreads,
    h2.cache.trans h1.cache, h2.subs.trans h1.subs, h2.alive.trans h1.alive, h2.count.trans h1.count,
    fun x hx => h2.supp x (h1.supp x hx), h2.lenHeld.trans h1.lenHeld, h2.lenMs.trans h1.lenMs,
    ⟨e1 ++ e2, by rw [he2, he1, List.append_assoc], ?_⟩,
    fun s' hx h => h2.heldOK s' hx (h1.heldOK s' hx h)⟩
  intro t ht
  rcases List.mem_append.mp ht with ht | ht
  · exact hp1 t ht
  · have := hp2 t ht; rw [h1.count] at this; exact this

theorem Frame.trans {s : Nat} {a b c : St} (h1 : Frame s a b) (h2 : Frame s b c) : Frame s a c := by
  refine ⟨h1.toFrame0.trans h2.toFrame0, ?_, ?_⟩
  · intro s' hs' hx
    exact ⟨((h2.other s' hs' hx).1).trans (h1.other s' hs' hx).1, ((h2.other s' hs' hx).2).trans (h1.other s' hs' hx).2⟩
  · intro hx h
    rcases h1.flipStale hx h with h | h
    · exact h2.flipStale hx h
    · exact Or.inr (h2.heldOK s hx h)

theorem Frame0.confOf {st st' : St} (h : Frame0 st st') (hx : Nat) : confOf st' hx = confOf st hx := by
  simp only [System.confOf, h.conf]

theorem Frame0.memOf {st st' : St} (h : Frame0 st st') (hx : Nat) : memOf st' hx = memOf st hx := by
  simp only [System.memOf, h.mem]

theorem Frame0.subsOf {st st' : St} (h : Frame0 st st') (s' : Nat) : subsOf st' s' = subsOf st s' := by
  simp only [System.subsOf, h.subs]

theorem Frame0.aliveOf {st st' : St} (h : Frame0 st st') (s' : Nat) : aliveOf st' s' = aliveOf st s' := by
  simp only [System.aliveOf, h.alive]

theorem Frame0.owed {st st' : St} (h : Frame0 st st') {hx : Nat} (ho : Owed st hx) : Owed st' hx := by
  unfold Owed
  rw [h.carrier, h.lost, h.hreads]
  exact ho.imp id (Or.imp id (Or.imp (h.supp hx) id))

theorem Frame0.validC {st st' : St} (h : Frame0 st st') {hx c : Nat} (hv : validC st hx c) :
    validC st' hx c :=
  hv.imp (fun e => e.trans (h.confOf hx).symm) h.owed

theorem Frame0.valid0 {st st' : St} (h : Frame0 st st') {hx c : Nat} (hv : valid0 st hx c) :
    valid0 st' hx c :=
  hv.imp (fun e => e.trans (h.confOf hx).symm) (fun hc => h.carrier ▸ hc)

def Cont.NoChanged (k : Cont) : Prop :=
  (∀ s rest ch, k = .notify s rest ch → ch = []) ∧
    (∀ s old rest ch, k = .notify2 s old rest ch → ch = [])

def TaskOK (st : St) (t : Task) : Prop :=
  (∀ c, t.value = some c → t.countAtStart = st.notifyCount → valid0 st t.hx c) ∧
  t.countAtStart ≤ st.notifyCount ∧
  t.cont.NoChanged ∧
  ∀ s x, t.cont = .sub s x → t.hx = x

theorem Base.taskOK {st : St} (h : Base st) {t : Task} (ht : t ∈ st.tasks) : TaskOK st t :=
  ⟨h.reads t ht, h.counts t ht, h.nochg t ht, h.subhx t ht⟩

theorem TaskOK.fresh {st : St} {t : Task} (hv : t.value = none) (hcnt : t.countAtStart = st.notifyCount)
    (hnochg : t.cont.NoChanged)
    (hsubhx : ∀ s x, t.cont = .sub s x → t.hx = x) : TaskOK st t :=
  ⟨fun c hc _ => (by rw [hv] at hc; cases hc), Nat.le_of_eq hcnt, hnochg, hsubhx⟩

theorem Base.of_tasks {st : St} (h : Base st) {T : List Task} {C : List (Nat × Nat)}
    (hC : ∀ hx c, lookup hx C = some c → validC st hx c) (hT : ∀ t ∈ T, TaskOK st t) :
    Base { st with tasks := T, cache := C } :=
  ⟨h.lens, h.lenMs, hC, fun t ht => (hT t ht).1, fun t ht => (hT t ht).2.1,
    fun t ht => (hT t ht).2.2.1, fun t ht => (hT t ht).2.2.2⟩

theorem Frame0.base {st st' : St} (h : Frame0 st st') (hb : Base st) : Base st' := by
  obtain ⟨e, he, hp⟩ := h.tasks
  have hT : ∀ t ∈ st'.tasks, TaskOK st' t := by
    intro t ht
    rcases List.mem_append.mp (he ▸ ht) with ht | ht
    · obtain ⟨h1, h2, h3⟩ := hb.taskOK ht
      exact ⟨fun c hc hcnt => h.valid0 (h1 c hc (hcnt.trans h.count)), h.count ▸ h2, h3⟩
    · obtain ⟨hv, hcnt, hc⟩ := hp t ht
      refine TaskOK.fresh hv (hcnt.trans h.count.symm) ?_ ?_
      · rcases hc with ⟨s0, r, hc⟩ | ⟨s0, o, r, hc⟩ <;> rw [hc]
        · exact ⟨fun _ _ _ e => by cases e; rfl, nofun⟩
        · exact ⟨nofun, fun _ _ _ _ e => by cases e; rfl⟩
      · rcases hc with ⟨s0, r, hc⟩ | ⟨s0, o, r, hc⟩ <;> rw [hc] <;> exact nofun
  exact ⟨by rw [h.lenHeld, h.subs]; exact hb.lens, by rw [h.lenMs, h.subs]; exact hb.lenMs,
    fun hx v hl => h.validC (hb.cache hx v (h.cache ▸ hl)), fun t ht => (hT t ht).1,
    fun t ht => (hT t ht).2.1, fun t ht => (hT t ht).2.2.1, fun t ht => (hT t ht).2.2.2⟩

theorem Frame0.inv {st st' : St} (h : Frame0 st st') (hb : Base st)
    (hheld : ∀ s hx, System.aliveOf st s = true → hx ∈ System.subsOf st s → HeldOK st' s hx) : Inv st' :=
  ⟨h.base hb, fun s hx ha hs => hheld s hx (by rw [← h.aliveOf]; exact ha) (by rw [← h.subsOf]; exact hs)⟩

theorem Frame.memOf {s : Nat} {st st' : St} (h : Frame s st st') (hx : Nat) : memOf st' hx = memOf st hx := h.toFrame0.memOf hx
theorem Frame.owed {s : Nat} {st st' : St} (h : Frame s st st') {hx : Nat} (ho : Owed st hx) : Owed st' hx := h.toFrame0.owed ho
theorem Frame.valid0 {s : Nat} {st st' : St} (h : Frame s st st') {hx c : Nat} (hv : valid0 st hx c) : valid0 st' hx c := h.toFrame0.valid0 hv

theorem Frame.of_tasks (st : St) (s : Nat) (hh : List (Option (Nat × Nat))) (T extra : List Task)
    (hT : T = st.tasks ++ extra)
    (hextra : ∀ t ∈ extra, t.value = none ∧ t.countAtStart = st.notifyCount ∧
      ((∃ s rest, t.cont = .notify s rest []) ∨ (∃ s old rest, t.cont = .notify2 s old rest []))) :
    Frame s st { st with heldHdr := hh, tasks := T } :=
  ⟨⟨rfl, rfl, rfl, rfl, rfl, rfl, rfl, rfl, rfl, rfl, fun _ h => h, rfl, rfl, ⟨extra, hT, hextra⟩,
      fun _ _ h => h.mono (st := st) rfl rfl id Or.inl
        (TasksKept.of_mem fun _ ht => hT ▸ List.mem_append_left _ ht) rfl rfl⟩,
    fun _ _ _ => ⟨rfl, rfl⟩, fun _ h => Or.inl h⟩

theorem Frame.refl (s : Nat) (st : St) : Frame s st st :=
  Frame.of_tasks st s st.heldHdr st.tasks [] (List.append_nil _).symm fun _ h => absurd h List.not_mem_nil

theorem Frame0.refl (st : St) : Frame0 st st := (Frame.refl 0 st).toFrame0

theorem Frame.of_update (st : St) (s hx : Nat) (H M : List (List (Nat × Status))) (S : List Nat)
    (hH : H.length = st.held.length) (hM : M.length = st.ms.length)
    (hS : ∀ x ∈ st.suppressed, x ∈ S)
    (hpt : ∀ s' hx',
      (s' = s ∧ hx' = hx ∧ HeldOK { st with held := H, ms := M, suppressed := S } s hx) ∨
      (lookup hx' (H.getD s' []) = heldOf st s' hx' ∧
        lookup hx' (M.getD s' []) = lookup hx' (msOf st s'))) :
    Frame s st { st with held := H, ms := M, suppressed := S } := by
  have howed : ∀ x, Owed st x → Owed { st with held := H, ms := M, suppressed := S } x :=
    fun x ho => ho.imp id (Or.imp id (Or.imp (hS x) id))
  refine ⟨⟨rfl, rfl, rfl, rfl, rfl, rfl, rfl, rfl, rfl, rfl, hS, hH, hM,
    ⟨[], (List.append_nil _).symm, fun _ h => absurd h List.not_mem_nil⟩, ?_⟩, ?_, ?_⟩
  · intro s' hx' h
    rcases hpt s' hx' with ⟨rfl, rfl, hok⟩ | ⟨e1, e2⟩
    · exact hok
    · exact h.mono (st := st) rfl rfl (howed hx') Or.inl (TasksKept.of_mem fun _ ht => ht) e1 e2
  · intro s' hs' hx'
    rcases hpt s' hx' with ⟨e, _⟩ | ⟨e1, e2⟩
    · exact absurd e hs'
    · exact ⟨e2, e1⟩
  · intro hx' h
    rcases hpt s hx' with ⟨_, rfl, hok⟩ | ⟨e1, e2⟩
    · exact Or.inr hok
    · exact Or.inl (h.congr (st := st) rfl e1 e2)

theorem send_frame (st : St) (s hx c : Nat) (hv : validC st hx c) (hlen : st.held.length = st.ms.length) :
    Frame s st (send st s hx (c, memOf st hx)) := by
  refine Frame.of_update st s hx _ _ st.suppressed (length_modifyAt st.held s _)
    (length_ms_setMs st s hx _) (fun _ h => h) ?_
  intro s' hx'
  by_cases he : s' = s ∧ s < st.held.length ∧ hx' = hx
  · obtain ⟨rfl, hl, rfl⟩ := he
    exact Or.inl ⟨rfl, rfl, send_heldOK st s' hx' c hv hl hlen⟩
  · exact Or.inr ⟨(heldOf_send st s hx _ s' hx').trans (if_neg he),
      (msOf_send st s hx _ s' hx').trans (if_neg (by rw [← hlen]; exact he))⟩

theorem visit1_eq (f : Flags) (hb : f.batch = false) (st : St) (s hx c : Nat) (ch : List (Nat × Status)) :
    visit1 f st s hx c ch = (send st s hx (c, memOf st hx), ch) := by
  rw [visit1, hb]; rfl

theorem setMs_frame (st : St) (s hx : Nat) (v : Status) (sup' : List Nat)
    (hsup : ∀ x ∈ st.suppressed, x ∈ sup')
    (hok : s < st.ms.length → HeldOK { (setMs st s hx v) with suppressed := sup' } s hx) :
    Frame s st { (setMs st s hx v) with suppressed := sup' } := by
  refine Frame.of_update st s hx st.held _ sup' rfl (length_ms_setMs st s hx v) hsup ?_
  intro s' hx'
  by_cases he : s' = s ∧ s < st.ms.length ∧ hx' = hx
  · obtain ⟨rfl, hl, rfl⟩ := he
    exact Or.inl ⟨rfl, rfl, hok hl⟩
  · exact Or.inr ⟨rfl, (msOf_setMs st s hx v s' hx').trans (if_neg he)⟩

theorem visit2_spec (f : Flags) (hb : f.batch = false) (st : St) (s hx c : Nat) (old : Status)
    (ch : List (Nat × Status)) (hv : validC st hx c) (hlen : st.held.length = st.ms.length) :
    Frame s st (visit2 f st s hx c old ch).1 ∧
      (s < st.held.length → HeldOK (visit2 f st s hx c old ch).1 s hx) := by
  by_cases hd : differs f st s hx c old = true
  · rw [show visit2 f st s hx c old ch = visit1 f st s hx c ch from if_pos hd, visit1_eq f hb]
    exact ⟨send_frame st s hx c hv hlen,
      fun hl => send_heldOK st s hx c hv hl hlen⟩
  · -- nothing is sent: fine if the client already holds this status, else recorded in `suppressed`
    rw [show visit2 f st s hx c old ch = (_, ch) from if_neg hd]
    have hok : s < st.ms.length → HeldOK { (setMs st s hx (c, memOf st hx)) with
        suppressed := if heldOf st s hx != some (c, memOf st hx) then st.suppressed ++ [hx]
                      else st.suppressed } s hx := by
      intro hl
      split
      · exact Or.inr (Or.inl (Or.inr (Or.inr (Or.inl
          (List.mem_append_right _ (List.mem_singleton.mpr rfl))))))
      · next hne =>
        have hh : heldOf st s hx = some (c, memOf st hx) := by simpa using hne
        refine HeldOK.fresh hv hh fun hm => ?_
        exact (msOf_setMs st s hx _ s hx).trans ((if_pos ⟨rfl, hl, rfl⟩).trans (if_pos (bne_iff_ne.mpr hm)))
    refine ⟨setMs_frame st s hx _ _ ?_ hok, fun hl => hok (by rw [← hlen]; exact hl)⟩
    intro x hx'
    split
    · exact List.mem_append_left _ hx'
    · exact hx'

theorem suspend_frame (st : St) (s : Nat) (t : Task) (hv : t.value = none) (hcnt : t.countAtStart = st.notifyCount)
    (hc : (∃ rest, t.cont = .notify s rest []) ∨ (∃ old rest, t.cont = .notify2 s old rest [])) :
    Frame s st { st with tasks := st.tasks ++ [t] } := by
  refine Frame.of_tasks st s st.heldHdr _ [t] rfl fun t' ht' => ?_
  rw [List.mem_singleton] at ht'; subst ht'
  exact ⟨hv, hcnt, hc.imp (fun ⟨r, h⟩ => ⟨s, r, h⟩) (fun ⟨o, r, h⟩ => ⟨s, o, r, h⟩)⟩

theorem Base.lenHM {st : St} (h : Base st) : st.held.length = st.ms.length := h.lens.trans h.lenMs.symm

theorem Base.lt_held {st : St} (h : Base st) {s hx : Nat} (hs : hx ∈ subsOf st s) : s < st.held.length := by
  rw [h.lens]; exact lt_of_mem_subsOf hs

theorem visit2_snd (f : Flags) (hb : f.batch = false) (st : St) (s hx c : Nat) (old : Status)
    (ch : List (Nat × Status)) : (visit2 f st s hx c old ch).2 = ch := by
  unfold visit2
  split
  · rw [visit1_eq f hb]
  · rfl

/-- the second loop handles one valid status and goes on with anything that meets the loop's
    specification from there -/
theorem visit2_then (f : Flags) (hb : f.batch = false) (st : St) (s hx c : Nat) (old : Status)
    (hB : Base st) (hv : validC st hx c) {st' : St} {todo : List Nat}
    (k : Base (visit2 f st s hx c old []).1 → Frame s (visit2 f st s hx c old []).1 st' ∧
      ∀ hx' ∈ todo, hx' ∈ subsOf (visit2 f st s hx c old []).1 s → HeldOK st' s hx') :
    Frame s st st' ∧ ∀ hx' ∈ hx :: todo, hx' ∈ subsOf st s → HeldOK st' s hx' := by
  obtain ⟨F1, H1⟩ := visit2_spec f hb st s hx c old [] hv hB.lenHM
  obtain ⟨F2, H2⟩ := k (F1.base hB)
  refine ⟨F1.trans F2, fun hx' hm hs => ?_⟩
  rcases List.mem_cons.mp hm with rfl | hm
  · exact F2.heldOK _ _ (H1 (hB.lt_held hs))
  · exact H2 hx' hm (by rw [F1.subsOf]; exact hs)

/-- likewise the first loop, which also keeps its promise of a second loop to the stale flips -/
theorem send_then (st : St) (s hx c : Nat) (hB : Base st) (hv : validC st hx c) {st' : St}
    {todo : List Nat}
    (k : Base (send st s hx (c, memOf st hx)) → Frame s (send st s hx (c, memOf st hx)) st' ∧
      ∀ hx', hx' ∈ subsOf (send st s hx (c, memOf st hx)) s →
        (hx' ∈ todo ∨ FlipStale (send st s hx (c, memOf st hx)) s hx') → HeldOK st' s hx') :
    Frame s st st' ∧
      ∀ hx', hx' ∈ subsOf st s → (hx' ∈ hx :: todo ∨ FlipStale st s hx') → HeldOK st' s hx' := by
  have F1 := send_frame st s hx c hv hB.lenHM
  obtain ⟨F2, H2⟩ := k (F1.base hB)
  refine ⟨F1.trans F2, fun hx' hs h => ?_⟩
  have hs1 : hx' ∈ subsOf (send st s hx (c, memOf st hx)) s := by rw [F1.subsOf]; exact hs
  rcases h with h | h
  · rcases List.mem_cons.mp h with rfl | h
    · exact F2.heldOK _ _ (send_heldOK st s hx' c hv (hB.lt_held hs) hB.lenHM)
    · exact H2 hx' hs1 (Or.inl h)
  · rcases F1.flipStale hx' h with h | h
    · exact H2 hx' hs1 (Or.inr h)
    · exact F2.heldOK _ _ h

/-- each script hash of `todo` ends up sent, found unchanged (or `suppressed`), or pending in the loop that
    has suspended -/
theorem notifyGo2_spec (f : Flags) (hb : f.batch = false) (s : Nat) (todo : List (Nat × Status)) (st : St)
    (hB : Base st) :
    Frame s st (notifyGo2 f st s todo []) ∧
    ∀ hx ∈ todo.map Prod.fst, hx ∈ subsOf st s → HeldOK (notifyGo2 f st s todo []) s hx := by
  induction todo generalizing st with
  | nil => exact ⟨Frame.refl s st, fun hx h => absurd h List.not_mem_nil⟩
  | cons e rest ih =>
    obtain ⟨x, old⟩ := e
    rw [notifyGo2]
    by_cases hsub : x ∈ subsOf st s
    · simp only [List.contains_iff_mem.mpr hsub, Bool.not_true, Bool.false_eq_true, if_false]
      cases hlk : lookup x st.cache with
      | some c =>
        simp only [visit2_snd f hb]
        exact visit2_then f hb st s x c old hB (hB.cache x c hlk) (ih _)
      | none =>
        refine ⟨suspend_frame st s _ rfl rfl (Or.inr ⟨old, rest, rfl⟩), fun hx hm _ => ?_⟩
        exact Or.inl ⟨_, List.mem_append_right _ (List.mem_singleton.mpr rfl),
          Or.inr ⟨old, rest, [], rfl, (List.mem_cons.mp hm).imp Eq.symm id⟩⟩
    · simp only [contains_false_of_not_mem hsub, Bool.not_false, if_true]
      obtain ⟨F2, H2⟩ := ih st hB
      refine ⟨F2, fun hx hm hs => ?_⟩
      rcases List.mem_cons.mp hm with rfl | hm
      · exact absurd hs hsub
      · exact H2 hx hm hs

/-- the `FlipStale` disjunct is the share of the second loop, which goes over all of `mempool_statuses` once
    `todo` is exhausted -/
theorem notifyGo_spec (f : Flags) (hb : f.batch = false) (hr : f.recheck = true) (s : Nat) (todo : List Nat)
    (st : St) (hB : Base st) :
    Frame s st (notifyGo f st s todo []) ∧
    ∀ hx, hx ∈ subsOf st s → (hx ∈ todo ∨ FlipStale st s hx) → HeldOK (notifyGo f st s todo []) s hx := by
  induction todo generalizing st with
  | nil =>
    simp only [notifyGo, hr, if_true]
    obtain ⟨F, H⟩ := notifyGo2_spec f hb s (msOf st s) st hB
    refine ⟨F, fun hx hs h => ?_⟩
    rcases h with h | ⟨c, m, _, _, h3⟩
    · exact absurd h List.not_mem_nil
    · exact H hx (mem_keys_of_lookup h3) hs
  | cons x rest ih =>
    rw [notifyGo]
    by_cases hsub : x ∈ subsOf st s
    · simp only [List.contains_iff_mem.mpr hsub, Bool.not_true, Bool.false_eq_true, if_false]
      cases hlk : lookup x st.cache with
      | some c =>
        simp only [visit1_eq f hb]
        exact send_then st s x c hB (hB.cache x c hlk) (ih _)
      | none =>
        refine ⟨suspend_frame st s _ rfl rfl (Or.inl ⟨rest, rfl⟩), fun hx _ h => ?_⟩
        rcases h with h | h
        · exact Or.inl ⟨_, List.mem_append_right _ (List.mem_singleton.mpr rfl),
            Or.inl ⟨rest, [], rfl, (List.mem_cons.mp h).imp Eq.symm id⟩⟩
        · -- the suspended first loop is the promise of a second one
          exact FlipStale.heldOK_of_loop2 h ⟨_, List.mem_append_right _ (List.mem_singleton.mpr rfl), rest, [], rfl⟩
    · simp only [contains_false_of_not_mem hsub, Bool.not_false, if_true]
      obtain ⟨F2, H2⟩ := ih st hB
      refine ⟨F2, fun hx hs h => H2 hx hs (h.imp_left fun h => ?_)⟩
      rcases List.mem_cons.mp h with rfl | h
      · exact absurd hs hsub
      · exact h

theorem hdrNotify_frame (st : St) (s : Nat) (hc : Bool) : Frame s st (hdrNotify st s hc) := by
  unfold hdrNotify
  split
  · exact Frame.of_tasks st s _ st.tasks [] (List.append_nil _).symm fun _ h => absurd h List.not_mem_nil
  · exact Frame.refl s st

theorem sessionNotify_spec (f : Flags) (hb : f.batch = false) (hr : f.recheck = true) (s : Nat)
    (xs : List Nat) (hc : Bool) (st : St) (hB : Base st) :
    Frame s st (sessionNotify f st s xs hc) ∧
    (aliveOf st s = true → ∀ hx, hx ∈ subsOf st s → (hx ∈ xs ∨ (hc = true ∧ FlipStale st s hx)) →
      HeldOK (sessionNotify f st s xs hc) s hx) := by
  unfold sessionNotify
  cases ha : aliveOf st s with
  | false => exact ⟨Frame.refl s st, fun h => nomatch h⟩
  | true =>
    simp only [Bool.not_true, Bool.false_eq_true, if_false]
    have F0 := hdrNotify_frame st s hc
    split
    · obtain ⟨F, H⟩ := notifyGo_spec f hb hr s (touchedOf st s xs) (hdrNotify st s hc) (F0.base hB)
      refine ⟨F0.trans F, fun _ hx hs h => ?_⟩
      have hs0 : hx ∈ subsOf (hdrNotify st s hc) s := by rw [F0.subsOf]; exact hs
      rcases h with h | ⟨_, h⟩
      · exact H hx hs0 (Or.inl (mem_touchedOf.mpr ⟨h, hs⟩))
      · rcases F0.flipStale hx h with h | h
        · exact H hx hs0 (Or.inr h)
        · exact F.heldOK _ _ h
    · next hcond =>
      -- the code does nothing here; a touched subscription, or with `hc` a `FlipStale` one (it has a
      -- `mempool_statuses` entry), takes the other branch
      refine ⟨F0, fun _ hx hs h => absurd ?_ hcond⟩
      rcases h with h | ⟨hhc, c, m, _, _, h3⟩
      · rw [List.isEmpty_eq_false_iff_exists_mem.mpr ⟨_, mem_touchedOf.mpr ⟨h, hs⟩⟩]; rfl
      · rw [hhc, isEmpty_false_of_lookup h3]
        exact Bool.or_true _

theorem notifyAll_spec (f : Flags) (hb : f.batch = false) (hr : f.recheck = true) (xs : List Nat) (hc : Bool)
    (ss : List Nat) (st : St) (hB : Base st) :
    Frame0 st (ss.foldl (fun acc s => sessionNotify f acc s xs hc) st) ∧
    ∀ s ∈ ss, aliveOf st s = true → ∀ hx, hx ∈ subsOf st s →
      (hx ∈ xs ∨ (hc = true ∧ FlipStale st s hx)) →
      HeldOK (ss.foldl (fun acc s => sessionNotify f acc s xs hc) st) s hx := by
  induction ss generalizing st with
  | nil => exact ⟨Frame0.refl st, fun s h => absurd h List.not_mem_nil⟩
  | cons s0 ss ih =>
    rw [List.foldl_cons]
    obtain ⟨F1, H1⟩ := sessionNotify_spec f hb hr s0 xs hc st hB
    obtain ⟨F2, H2⟩ := ih (sessionNotify f st s0 xs hc) (F1.base hB)
    refine ⟨F1.toFrame0.trans F2, fun s hs' ha hx hsub h => ?_⟩
    by_cases hss : s = s0
    · subst hss
      exact F2.heldOK _ _ (H1 ha hx hsub h)
    · -- a later session: what it holds and records is as before session `s0`
      refine H2 s ((List.mem_cons.mp hs').resolve_left hss) (by rw [F1.aliveOf]; exact ha) hx
        (by rw [F1.subsOf]; exact hsub) (h.imp_right fun h => ⟨h.1, ?_⟩)
      exact h.2.congr (F1.confOf hx) (F1.other s hss hx).2 (F1.other s hss hx).1

/-- `_notify_sessions` from the cache invalidation on re-establishes the invariant.  It starts in the
    state an environment step leaves (the call counted, touched sets taken from `carrier`, a header read
    gone, `hsub_results` replaced) in which only the touched script hashes `xs` have lost their excuse
    and, if `hc`, the flips that a header read had taken over are no longer owed a re-check.
    `hC`: what is still carried in that state — everything if no call was counted (`n = st.notifyCount`:
    this keeps the excuse of a read that is still acceptable, clause `reads`), and in any case whatever is
    not in `xs`.  `hR`: a header read that has gone had its touched set in `xs`, and then `hc`. -/
theorem Inv.finishNotify (f : Flags) (hb : f.batch = false) (hr : f.recheck = true) {st : St} (h : Inv st)
    (xs : List Nat) (hc : Bool) {n : Nat} {C : List Nat} {R : List HRead} {hsub : Nat × Nat} {nh : Nat}
    (hn : st.notifyCount ≤ n) (hC : ∀ x ∈ st.carrier, (n = st.notifyCount ∨ x ∉ xs) → x ∈ C)
    (hR : ∀ r ∈ st.hreads, r ∈ R ∨ ((∀ x ∈ r.xs, x ∈ xs) ∧ hc = true)) :
    Inv (finishNotify f { st with notifyCount := n, carrier := C, hreads := R, hsub := hsub,
                                  notifiedHeight := nh } xs hc) := by
  have howed : ∀ hx, hx ∉ xs → Owed st hx →
      hx ∈ C ∨ hx ∈ st.lost ∨ hx ∈ st.suppressed ∨ ∃ r ∈ R, hx ∈ r.xs := by
    intro hx hm ho
    refine ho.imp (fun ho => hC hx ho (Or.inr hm)) (Or.imp id (Or.imp id ?_))
    rintro ⟨r, hr', ho⟩
    exact ⟨r, (hR r hr').resolve_right fun h' => hm (h'.1 hx ho), ho⟩
  unfold System.finishNotify
  have hbase : Base { st with notifyCount := n, carrier := C, hreads := R, hsub := hsub, notifiedHeight := nh,
                              cache := st.cache.filter (fun e => !xs.contains e.1) } := by
    refine ⟨h.lens, h.lenMs, fun hx v hlk => ?_, fun t ht c hv hcnt => ?_,
      fun t ht => Nat.le_trans (h.counts t ht) hn, h.nochg, h.subhx⟩
    · -- an entry that survives the invalidation is not touched
      rw [lookup_filter (fun k => !xs.contains k)] at hlk
      split at hlk
      · next hq =>
        have hm : hx ∉ xs := fun hm => by rw [List.contains_iff_mem.mpr hm] at hq; cases hq
        exact (h.cache hx v hlk).imp id (howed hx hm)
      · cases hlk
    · -- a read that is still acceptable was started after the last call: no call was counted
      have he : n = st.notifyCount := Nat.le_antisymm (Nat.le_trans (Nat.le_of_eq hcnt.symm) (h.counts t ht)) hn
      exact (h.reads t ht c hv (hcnt.trans he)).imp id fun hcar => hC _ hcar (Or.inl he)
  obtain ⟨F, H⟩ := notifyAll_spec f hb hr xs hc (List.range st.subs.length) _ hbase
  refine F.inv hbase fun s hx ha hs => ?_
  by_cases hm : hx ∈ xs
  · exact H s (List.mem_range.mpr (lt_of_mem_subsOf hs)) ha hx hs (Or.inl hm)
  · -- a flip that a vanished header read had taken over is re-checked by the session loop
    refine Or.elim ?_ (F.heldOK s hx) fun h' =>
      H s (List.mem_range.mpr (lt_of_mem_subsOf hs)) ha hx hs (Or.inr (Or.resolve_left h' id))
    refine (h.held s hx ha hs).imp (st := st) rfl rfl rfl rfl Or.inl (howed hx hm) ?_ Or.inl
    rintro (hf | ⟨r, hr', hf⟩)
    · exact Or.inl (Or.inl hf)
    · exact (hR r hr').elim (fun hin => Or.inl (Or.inr ⟨r, hin, hf⟩)) fun h' => Or.inr (Or.inr h'.2)

/-- events of the environment: sessions, tasks and the cache are left alone.  A script hash whose
    confirmed or mempool part changes is carried afterwards — or, a parent flip, had a mempool part, keeps its
    confirmed part and is in `flipped` afterwards; touched sets and flips only move between
    `carrier`, `flipped`, the header reads and `lost`: each responsibility of a header read stays with some
    read, or has gone to `lost`. -/
theorem Inv.env {st : St} (h : Inv st) {conf' mem' C Fl L : List Nat} {R : List HRead} {n nr : Nat} {td : Bool}
    (hn : st.notifyCount ≤ n)
    (hval : ∀ hx, hx ∈ C ∨ (conf'.getD hx 0 = confOf st hx ∧
      (mem'.getD hx 0 = memOf st hx ∨ (memOf st hx ≠ 0 ∧ hx ∈ Fl))))
    (hcar : ∀ x ∈ st.carrier, (n = st.notifyCount → x ∈ C) ∧ (x ∈ C ∨ ∃ r ∈ R, x ∈ r.xs))
    (hl : ∀ x ∈ st.lost, x ∈ L)
    (hf : ∀ x ∈ st.flipped, x ∈ Fl ∨ ∃ r ∈ R, x ∈ r.flips)
    (hr : ∀ r ∈ st.hreads, (∃ r' ∈ R, r'.xs = r.xs ∧ r'.flips = r.flips) ∨
      ∀ x, x ∈ r.xs ∨ x ∈ r.flips → x ∈ L) :
    Inv { st with conf := conf', mem := mem', carrier := C, flipped := Fl, lost := L, hreads := R,
                  notifyCount := n, notifiedReorgCount := nr, tipDone := td } := by
  have howed : ∀ hx, Owed st hx → hx ∈ C ∨ hx ∈ L ∨ hx ∈ st.suppressed ∨ ∃ r ∈ R, hx ∈ r.xs := by
    rintro hx (ho | ho | ho | ⟨r, hr', ho⟩)
    · exact (hcar hx ho).2.imp id fun h' => Or.inr (Or.inr h')
    · exact Or.inr (Or.inl (hl hx ho))
    · exact Or.inr (Or.inr (Or.inl ho))
    · rcases hr r hr' with ⟨r', hr'', e, _⟩ | hlost
      · exact Or.inr (Or.inr (Or.inr ⟨r', hr'', e ▸ ho⟩))
      · exact Or.inr (Or.inl (hlost hx (Or.inl ho)))
  refine ⟨⟨h.lens, h.lenMs, fun hx c hlk => ?_, fun t ht c hv hcnt => ?_,
    fun t ht => Nat.le_trans (h.counts t ht) hn, h.nochg, h.subhx⟩, fun s hx ha hs => ?_⟩
  · rcases hval hx with hc | ⟨e1, _⟩
    · exact Or.inr (Or.inl hc)
    · exact (h.cache hx c hlk).imp (fun e' => e'.trans e1.symm) (howed hx)
  · -- a read that is still acceptable was started after the last call: no call was counted
    have he : n = st.notifyCount := Nat.le_antisymm (Nat.le_trans (Nat.le_of_eq hcnt.symm) (h.counts t ht)) hn
    rcases hval t.hx with hc | ⟨e1, _⟩
    · exact Or.inr hc
    · exact (h.reads t ht c hv (hcnt.trans he)).imp (fun e' => e'.trans e1.symm) fun hc => (hcar _ hc).1 he
  · rcases hval hx with hc | ⟨e1, e2 | ⟨hm0, hfl⟩⟩
    · exact Or.inr (Or.inl (Or.inl hc))
    · refine (h.held s hx ha hs).mono e1 e2 (howed hx) ?_ (TasksKept.of_mem fun _ ht => ht) rfl rfl
      rintro (ho | ⟨r, hr', ho⟩)
      · exact Or.inl (hf hx ho)
      · rcases hr r hr' with ⟨r', hr'', _, e⟩ | hlost
        · exact Or.inl (Or.inr ⟨r', hr'', e ▸ ho⟩)
        · exact Or.inr (Or.inr (Or.inl (hlost hx (Or.inr ho))))
    · -- a parent flip: the mempool part was not 0, so the held status is recorded in `mempool_statuses`,
      -- and the re-check is now owed
      rcases h.held s hx ha hs with hok | hok | ⟨c, m, h1, h2, ⟨_, h3⟩ | ⟨h3, _⟩⟩
      · exact Or.inl hok
      · exact Or.inr (Or.inl (howed hx hok))
      · exact absurd h3 hm0
      · exact Or.inr (Or.inr ⟨c, m, h1, h2.trans e1.symm, Or.inr ⟨h3, Or.inr (Or.inl (Or.inl hfl))⟩⟩)

/-- a carried change of `x` (block / back-out / mempool refresh touching it) -/
theorem inv_carried {st : St} (x : Nat) (conf' mem' : List Nat) (h : Inv st)
    (hconf : ∀ hx, hx ≠ x → conf'.getD hx 0 = confOf st hx)
    (hmem : ∀ hx, hx ≠ x → mem'.getD hx 0 = memOf st hx) :
    Inv { st with conf := conf', mem := mem',
                  carrier := if st.carrier.contains x then st.carrier else st.carrier ++ [x] } :=
  h.env (Nat.le_refl _)
    (fun hx => (Decidable.em (hx = x)).imp (fun e => mem_setAdd.mpr (Or.inr e))
      fun he => ⟨hconf hx he, Or.inl (hmem hx he)⟩)
    (fun _ hy => ⟨fun _ => mem_setAdd.mpr (Or.inl hy), Or.inl (mem_setAdd.mpr (Or.inl hy))⟩)
    (fun _ hx => hx) (fun _ hx => Or.inl hx) fun r hr => Or.inl ⟨r, hr, rfl, rfl⟩

/-- removing the task `t` (its read is accepted): what relied on it is now up to its continuation -/
theorem HeldOK.erase_task {st : St} {j : Nat} {t : Task} (cache' : List (Nat × Nat))
    (hj : st.tasks[j]? = some t) {s hx : Nat} (h : HeldOK st s hx) :
    HeldOK { st with tasks := st.tasks.eraseIdx j, cache := cache' } s hx ∨
      Excuse { st with tasks := st.tasks.eraseIdx j, cache := cache' } t.hx t.cont s hx := by
  refine Or.imp_right (fun h' => Or.elim h' id ?_)
    (h.imp (st := st) (A := Excuse _ t.hx t.cont s hx) (B := ∃ rest ch, t.cont = .notify s rest ch)
      rfl rfl rfl rfl ?_ id (fun hf => Or.inl hf) ?_)
  · rintro ⟨⟨rest, ch, e⟩, hf⟩
    rw [e]
    exact ⟨rfl, Or.inr hf⟩
  · rintro ⟨t', ht', hc⟩
    rcases mem_eraseIdx_or hj ht' with rfl | hin
    · refine Or.inr ?_
      rcases hc with ⟨rest, ch, e, hm⟩ | ⟨old, rest, ch, e, hm⟩ <;> rw [e]
      · exact ⟨rfl, Or.inl (List.mem_cons.mpr (hm.imp Eq.symm id))⟩
      · exact ⟨rfl, List.mem_cons.mpr (hm.imp Eq.symm id)⟩
    · exact Or.inl ⟨t', hin, hc⟩
  · rintro ⟨t', ht', hc⟩
    rcases mem_eraseIdx_or hj ht' with rfl | hin
    · exact Or.inr hc
    · exact Or.inl ⟨t', hin, hc⟩

theorem Inv.subscribe {st : St} (hB : Base st) (s x : Nat)
    (hheld : ∀ s' hx', aliveOf st s' = true →
      (hx' ∈ subsOf st s' ∨ (s' = s ∧ s < st.subs.length ∧ hx' = x)) → HeldOK st s' hx') :
    Inv { st with subs := modifyAt st.subs s (insertSorted x) } :=
  ⟨⟨hB.lens.trans (length_modifyAt st.subs s _).symm,
    hB.lenMs.trans (length_modifyAt st.subs s _).symm, hB.cache, hB.reads, hB.counts, hB.nochg, hB.subhx⟩,
    fun s' hx' ha hs => hheld s' hx' ha (mem_subsOf_modifyAt hs)⟩

/-- continuing a coroutine with a valid history re-establishes the invariant; `st` may lack the
    `held` clause exactly for what the continuation is about to deliver / recompute -/
theorem inv_resume (f : Flags) (hb : f.batch = false) (hr : f.recheck = true) (st : St) (hx c : Nat)
    (k : Cont) (hbase : Base st) (hv : validC st hx c)
    (hsub : ∀ s x, k = .sub s x → hx = x)
    (hch : k.NoChanged)
    (hheld : ∀ s' hx', aliveOf st s' = true → hx' ∈ subsOf st s' →
      HeldOK st s' hx' ∨ Excuse st hx k s' hx') :
    Inv (resume f st hx c k) := by
  cases k with
  | query => exact ⟨hbase, fun s' hx' ha hs => (hheld s' hx' ha hs).resolve_right id⟩
  | sub s x =>
    obtain rfl := hsub s x rfl
    have F1 := send_frame st s hx c hv hbase.lenHM
    refine Inv.subscribe (F1.base hbase) s hx fun s' hx' ha hs => ?_
    rw [F1.aliveOf] at ha
    rcases hs with hs | ⟨rfl, hl, rfl⟩
    · rw [F1.subsOf] at hs
      exact F1.heldOK _ _ ((hheld s' hx' ha hs).resolve_right id)
    · rw [F1.subs] at hl
      exact send_heldOK st s' hx' c hv (by rw [hbase.lens]; exact hl) hbase.lenHM
  | notify s rest ch =>
    obtain rfl := hch.1 s rest ch rfl
    simp only [resume, visit1_eq f hb]
    obtain ⟨F, H⟩ := send_then st s hx c hbase hv (notifyGo_spec f hb hr s rest _)
    refine F.inv hbase fun s' hx' ha hs => ?_
    rcases hheld s' hx' ha hs with h | ⟨rfl, h⟩
    · exact F.heldOK _ _ h
    · exact H hx' hs h
  | notify2 s old rest ch =>
    obtain rfl := hch.2 s old rest ch rfl
    simp only [resume, visit2_snd f hb]
    obtain ⟨F, H⟩ := visit2_then f hb st s hx c old hbase hv (notifyGo2_spec f hb s rest _)
    refine F.inv hbase fun s' hx' ha hs => ?_
    rcases hheld s' hx' ha hs with h | ⟨rfl, h⟩
    · exact F.heldOK _ _ h
    · exact H hx' h hs

theorem Inv.of_tasks {st : St} (h : Inv st) {T : List Task} (hT : ∀ t ∈ T, TaskOK st t)
    (hk : TasksKept st { st with tasks := T }) : Inv { st with tasks := T } :=
  ⟨h.toBase.of_tasks h.cache hT,
    fun s hx ha hs => (h.held s hx ha hs).mono (st := st) rfl rfl id Or.inl hk rfl rfl⟩

theorem Step.inv {f : Flags} (hb : f.batch = false) (hcc : f.checkCount = true) (hr : f.recheck = true)
    {st st' : St} {ev : Ev} (hs : Step f st ev st') (h : Inv st) : Inv st' := by
  cases hs with
  | idle => exact h
  | change x => exact inv_carried x _ st.mem h (fun _ he => getD_modifyAt_ne _ _ _ _ _ he) (fun _ _ => rfl)
  | mpChange x m => exact inv_carried x st.conf _ h (fun _ _ => rfl) (fun _ he => getD_modifyAt_ne _ _ _ _ _ he)
  -- only chain, tip and header-subscription fields change, none of which `Inv` reads
  | advance | backup | reorgSignal | subscribeHeaders => exact { h with }
  | flip x m hm0 =>
    refine h.env (Nat.le_refl _) (fun hx => Or.inr ⟨rfl, ?_⟩) (fun _ hx => ⟨fun _ => hx, Or.inl hx⟩) (fun _ hx => hx)
      (fun _ hx => Or.inl (mem_setAdd.mpr (Or.inl hx))) fun r hr' => Or.inl ⟨r, hr', rfl, rfl⟩
    by_cases he : hx = x
    · exact Or.inr ⟨he ▸ hm0, mem_setAdd.mpr (Or.inr he)⟩
    · exact Or.inl (getD_modifyAt_ne _ _ _ _ _ he)
  | suspended ht xs =>
    -- the new header-read record takes over `xs` and the flips
    have hnew : ({ h := min ht (dbHeight st), xs := xs, flips := st.flipped } : HRead) ∈
        st.hreads ++ [{ h := min ht (dbHeight st), xs := xs, flips := st.flipped }] :=
      List.mem_append_right _ (List.mem_singleton.mpr rfl)
    refine h.env (Nat.le_succ _) (fun _ => Or.inr ⟨rfl, Or.inl rfl⟩)
      (fun x hx => ⟨fun he => absurd he (Nat.succ_ne_self _), ?_⟩) (fun _ hx => hx)
      (fun x hx => Or.inr ⟨_, hnew, hx⟩) (fun r hr' => Or.inl ⟨r, List.mem_append_left _ hr', rfl, rfl⟩)
    by_cases hm : x ∈ xs
    · exact Or.inr ⟨_, hnew, hm⟩
    · exact Or.inl (mem_filter_not_contains hx hm)
  | direct ht xs =>
    exact h.finishNotify f hb hr xs false (Nat.le_succ _)
      (fun x hx hm => mem_filter_not_contains hx (hm.resolve_left (Nat.succ_ne_self _)))
      fun r hr' => Or.inl hr'
  | subHit s x hl =>
    exact inv_resume f hb hr st x _ (.sub s x) h.toBase (h.cache x _ hl) (fun _ _ hc => by cases hc; rfl)
      ⟨nofun, nofun⟩ fun s' hx' ha hs => Or.inl (h.held s' hx' ha hs)
  | subMiss s x | getMiss s x =>
    exact h.of_tasks (fun t' ht' => (List.mem_append.mp ht').elim h.taskOK fun e =>
      List.mem_singleton.mp e ▸ TaskOK.fresh rfl rfl ⟨nofun, nofun⟩ fun _ _ hc => by cases hc <;> rfl)
      (TasksKept.of_mem fun _ ht => List.mem_append_left _ ht)
  | unsubscribe s x =>
    refine ⟨⟨h.lens.trans (length_modifyAt st.subs s _).symm,
      (length_modifyAt st.ms s _).trans (h.lenMs.trans (length_modifyAt st.subs s _).symm),
      h.cache, h.reads, h.counts, h.nochg, h.subhx⟩, fun s' hx ha hs => ?_⟩
    -- still subscribed, so not the pair whose `mempool_statuses` entry was erased
    have hs2 : hx ∈ subsOf st s' ∧ (s' = s → hx ≠ x) := by
      simp only [subsOf, getD_modifyAt] at hs
      split at hs
      · next hc =>
        rw [List.mem_filter] at hs
        exact ⟨hs.1, fun _ he => by subst he; simp at hs⟩
      · next hc =>
        exact ⟨hs, fun he _ => hc ⟨he, he ▸ lt_of_mem_subsOf hs⟩⟩
    refine (h.held s' hx ha hs2.1).mono (st := st) rfl rfl id Or.inl (TasksKept.of_mem fun _ ht => ht) rfl ?_
    simp only [msOf, getD_modifyAt]
    split
    · next hc => rw [lookup_dictErase, if_neg (hs2.2 hc.1)]
    · rfl
  | closeSession s =>
    refine ⟨⟨h.lens, h.lenMs, h.cache, h.reads, h.counts, h.nochg, h.subhx⟩,
      fun s' hx ha hs => h.held s' hx ?_ hs⟩
    simp only [aliveOf, getD_modifyAt] at ha
    split at ha
    · cases ha
    · exact ha
  | evict x =>
    refine ⟨⟨h.lens, h.lenMs, fun hx v hlk => h.cache hx v ?_, h.reads, h.counts, h.nochg, h.subhx⟩, h.held⟩
    rw [lookup_filter (fun k => k != x)] at hlk
    split at hlk
    · exact hlk
    · cases hlk
  | readDo i j =>
    refine h.of_tasks (fun t' ht' => ?_) fun t ht => ?_
    · rcases mem_modifyAt ht' with hm | ⟨b, hb, rfl⟩
      · exact h.taskOK hm
      · exact ⟨fun c hc _ => Or.inl (Option.some.inj hc).symm, (h.taskOK hb).2⟩
    · rcases mem_modifyAt_of_mem j (fun t => { t with value := some (confOf st t.hx) }) ht with h' | h'
      · exact ⟨_, h', rfl, rfl⟩
      · exact ⟨_, h', rfl, rfl⟩
  | @again i j t hj =>
    have htm : t ∈ st.tasks := List.mem_iff_getElem?.mpr ⟨j, hj⟩
    refine h.of_tasks (fun t' ht' => (List.mem_append.mp ht').elim
      (fun ht' => h.taskOK (List.mem_of_mem_eraseIdx ht')) fun e =>
      List.mem_singleton.mp e ▸ TaskOK.fresh rfl rfl (h.nochg t htm) (h.subhx t htm)) fun t' ht' => ?_
    rcases mem_eraseIdx_or hj ht' with rfl | hin
    · exact ⟨_, List.mem_append_right _ (List.mem_singleton.mpr rfl), rfl, rfl⟩
    · exact ⟨t', List.mem_append_left _ hin, rfl, rfl⟩
  | @accept i j t v hj hval hcnt =>
    have htm : t ∈ st.tasks := List.mem_iff_getElem?.mpr ⟨j, hj⟩
    have hv : valid0 st t.hx v := h.reads t htm v hval (hcnt hcc)
    refine inv_resume f hb hr _ t.hx v t.cont
      (h.toBase.of_tasks (fun hx' v' hl => ?_) fun t' ht' => h.taskOK (List.mem_of_mem_eraseIdx ht'))
      hv.validC (h.subhx t htm) (h.nochg t htm)
      (fun s' hx' ha hs => (h.held s' hx' ha hs).erase_task (put t.hx v st.cache) hj)
    rw [lookup_put] at hl
    split at hl
    · next he => cases hl; rw [he]; exact hv.validC
    · exact h.cache hx' v' hl
  | hdrDo i j =>
    refine h.env (Nat.le_refl _) (fun _ => Or.inr ⟨rfl, Or.inl rfl⟩)
      (fun _ hx => ⟨fun _ => hx, Or.inl hx⟩) (fun _ hx => hx) (fun _ hx => Or.inl hx) fun r hr' => Or.inl ?_
    rcases mem_modifyAt_of_mem j (fun r => { r with value := some st.chain[r.h]? }) hr' with h' | h'
    · exact ⟨_, h', rfl, rfl⟩
    · exact ⟨_, h', rfl, rfl⟩
  | @arrived i j r d hj _ =>
    exact h.finishNotify f hb hr r.xs true (Nat.le_refl _) (fun _ hx _ => hx)
      fun r' hr' => (mem_eraseIdx_or hj hr').symm.imp_right fun (e : r' = r) => ⟨fun _ hx => e ▸ hx, rfl⟩
  | @raised i j r hj _ _ =>
    refine h.env (Nat.le_refl _) (fun _ => Or.inr ⟨rfl, Or.inl rfl⟩)
      (fun _ hx => ⟨fun _ => hx, Or.inl hx⟩)
      (fun _ hx => List.mem_append_left _ (List.mem_append_left _ hx)) (fun _ hx => Or.inl hx) fun r' hr' => ?_
    rcases mem_eraseIdx_or hj hr' with rfl | hin
    · exact Or.inr fun x hx => hx.elim (fun hx => List.mem_append_left _ (List.mem_append_right _ hx))
        (fun hx => List.mem_append_right _ hx)
    · exact Or.inl ⟨r', hin, rfl, rfl⟩
  | @retry i j r hj _ =>
    refine h.env (Nat.le_refl _) (fun _ => Or.inr ⟨rfl, Or.inl rfl⟩)
      (fun _ hx => ⟨fun _ => hx, Or.inl hx⟩) (fun _ hx => hx) (fun _ hx => Or.inl hx) fun r' hr' => Or.inl ?_
    rcases mem_eraseIdx_or hj hr' with rfl | hin
    · exact ⟨_, List.mem_append_right _ (List.mem_singleton.mpr rfl), rfl, rfl⟩
    · exact ⟨r', List.mem_append_left _ hin, rfl, rfl⟩

theorem inv_step_flags (f : Flags) (hb : f.batch = false) (hcc : f.checkCount = true) (hr : f.recheck = true)
    (st : St) (ev : Ev) (h : Inv st) : Inv (step f st ev) :=
  (Step.of_step f st ev).inv hb hcc hr h

theorem inv_step (st : St) (ev : Ev) (h : Inv st) : Inv (step {} st ev) :=
  inv_step_flags {} rfl rfl rfl st ev h

theorem inv_run_flags (f : Flags) (hb : f.batch = false) (hcc : f.checkCount = true) (hr : f.recheck = true)
    (st : St) (evs : List Ev) (h : Inv st) : Inv (run f st evs) :=
  foldl_inv (inv_step_flags f hb hcc hr) evs h

theorem inv_reachable (n m : Nat) (evs : List Ev) : Inv (run {} (init n m) evs) :=
  inv_run_flags {} rfl rfl rfl _ evs (inv_init n m)

/-- **Model quiescence.**  The environment owes nothing and nothing is in flight:
  * `carrier = []`    every touched set handed over by the block processor / the mempool refresh
                      has been passed to `_notify_sessions` (C20_complete + C07carrier_consecutive +
                      C08_touched_handed_over: once the index is at the daemon's height and the
                      mempool has been refreshed at that height, Notifications holds nothing back);
  * `flipped = []`    every parent flip has been followed by a `_notify_sessions` call with
                      `height_changed = true` (the chain change that caused it has been notified);
  * `hreads = []`, `tasks = []`     no `_notify_sessions` call is suspended in the header read, no
                      history read and no `_notify_inner` is in flight ("notifications delivered");
  * `tipDone = true`  since the last change of the DB's chain a `_notify_sessions` call with
                      `height_changed = true` and a height ≥ the DB's was started, at a moment when
                      no header read aiming elsewhere was in flight (C20_complete: the call for the
                      height both sources last reported; `height_changed` by `notified_height` /
                      the reorg counter, F4).
The ghost sets `lost` (a notification lost because `_refresh_hsub_results` raised) and `suppressed`
(a needed send hidden by the stale-copy comparison) are empty in every reachable state of the
current code (`C07_fixed`); they are hypotheses of `quiescent_current` only so that it also covers
the pinned variants. -/
structure Quiet (st : St) : Prop where
  carrier : st.carrier = []
  flipped : st.flipped = []
  hreads : st.hreads = []
  tasks : st.tasks = []
  tipDone : st.tipDone = true

/-- at rest every connected subscriber holds the current status and every cached history is current -/
theorem quiescent_current (st : St) (h : Inv st) (hq : Quiet st) (hlost : st.lost = [])
    (hsupp : st.suppressed = []) :
    (∀ s hx, aliveOf st s = true → hx ∈ subsOf st s → heldOf st s hx = some (curOf st hx)) ∧
    (∀ hx v, lookup hx st.cache = some v → v = confOf st hx) := by
  have hO : ∀ hx, ¬ Owed st hx := fun hx => by
    simp [Owed, hq.carrier, hlost, hsupp, hq.hreads]
  have hOF : ∀ hx, ¬ OwedF st hx := fun hx => by
    simp [OwedF, hq.flipped, hq.hreads]
  constructor
  · intro s hx ha hs
    rcases h.held s hx ha hs with ⟨t, htm, _⟩ | ho | ⟨c, m, h1, h2, h3⟩
    · rw [hq.tasks] at htm; cases htm
    · exact absurd ho (hO hx)
    · rw [h1, curOf, h2]
      rcases h3 with ⟨h3, h4⟩ | ⟨_, h4 | h4 | ⟨t, htm, _⟩⟩
      · rw [h3, h4]
      · rw [h4]
      · exact absurd h4 (hOF hx)
      · rw [hq.tasks] at htm; cases htm
  · intro hx v hl
    exact (h.cache hx v hl).resolve_right (hO hx)

end EV.System
