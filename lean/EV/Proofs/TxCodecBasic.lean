import EV.Model.TxCodec

/-! Basic facts about the transaction codec model: a byte string standing in a buffer (`At`), slices,
little-endian fields, two's complement, the shapes of a varint, well-formedness, and the reverse loop
taken one chunk at a time. -/
namespace EV.TxCodec

/-- core has no `DecidableEq (Except ε α)` (needed by `decide` in the examples / counterexamples) -/
instance decEqExcept {ε α : Type} [DecidableEq ε] [DecidableEq α] : DecidableEq (Except ε α)
  | .ok x, .ok y => if h : x = y then isTrue (h ▸ rfl) else isFalse (fun h' => h (Except.ok.inj h'))
  | .error x, .error y =>
    if h : x = y then isTrue (h ▸ rfl) else isFalse (fun h' => h (Except.error.inj h'))
  | .ok _, .error _ => isFalse (fun h => nomatch h)
  | .error _, .ok _ => isFalse (fun h => nomatch h)

abbrev Reader (α : Type) := Bytes → Nat → Except PyExc (α × Nat)

def At (buf : Bytes) (c : Nat) (s : Bytes) : Prop :=
  ∃ pre post, buf = pre ++ (s ++ post) ∧ pre.length = c

theorem At.intro (pre s post : Bytes) : At (pre ++ (s ++ post)) pre.length s := ⟨pre, post, rfl, rfl⟩

theorem At.left {buf : Bytes} {c : Nat} {a b : Bytes} (h : At buf c (a ++ b)) : At buf c a := by
  obtain ⟨pre, post, rfl, rfl⟩ := h
  exact ⟨pre, b ++ post, by simp, rfl⟩

theorem At.right {buf : Bytes} {c : Nat} {a b : Bytes} (h : At buf c (a ++ b)) :
    At buf (c + a.length) b := by
  obtain ⟨pre, post, rfl, rfl⟩ := h
  exact ⟨pre ++ a, post, by simp, by simp⟩

theorem At.length_le {buf : Bytes} {c : Nat} {s : Bytes} (h : At buf c s) :
    c + s.length ≤ buf.length := by
  obtain ⟨pre, post, rfl, rfl⟩ := h
  simp only [List.length_append]; omega

theorem At.slice {buf : Bytes} {c : Nat} {s : Bytes} (h : At buf c s) :
    slice buf c (c + s.length) = s := by
  obtain ⟨pre, post, rfl, rfl⟩ := h
  simp [TxCodec.slice]

theorem At.head {buf : Bytes} {c x : Nat} {s : Bytes} (h : At buf c (x :: s)) : buf[c]? = some x := by
  obtain ⟨pre, post, rfl, rfl⟩ := h
  simp

theorem At.tail {buf : Bytes} {c x : Nat} {s : Bytes} (h : At buf c (x :: s)) : At buf (c + 1) s := by
  have : At buf c ([x] ++ s) := h
  exact this.right

theorem At.append {buf : Bytes} {c : Nat} {a b : Bytes} (h1 : At buf c a) (h2 : At buf (c + a.length) b) :
    At buf c (a ++ b) := by
  obtain ⟨pre, post, rfl, rfl⟩ := h1
  obtain ⟨pre', post', h, hl⟩ := h2
  rw [← List.append_assoc, ← List.length_append] at *
  obtain ⟨rfl, rfl⟩ := List.append_inj h hl.symm
  exact ⟨pre, post', by simp, rfl⟩

theorem At.of_slice {buf : Bytes} {c e : Nat} (h1 : c ≤ e) (h2 : e ≤ buf.length) :
    At buf c (TxCodec.slice buf c e) := by
  refine ⟨buf.take c, buf.drop e, ?_, by rw [List.length_take]; omega⟩
  rw [TxCodec.slice, ← Nat.add_sub_of_le h1, Nat.add_sub_cancel_left, ← List.drop_drop, List.take_append_drop,
    List.take_append_drop]

theorem At.nil {buf : Bytes} {c : Nat} (h : c ≤ buf.length) : At buf c [] :=
  ⟨buf.take c, buf.drop c, (List.take_append_drop c buf).symm, by rw [List.length_take]; omega⟩

theorem At.single {buf : Bytes} {c m : Nat} (h : buf[c]? = some m) : At buf c [m] := by
  obtain ⟨hc, rfl⟩ := List.getElem?_eq_some_iff.mp h
  exact ⟨buf.take c, buf.drop (c + 1),
    by rw [List.singleton_append, ← List.drop_eq_getElem_cons hc, List.take_append_drop],
    by rw [List.length_take]; omega⟩

theorem slice_length_le (buf : Bytes) (a b : Nat) : (slice buf a b).length ≤ b - a := by
  rw [slice, List.length_take]; exact Nat.min_le_left _ _

theorem slice_length (buf : Bytes) (a b : Nat) (h : b ≤ buf.length) : (slice buf a b).length = b - a := by
  rw [slice, List.length_take, List.length_drop]; exact Nat.min_eq_left (Nat.sub_le_sub_right h a)

@[simp] theorem leBytes_length (w n : Nat) : (leBytes w n).length = w := by
  induction w generalizing n with
  | zero => rfl
  | succ w ih => simp [leBytes, ih]

theorem leNat_leBytes (w n : Nat) (h : n < 256 ^ w) : leNat (leBytes w n) = n := by
  induction w generalizing n with
  | zero => simp at h; subst h; rfl
  | succ w ih =>
    have h1 : n / 256 < 256 ^ w := by
      rw [Nat.pow_succ] at h
      exact Nat.div_lt_of_lt_mul (by rw [Nat.mul_comm]; exact h)
    simp only [leBytes, leNat, ih _ h1]
    omega

theorem leBytes_leNat (bs : Bytes) (h : BytesOK bs) : leBytes bs.length (leNat bs) = bs := by
  induction bs with
  | nil => rfl
  | cons b bs ih =>
    have hb : b < 256 := h b (by simp)
    have hbs : BytesOK bs := fun x hx => h x (by simp [hx])
    simp only [List.length_cons, leBytes, leNat]
    rw [Nat.add_mul_mod_self_left, Nat.mod_eq_of_lt hb, Nat.add_mul_div_left _ _ (by decide : 0 < 256),
      Nat.div_eq_of_lt hb, Nat.zero_add, ih hbs]

theorem leNat_lt (bs : Bytes) (h : BytesOK bs) : leNat bs < 256 ^ bs.length := by
  induction bs with
  | nil => simp [leNat]
  | cons b bs ih =>
    have hb : b < 256 := h b (by simp)
    have hbs : BytesOK bs := fun x hx => h x (by simp [hx])
    have := ih hbs
    simp only [List.length_cons, leNat, Nat.pow_succ]
    omega

/-- a `w`-byte little-endian field decoded by `f`; `readLeU w`, `readLeI32`, `readLeI64` unfold to
    `readFixed w id`, `readFixed 4 natToI32`, `readFixed 8 natToI64` -/
def readFixed {α : Type} (w : Nat) (f : Nat → α) : Reader α := fun buf c =>
  if c + w ≤ buf.length then .ok (f (leNat (slice buf c (c + w))), c + w) else .error (unpackErr c)

theorem readFixed_at {α : Type} {w : Nat} (f : Nat → α) {buf : Bytes} {c n : Nat}
    (h : At buf c (leBytes w n)) (hn : n < 256 ^ w) : readFixed w f buf c = .ok (f n, c + w) := by
  have hl := h.length_le
  have hs := h.slice
  rw [leBytes_length] at hl hs
  rw [readFixed, if_pos hl, hs, leNat_leBytes w n hn]

/-- two's complement on `2 * M` values: the signed reading of `n` and the encoding of `v`
    (`natToI32`, `i32ToNat` are `ofTwos`, `toTwos` at `M = 2^31` by definition, the 64-bit pair at `2^63`) -/
def ofTwos (M n : Nat) : Int := if n < M then (n : Int) else (n : Int) - (2 * M : Nat)
def toTwos (M : Nat) (v : Int) : Nat := (v % (2 * M : Nat)).toNat

theorem ofTwos_toTwos {M : Nat} {v : Int} (h1 : -(M : Int) ≤ v) (h2 : v < M) :
    ofTwos M (toTwos M v) = v := by
  unfold ofTwos toTwos
  by_cases hv : 0 ≤ v
  · rw [Int.emod_eq_of_lt hv (by omega), Int.toNat_of_nonneg hv, if_pos ((Int.toNat_lt hv).mpr h2)]
  · have hw : 0 ≤ v + (2 * M : Nat) := by omega
    rw [← Int.add_emod_right, Int.emod_eq_of_lt hw (by omega), Int.toNat_of_nonneg hw,
      if_neg (fun h => by have := (Int.toNat_lt hw).mp h; omega)]
    omega

theorem toTwos_ofTwos {M m : Nat} (h : m < 2 * M) :
    toTwos M (ofTwos M m) = m ∧ -(M : Int) ≤ ofTwos M m ∧ ofTwos M m < M := by
  have hm : ((m : Int) % (2 * M : Nat)).toNat = m := by
    rw [Int.emod_eq_of_lt (Int.natCast_nonneg m) (by omega), Int.toNat_natCast]
  unfold ofTwos toTwos
  by_cases h1 : m < M
  · rw [if_pos h1]; exact ⟨hm, by omega, by omega⟩
  · rw [if_neg h1, Int.sub_emod_right]; exact ⟨hm, by omega, by omega⟩

theorem natToI32_i32ToNat (v : Int) (h1 : -2147483648 ≤ v) (h2 : v < 2147483648) :
    natToI32 (i32ToNat v) = v := ofTwos_toTwos (M := 2147483648) h1 h2

theorem i32ToNat_lt (v : Int) : i32ToNat v < 256 ^ 4 := by
  unfold i32ToNat; omega

theorem natToI64_i64ToNat (v : Int) (h1 : -9223372036854775808 ≤ v) (h2 : v < 9223372036854775808) :
    natToI64 (i64ToNat v) = v := ofTwos_toTwos (M := 9223372036854775808) h1 h2

theorem i64ToNat_lt (v : Int) : i64ToNat v < 256 ^ 8 := by
  unfold i64ToNat; omega

/-- width of the field behind the tag byte `m ≥ 253` -/
def varintWidth (m : Nat) : Nat := if m = 253 then 2 else if m = 254 then 4 else 8

/-- the tag byte `pack_varint` chooses for `n ≥ 253` -/
def varintTag (n : Nat) : Nat := if n < 65536 then 253 else if n < 4294967296 then 254 else 255

theorem varintWidth_bounds (m : Nat) : 2 ≤ varintWidth m ∧ varintWidth m ≤ 8 := by
  unfold varintWidth; split <;> (try split) <;> omega

theorem varintWidth_inj {a b : Nat} (ha : 253 ≤ a) (ha' : a < 256) (hb : 253 ≤ b) (hb' : b < 256)
    (h : varintWidth a = varintWidth b) : a = b := by
  have tag : ∀ m, 253 ≤ m → m < 256 → m = 253 + varintWidth m / 4 := by
    intro m h1 h2
    obtain rfl | rfl | rfl : m = 253 ∨ m = 254 ∨ m = 255 := by omega
    all_goals rfl
  rw [tag a ha ha', tag b hb hb', h]

theorem packVarint_of_lt {n : Nat} (h : n < 253) : packVarint n = [n] := by rw [packVarint, if_pos h]

theorem packVarint_of_ge {n : Nat} (h : 253 ≤ n) :
    packVarint n = varintTag n :: leBytes (varintWidth (varintTag n)) n := by
  unfold packVarint varintTag
  rw [if_neg (by omega)]
  split
  · rfl
  · split <;> rfl

theorem varintTag_spec {n : Nat} (hn : n < 18446744073709551616) :
    253 ≤ varintTag n ∧ varintTag n < 256 ∧ n < 256 ^ varintWidth (varintTag n) := by
  unfold varintTag
  split
  · exact ⟨by omega, by omega, show n < 256 ^ 2 by omega⟩
  · split
    · exact ⟨by omega, by omega, show n < 256 ^ 4 by omega⟩
    · exact ⟨by omega, by omega, show n < 256 ^ 8 by omega⟩

theorem packVarint_length_pos (n : Nat) : 1 ≤ (packVarint n).length := by
  by_cases h : n < 253
  · rw [packVarint_of_lt h]; exact Nat.le_refl 1
  · rw [packVarint_of_ge (by omega)]; exact Nat.le_add_left 1 _

theorem packVarint_length_le (n : Nat) : (packVarint n).length ≤ 9 := by
  by_cases h : n < 253
  · rw [packVarint_of_lt h]; exact Nat.le_add_left 1 8
  · have := varintWidth_bounds (varintTag n)
    rw [packVarint_of_ge (by omega), List.length_cons, leBytes_length]; omega

def WfIn (i : TxIn) : Prop := i.prevHash.length = 32 ∧ inRangeIn i = true
def WfOut (o : TxOut) : Prop := inRangeOut o = true

/-- every integer field fits its `struct` format and every previous-tx hash has 32 bytes -/
def WfTx (t : Tx) : Prop := inRange t = true ∧ ∀ i ∈ t.inputs, i.prevHash.length = 32

instance (t : Tx) : Decidable (WfTx t) := by unfold WfTx; infer_instance

theorem inRangeIn_iff (i : TxIn) : inRangeIn i = true ↔
    i.prevIdx < 4294967296 ∧ i.script.length < 18446744073709551616 ∧ i.sequence < 4294967296 := by
  simp [inRangeIn, and_assoc]

theorem inRangeOut_iff (o : TxOut) : inRangeOut o = true ↔
    -9223372036854775808 ≤ o.value ∧ o.value < 9223372036854775808 ∧
    o.pkScript.length < 18446744073709551616 := by
  simp [inRangeOut, and_assoc]

theorem inRange_iff (t : Tx) : inRange t = true ↔
    -2147483648 ≤ t.version ∧ t.version < 2147483648 ∧ t.inputs.length < 18446744073709551616 ∧
    (∀ i ∈ t.inputs, inRangeIn i = true) ∧ t.outputs.length < 18446744073709551616 ∧
    (∀ o ∈ t.outputs, inRangeOut o = true) ∧ t.locktime < 4294967296 := by
  simp [inRange, and_assoc]

theorem serialize_of_wf {t : Tx} (h : WfTx t) : serialize t = .ok (serializeRaw t) := by
  simp [serialize, h.1]

theorem readTxAndHash_ok {buf : Bytes} {c : Nat} {t : Tx} {e : Nat} (h : readTx buf c = .ok (t, e)) :
    readTxAndHash buf c = .ok ((t, slice buf c e), e) := by
  rw [readTxAndHash, h]

theorem readTxAndHash_err {buf : Bytes} {c : Nat} {err : PyExc} (h : readTx buf c = .error err) :
    readTxAndHash buf c = .error err := by
  rw [readTxAndHash, h]

/-- what `iter_txs_reversed` gets out of the chunk `[a, b)`: `_read_at_pos` (RuntimeError on a
    short or negative read), then `read_tx_and_hash` until the chunk is used up -/
def chunkItems (data : Bytes) (a b : Nat) : Except PyExc (List Item) :=
  if b < a then .error .runtimeError
  else if (slice data a b).length ≠ b - a then .error .runtimeError
  else readAll (slice data a b) (b - a) (b - a) 0

theorem revChunks_cons (data : Bytes) (a b : Nat) (ps : List (Nat × Nat)) :
    revChunks data ((a, b) :: ps) =
      match chunkItems data a b with
      | .error e => ⟨[], some e⟩
      | .ok xs => (revChunks data ps).prepend xs.reverse := by
  rw [revChunks, chunkItems]
  by_cases h1 : b < a
  · rw [if_pos h1, if_pos h1]
  · rw [if_neg h1, if_neg h1]
    by_cases h2 : (slice data a b).length ≠ b - a
    · rw [if_pos h2, if_pos h2]
    · rw [if_neg h2, if_neg h2]; rfl

theorem GenRes.prepend_err {α : Type} (xs : List α) (r : GenRes α) : (r.prepend xs).err = r.err := rfl

theorem revChunks_cons_err {data : Bytes} {p : Nat × Nat} {e : PyExc}
    (h : (revChunks data [p]).err = some e) (rest : List (Nat × Nat)) :
    (revChunks data (p :: rest)).err = some e := by
  rw [revChunks_cons] at h ⊢
  cases hc : chunkItems data p.1 p.2 with
  | error e' => rw [hc] at h; exact h
  | ok xs => rw [hc] at h; cases h

end EV.TxCodec
