import EV.Proofs.MerkleSpec

/-!
C12, part 2: `Merkle.level` is the `d`-th level of the tree, and a branch assembled from a cached
level plus one `2^d`-aligned segment of leaves is the branch of the whole list.  Both rest on
`block_branch`, and that on one normal form: `pairs`, `lvl`, `sib`, `specBranch` commute with
`take` and `drop` at multiples of `2^n`, with no side condition on lengths.
-/
namespace EV.Merkle

variable {Node : Type} (H : Node → Node → Node)

/-- `2 * (k + 1)` computes to `2 * k + 2` (`(k + 1) * 2` does not), so here and in the `sib` laws the
    step case is the recursive call as it stands -/
theorem pairs_drop : ∀ (k : Nat) (hs : List Node), pairs H (hs.drop (2 * k)) = (pairs H hs).drop k
  | 0, _ => rfl
  | k + 1, [] => by rw [List.drop_nil, pairs, List.drop_nil]
  | k + 1, [_] => by
    show pairs H (List.drop (2 * k + 1) []) = List.drop k []
    rw [List.drop_nil, List.drop_nil]; rfl
  | k + 1, _ :: _ :: rest => pairs_drop k rest

theorem pairs_take : ∀ (k : Nat) (hs : List Node), pairs H (hs.take (2 * k)) = (pairs H hs).take k
  | 0, _ => rfl
  | _ + 1, [] => rfl
  | k + 1, [a] => by show [H a a] = H a a :: List.take k []; rw [List.take_nil]
  | k + 1, a :: b :: rest => congrArg (H a b :: ·) (pairs_take k rest)

theorem lvl_drop : ∀ (n c : Nat) (hs : List Node), lvl H n (hs.drop (c * 2 ^ n)) = (lvl H n hs).drop c
  | 0, c, hs => by rw [Nat.pow_zero, Nat.mul_one]; rfl
  | n + 1, c, hs => by rw [lvl, lvl, Nat.pow_succ', Nat.mul_left_comm, pairs_drop, lvl_drop n]

theorem lvl_take : ∀ (n c : Nat) (hs : List Node), lvl H n (hs.take (c * 2 ^ n)) = (lvl H n hs).take c
  | 0, c, hs => by rw [Nat.pow_zero, Nat.mul_one]; rfl
  | n + 1, c, hs => by rw [lvl, lvl, Nat.pow_succ', Nat.mul_left_comm, pairs_take, lvl_take n]

theorem sib_drop (tsc : Bool) : ∀ (k : Nat) (hs : List Node) (i : Nat),
    sib tsc (hs.drop (2 * k)) i = sib tsc hs (i + 2 * k)
  | 0, _, _ => rfl
  | k + 1, [], _ => by rw [List.drop_nil]; rfl
  | k + 1, [_], i => by show sib tsc (List.drop (2 * k + 1) []) i = _; rw [List.drop_nil]; rfl
  | k + 1, _ :: _ :: rest, i => sib_drop tsc k rest i

theorem sib_take (tsc : Bool) : ∀ (k : Nat) (hs : List Node) (i : Nat), i < 2 * k →
    sib tsc (hs.take (2 * k)) i = sib tsc hs i
  | 0, _, _, h => nomatch h
  | _ + 1, [], _, _ => rfl
  | _ + 1, [_], _, _ => rfl
  | _ + 1, _ :: _ :: _, 0, _ => rfl
  | _ + 1, _ :: _ :: _, 1, _ => rfl
  | k + 1, _ :: _ :: rest, j + 2, h => sib_take tsc k rest j (Nat.lt_of_add_lt_add_right h)

theorem specBranch_drop (tsc : Bool) : ∀ (n c : Nat) (hs : List Node) (i : Nat),
    specBranch H tsc n (hs.drop (c * 2 ^ n)) i = specBranch H tsc n hs (i + c * 2 ^ n)
  | 0, _, _, _ => rfl
  | n + 1, c, hs, i => by
    rw [specBranch, specBranch, Nat.pow_succ', Nat.mul_left_comm, sib_drop, pairs_drop,
      specBranch_drop tsc n, Nat.add_mul_div_left _ _ (by omega : 0 < 2)]

theorem specBranch_take (tsc : Bool) : ∀ (n c : Nat) (hs : List Node) (i : Nat), i < c * 2 ^ n →
    specBranch H tsc n (hs.take (c * 2 ^ n)) i = specBranch H tsc n hs i
  | 0, _, _, _, _ => rfl
  | n + 1, c, hs, i, h => by
    rw [Nat.pow_succ', Nat.mul_left_comm] at h ⊢
    rw [specBranch, specBranch, sib_take tsc _ hs i h, pairs_take,
      specBranch_take tsc n c _ _ (by omega)]

theorem lvl_nil : ∀ (n : Nat), lvl H n ([] : List Node) = []
  | 0 => rfl
  | n + 1 => by rw [lvl, pairs, lvl_nil n]

theorem lvl_append (n : Nat) (xs ys : List Node) (c : Nat) (h : xs.length = c * 2 ^ n) :
    lvl H n (xs ++ ys) = lvl H n xs ++ lvl H n ys := by
  rw [← List.take_append_drop c (lvl H n (xs ++ ys)), ← lvl_take, ← lvl_drop, ← h,
    List.take_left, List.drop_left]

theorem branchAndRoot_small (tsc : Bool) (hs : List Node) (i d : Nat) (hi : i < hs.length)
    (hd : hs.length ≤ 2 ^ d) :
    ∃ r, lvl H d hs = [r] ∧
      branchAndRoot H hs (.int i) (some (.int d)) tsc = .ok (specBranch H tsc d hs i, r) :=
  have hc : Nat.clog 2 hs.length ≤ d := (Nat.clog_le_iff_le_pow (by omega)).mpr hd
  ⟨_, lvl_root H hs (List.ne_nil_of_length_pos (Nat.zero_lt_of_lt hi)) d hc,
    branchAndRoot_some H tsc hs i d hi hc⟩

/-- the block of leaves under node `c` of level `d` (the last block may be partial): run for `d`
    rounds on it alone, `branch_and_root` returns that node and the first `d` siblings of the
    path in the whole list -/
theorem block_branch (tsc : Bool) (d c : Nat) (hs : List Node) (i : Nat)
    (hi : i < ((hs.drop (c * 2 ^ d)).take (2 ^ d)).length) :
    ∃ r, (lvl H d hs)[c]? = some r ∧
      branchAndRoot H ((hs.drop (c * 2 ^ d)).take (2 ^ d)) (.int i) (some (.int d)) tsc =
        .ok (specBranch H tsc d hs (i + c * 2 ^ d), r) := by
  have hle := List.length_take_le (2 ^ d) (hs.drop (c * 2 ^ d))
  obtain ⟨r, hr, hb⟩ := branchAndRoot_small H tsc _ i d hi hle
  have ht := lvl_take H d 1 (hs.drop (c * 2 ^ d))
  have hsb := specBranch_take H tsc d 1 (hs.drop (c * 2 ^ d)) i
  rw [Nat.one_mul] at ht hsb
  rw [hsb (Nat.lt_of_lt_of_le hi hle), specBranch_drop] at hb
  have hr := congrArg List.head? hr
  rw [ht, lvl_drop, List.head?_take, if_neg Nat.one_ne_zero, List.head?_drop] at hr
  exact ⟨r, hr, hb⟩

theorem levelAux_range (d : Nat) (hs : List Node) : ∀ (n s : Nat), s + n ≤ (lvl H d hs).length →
    levelAux H hs d (List.range' s n) = .ok (((lvl H d hs).drop s).take n)
  | 0, _, _ => rfl
  | n + 1, s, h => by
    have hs' : s < (lvl H d hs).length := by omega
    have hne : hs.drop (s * 2 ^ d) ≠ [] := fun e => by
      have := lvl_drop H d s hs
      rw [e, lvl_nil, eq_comm, List.drop_eq_nil_iff] at this
      omega
    obtain ⟨r, h1, h2⟩ := block_branch H false d s hs 0 (by
      have := List.length_pos_iff.mpr hne
      have := Nat.pow_pos (n := d) (by omega : 0 < 2)
      rw [List.length_take]; omega)
    rw [List.range'_succ, levelAux, Nat.one_shiftLeft, root, show IntArg.int 0 = .int ((0 : Nat) : Int) from rfl, h2]
    dsimp only
    rw [levelAux_range d hs n (s + 1) (by omega), List.drop_eq_getElem_cons hs',
      (List.getElem?_eq_some_iff.mp h1).2, List.take_succ_cons]

theorem level_eq (hs : List Node) (d : Nat) : level H hs d = .ok (lvl H d hs) := by
  rw [level, Nat.one_shiftLeft, ← lvl_length, List.range_eq_range',
    levelAux_range H d hs _ 0 (Nat.le_of_eq (Nat.zero_add _)), List.drop_zero, List.take_length]

theorem specBranch_add (tsc : Bool) : ∀ (m n : Nat) (hs : List Node) (idx : Nat),
    specBranch H tsc (m + n) hs idx =
      specBranch H tsc m hs idx ++ specBranch H tsc n (lvl H m hs) (idx / 2 ^ m)
  | 0, n, hs, idx => by rw [Nat.zero_add, Nat.pow_zero, Nat.div_one]; rfl
  | m + 1, n, hs, idx => by
    rw [Nat.add_right_comm, specBranch, specBranch, lvl, specBranch_add tsc m n, List.cons_append,
      Nat.div_div_eq_div_mul, Nat.pow_succ']

theorem clog_lvl : ∀ (d : Nat) (hs : List Node), d ≤ Nat.clog 2 hs.length →
    Nat.clog 2 hs.length = d + Nat.clog 2 (lvl H d hs).length
  | 0, hs, _ => by simp [lvl]
  | d + 1, hs, h => by
    have h2 : 2 ≤ hs.length := by
      by_contra hc
      rw [Nat.clog_of_right_le_one (by omega)] at h; omega
    rw [clog_step h2, ← pairs_length H] at h ⊢
    rw [lvl, clog_lvl d (pairs H hs) (by omega)]
    omega

theorem merkleRoot_lvl (d : Nat) (hs : List Node) (hne : hs ≠ []) (h : d ≤ Nat.clog 2 hs.length) :
    merkleRoot H (lvl H d hs) (lvl_ne_nil H d hs hne) = merkleRoot H hs hne := by
  have h1 := lvl_root H hs hne _ (Nat.le_refl _)
  have h2 := lvl_root H (lvl H d hs) (lvl_ne_nil H d hs hne) _ (Nat.le_refl _)
  rw [← lvl_add, ← clog_lvl H d hs h, h1] at h2
  simpa [dupN] using h2.symm

/-- `index >> d` and `index - ((index >> d) << d)` on a non-negative int -/
theorem int_shift (idx d : Nat) :
    (idx : Int) / 2 ^ d = ((idx / 2 ^ d : Nat) : Int) ∧
    (idx : Int) - ((idx / 2 ^ d : Nat) : Int) * 2 ^ d = ((idx % 2 ^ d : Nat) : Int) := by
  have hp : ((2 ^ d : Nat) : Int) = 2 ^ d := Int.natCast_pow 2 d
  rw [← hp, ← Int.natCast_ediv, ← Int.natCast_mul, Int.natCast_emod, Int.emod_def, Int.natCast_mul,
    Int.natCast_ediv, Int.mul_comm]
  exact ⟨rfl, rfl⟩

/-- `hd`: a list at least `2^(d-1)+1` long, in particular whenever `2^d ≤ len`, the path
    `MerkleCache` takes -/
theorem from_level_eq [DecidableEq Node] (tsc : Bool) (hs : List Node) (d idx : Nat)
    (hidx : idx < hs.length) (hd : d ≤ Nat.clog 2 hs.length) :
    branchAndRootFromLevel H (.list (lvl H d hs))
        (.list ((hs.drop (idx / 2 ^ d * 2 ^ d)).take (2 ^ d))) (.int idx) d tsc =
      branchAndRoot H hs (.int idx) none tsc := by
  have hloc : idx % 2 ^ d < ((hs.drop (idx / 2 ^ d * 2 ^ d)).take (2 ^ d)).length := by
    have := Nat.mod_add_div' idx (2 ^ d)
    have := Nat.mod_lt idx (Nat.pow_pos (by omega) : 0 < 2 ^ d)
    rw [List.length_take, List.length_drop]
    omega
  obtain ⟨r, hlevel, hleaf⟩ := block_branch H tsc d (idx / 2 ^ d) hs (idx % 2 ^ d) hloc
  rw [Nat.mod_add_div'] at hleaf
  have hj : idx / 2 ^ d < (lvl H d hs).length := (List.getElem?_eq_some_iff.mp hlevel).1
  obtain ⟨e1, e2⟩ := int_shift idx d
  simp only [branchAndRootFromLevel, e1, e2, hleaf, branchAndRoot_none H tsc _ _ hj, Int.toNat_natCast,
    hlevel, ne_eq, not_true_eq_false, if_false]
  -- what is left: the two parts of the branch and the root of level `d` are those of the whole list
  rw [branchAndRoot_none H tsc hs idx hidx, clog_lvl H d hs hd, specBranch_add]
  congr 2
  exact merkleRoot_lvl H d hs (List.ne_nil_of_length_pos (by omega)) hd

end EV.Merkle
