import EV.Proofs.CrashObs
import EV.Proofs.CrashRedo
import EV.Proofs.IndexRunReorg
import EV.Proofs.RunShape

/-!
Resuming after a crash before the UTXO commit (C04, second half).  A crash before the UTXO batch of a flush leaves
a store that restarts to the same committed index as the store the flush started from (`RecoversSame`), but the two
restarted stores are not equal: the three meta files may hold torn data beyond the committed lengths.  `ResEq a b`
says that `b` is `a` up to exactly that: same memory, same tables, same state records (the history state record
up to its flush count), and files that agree on the first `fs_height + 1` headers / counts and the first
`fs_tx_count` hashes (`StEq`, `EV/Proofs/CrashFlush.lean`: the same for two stores and arbitrary lengths;
`RecoversSame` is `StEq` of the opened stores, so `resEq_of_recoversSame` only has to name the restarted states).

Every run operation (`advance`, `flush` of either kind, `backup`, restart) keeps `ResEq`, with the same
error if it fails: nothing reads a file beyond the committed lengths, and `flush_fs` writes at the offsets
`fs_height + 1` / `prior_tx_count`, so the torn tail is overwritten or stays out of reach.  The files also
agree from the tip of the interrupted flush on (`TailEq`); once the file pointers pass it the stores are
equal outright.  The run invariant only looks at the committed part of the files, so it holds of every
state `ResEq` to an invariant state — hence a crash can be analysed at the crashed state alone, and
`explained_append` closes any relation that admissible steps keep in lock step under crashes.
-/
namespace EV.Index
open EV.Spec


/-- `b` is `a` up to file contents beyond the committed lengths: same memory, and the stores agree
    on all tables, the state records and the first `fs_height + 1` headers / counts and
    `fs_tx_count` hashes — wherever a read or a later write-at-offset can depend on them -/
structure ResEq (a b : Sys) : Prop where
  m : b.m = a.m
  st : StEq (a.m.fsHeight + 1).toNat (a.m.fsHeight + 1).toNat a.m.fsTxCount a.p b.p

theorem ResEq.refl (a : Sys) : ResEq a a := ⟨rfl, StEq.refl _ _ _ _⟩

theorem ResEq.h {a b : Sys} (R : ResEq a b) : b.p.h = a.p.h := R.st.h
theorem ResEq.u {a b : Sys} (R : ResEq a b) : b.p.u = a.p.u := R.st.u
theorem ResEq.undo {a b : Sys} (R : ResEq a b) : b.p.undo = a.p.undo := R.st.undo
theorem ResEq.ustate {a b : Sys} (R : ResEq a b) : b.p.ustate = a.p.ustate := R.st.ustate
theorem ResEq.hist {a b : Sys} (R : ResEq a b) : b.p.hist = a.p.hist := R.st.hist
theorem ResEq.hfc {a b : Sys} (R : ResEq a b) :
    (b.p.hstate.getD {}).flushCount = (a.p.hstate.getD {}).flushCount := R.st.hfc
theorem ResEq.headers {a b : Sys} (R : ResEq a b) :
    b.p.headers.take (a.m.fsHeight + 1).toNat = a.p.headers.take (a.m.fsHeight + 1).toNat :=
  R.st.headers
theorem ResEq.txcounts {a b : Sys} (R : ResEq a b) :
    b.p.txcounts.take (a.m.fsHeight + 1).toNat = a.p.txcounts.take (a.m.fsHeight + 1).toNat :=
  R.st.txcounts
theorem ResEq.hashes {a b : Sys} (R : ResEq a b) :
    b.p.hashes.take a.m.fsTxCount = a.p.hashes.take a.m.fsTxCount := R.st.hashes

def ResEqE : Except Err Sys → Except Err Sys → Prop
  | .ok a, .ok b => ResEq a b
  | .error e, .error e' => e' = e
  | _, _ => False

theorem resEqE_eq : ResEqE = ExceptRel ResEq := by
  funext x y
  cases x <;> cases y <;> rfl

/-- `read_undo_info` agrees for every height -/
theorem ResEq.undoRows {a b : Sys} (R : ResEq a b) (h : Nat) :
    alookup h b.p.undo = alookup h a.p.undo ∧ undoLookup b h = undoLookup a h := by
  refine ⟨by rw [R.undo], ?_⟩
  simp only [undoLookup, R.m, R.undo]


/-- **The restart after a cut before the UTXO batch is the restart on the uncut store, up to the
file tails.**  (strengthens `obsEq_of_recoversSame`) -/
theorem resEq_of_recoversSame {cfg : Cfg} {p q : Store} (R : RecoversSame cfg p q)
    {e0 : List Effect} {r0 : Sys} (h0 : recover cfg p = some (e0, r0)) :
    ∃ e r, recover cfg q = some (e, r) ∧ ResEq r0 r := by
  refine ⟨_, ⟨r0.m, openStore cfg q⟩, by rw [R.recover, h0]; rfl, rfl, ?_⟩
  -- the file pointers of a fresh process are the committed lengths
  rw [recover_eq] at h0
  obtain ⟨l, -, h0⟩ := Option.map_eq_some_iff.mp h0
  cases h0
  exact R.opened


/-- the files invariant only looks at the committed part of the files -/
theorem filesInv_of_resEq {chain : List Block} {a b : Sys} (f : FilesInv chain a) (R : ResEq a b) :
    FilesInv chain b := by
  obtain ⟨bm, bp⟩ := b
  obtain rfl : bm = a.m := R.m
  exact { f with hashes := R.hashes.trans f.hashes, headers := R.headers.trans f.headers,
                 txcountsFile := R.txcounts.trans f.txcountsFile }

/-- **Same answers.**  In every state of the reference run (files invariant `FilesInv`), a `ResEq`
state answers every read-path query alike: the committed counts lie below the file pointers. -/
theorem obsEq_of_resEq {chain : List Block} {a b : Sys} (f : FilesInv chain a) (R : ResEq a b) :
    ObsEq a b := by
  have hK := f.dbK
  refine obsEq_of_committed R.m R.h R.u R.hist (take_of_take_eq R.headers f.dbK_le_fsK)
    (take_of_take_eq R.hashes f.dbTx_le_fsTx) (by rw [f.txCounts, cumCounts_length]; exact hK) (fun i hi => ?_)
  rw [f.txCounts, cumCounts_getD chain (by omega), f.dbTx]
  exact allTxids_take_mono _ (by omega)

theorem fsTxHash_of_resEq {chain : List Block} {a b : Sys} (f : FilesInv chain a) (R : ResEq a b)
    (n : Nat) : fsTxHash b n = fsTxHash a n :=
  (obsEq_of_resEq f R).fsTxHash n

/-! ### `advance_block`, `backup_block`: the loops on another store with the same UTXO view

`swp q s` is the memory of `s` over ANY other store `q`.  The loops read a store through `spend_utxo` only, so when
`q` shows `spend_utxo` what `s.p` shows it (`UView s (swp q s)`) they do on `swp q s` what they do on `s`
(`advLoop_congr`, `bkLoop_congr`, `EV/Proofs/IndexStep.lean`). -/

def swp (q : Store) (s : Sys) : Sys := { m := s.m, p := q }

theorem advance_swp {q : Store} {s : Sys} (cfg : Cfg) (d : Int) (b : Block) (h : UView s (swp q s)) :
    advance cfg d (swp q s) b =
      match advance cfg d s b with
      | .ok s' => .ok (swp q s')
      | .error e => .error e := by
  rw [advance_eq, advLoop_congr cfg b h ⟨rfl, rfl, rfl⟩, advance_eq cfg d s]
  cases advLoop cfg s b <;> rfl

theorem advance_keeps {cfg : Cfg} {d : Int} {s s' : Sys} {b : Block}
    (h : advance cfg d s b = .ok s') :
    s'.p = s.p ∧ s'.m.fsHeight = s.m.fsHeight ∧ s'.m.fsTxCount = s.m.fsTxCount := by
  obtain ⟨-, a, -, rfl⟩ := advance_ok_iff.mp h
  exact ⟨rfl, rfl, rfl⟩

theorem ResEq.eq_swp {a b : Sys} (R : ResEq a b) : b = swp b.p a := by
  rw [swp, ← R.m]

theorem ResEq.agree {chain : List Block} {a b : Sys} (f : FilesInv chain a) (R : ResEq a b) :
    UView a (swp b.p a) :=
  ⟨rfl, rfl, R.h, R.u, fun n => by rw [← R.eq_swp]; exact fsTxHash_of_resEq f R n⟩

theorem resEq_advance {chain : List Block} {a b : Sys} (f : FilesInv chain a) (R : ResEq a b)
    (cfg : Cfg) (d : Int) (blk : Block) :
    ResEqE (advance cfg d a blk) (advance cfg d b blk) := by
  rw [R.eq_swp, advance_swp cfg d blk (R.agree f)]
  cases hadv : advance cfg d a blk with
  | error e => exact rfl
  | ok a' =>
    obtain ⟨hp, hfh, hft⟩ := advance_keeps hadv
    show ResEq a' (swp b.p a')
    refine ⟨rfl, ?_⟩
    rw [hp, hfh, hft]
    exact R.st


def Effect.isWrite : Effect → Bool
  | .writeHeaders _ _ => true
  | .writeTxCounts _ _ => true
  | .writeHashes _ _ => true
  | _ => false

/-- a write that starts inside the agreed part of a file moves the agreed length of that file to any
    point up to the end of the write -/
theorem StEq.writeHeaders {Nh Nc Nx : Nat} {p q : Store} (e : StEq Nh Nc Nx p q) {off : Nat}
    (d : List Nat) (h : off ≤ Nh) {Nh' : Nat} (k : Nh' ≤ off + d.length) :
    StEq Nh' Nc Nx (applyEffect p (.writeHeaders off d)) (applyEffect q (.writeHeaders off d)) :=
  ⟨e.h, e.u, e.undo, e.ustate, e.hist, e.hfc,
    fileWrite_take_congr d (take_of_take_eq e.headers h) k, e.txcounts, e.hashes⟩

theorem StEq.writeTxCounts {Nh Nc Nx : Nat} {p q : Store} (e : StEq Nh Nc Nx p q) {off : Nat}
    (d : List Nat) (h : off ≤ Nc) {Nc' : Nat} (k : Nc' ≤ off + d.length) :
    StEq Nh Nc' Nx (applyEffect p (.writeTxCounts off d)) (applyEffect q (.writeTxCounts off d)) :=
  ⟨e.h, e.u, e.undo, e.ustate, e.hist, e.hfc, e.headers,
    fileWrite_take_congr d (take_of_take_eq e.txcounts h) k, e.hashes⟩

theorem StEq.writeHashes {Nh Nc Nx : Nat} {p q : Store} (e : StEq Nh Nc Nx p q) {off : Nat}
    (d : List Hash) (h : off ≤ Nx) {Nx' : Nat} (k : Nx' ≤ off + d.length) :
    StEq Nh Nc Nx' (applyEffect p (.writeHashes off d)) (applyEffect q (.writeHashes off d)) :=
  ⟨e.h, e.u, e.undo, e.ustate, e.hist, e.hfc, e.headers, e.txcounts,
    fileWrite_take_congr d (take_of_take_eq e.hashes h) k⟩

theorem StEq.batch {Nh Nc Nx : Nat} {p q : Store} (e : StEq Nh Nc Nx p q) {x : Effect}
    (hx : x.isWrite = false) : StEq Nh Nc Nx (applyEffect p x) (applyEffect q x) := by
  rw [applyEffect_eq, applyEffect_eq]
  -- the five tables and records by congruence, the files by the footprint of `x`
  have hh := congrArg x.act.h e.h
  have hu := congrArg x.act.u e.u
  have hundo := congrArg x.act.undo e.undo
  have hus := congrArg x.act.ustate e.ustate
  have hhist := congrArg x.act.hist e.hist
  cases x with
  | writeHeaders off d | writeTxCounts off d | writeHashes off d => cases hx
  | histBatch dels puts st => exact ⟨hh, hu, hundo, hus, hhist, rfl, e.headers, e.txcounts, e.hashes⟩
  | utxoBatch d hp up ud upp st | putUState st =>
    exact ⟨hh, hu, hundo, hus, hhist, e.hfc, e.headers, e.txcounts, e.hashes⟩


theorem flushDbs_congr {a b : Sys} (hm : b.m = a.m) (fu : Bool) : flushDbs b fu = flushDbs a fu := by
  have : b = swp b.p a := by rw [swp, ← hm]
  rw [this]
  rfl

/-- the three writes of `flush_fs` end exactly at the tip (what its assertions check; here from the files
    invariant, which is where they come from: `flushFsAsserts_of_files`) -/
theorem flushFs_ends {chain : List Block} {s : Sys} (f : FilesInv chain s) :
    (s.m.fsHeight + 1).toNat + s.m.headersU.length = (s.m.st.height + 1).toNat ∧
    (s.m.fsHeight + 1).toNat + (s.m.txCounts.drop (s.m.fsHeight + 1).toNat).length =
      (s.m.st.height + 1).toNat ∧
    s.m.fsTxCount + s.m.txHashesU.flatten.length = s.m.st.txCount := by
  have hK := f.fsK
  have hT := f.fsTx_le
  refine ⟨?_, ?_, ?_⟩
  · rw [f.stK, f.headersU, List.length_map, List.length_drop]; omega
  · rw [f.stK, List.length_drop, f.txCounts, cumCounts_length]; omega
  · rw [f.hashesU_flatten, List.length_drop, f.stTx]; omega

theorem flushHead_eq (s : Sys) :
    flushHead s =
      [.writeHeaders (s.m.fsHeight + 1).toNat s.m.headersU,
       .writeTxCounts (s.m.fsHeight + 1).toNat (s.m.txCounts.drop (s.m.fsHeight + 1).toNat),
       .writeHashes (priorTx s) s.m.txHashesU.flatten, histFlushEffect s] := rfl

theorem forall_flushHead {P : Effect → Prop} (s : Sys)
    (h1 : P (.writeHeaders (s.m.fsHeight + 1).toNat s.m.headersU))
    (h2 : P (.writeTxCounts (s.m.fsHeight + 1).toNat (s.m.txCounts.drop (s.m.fsHeight + 1).toNat)))
    (h3 : P (.writeHashes (priorTx s) s.m.txHashesU.flatten)) (h4 : P (histFlushEffect s)) :
    ∀ e ∈ flushHead s, P e := by
  intro e he
  rw [flushHead_eq] at he
  simp only [List.mem_cons, List.not_mem_nil, or_false] at he
  rcases he with rfl | rfl | rfl | rfl <;> assumption

theorem forall_flushDbs {P : Effect → Prop} {s : Sys} {fu : Bool} {es : List Effect} {m' : Mem}
    (hf : flushDbs s fu = some (es, m')) (hhead : ∀ e ∈ flushHead s, P e)
    (htail : ∀ st, P (utxoBatchEffect s st) ∧ P (.putUState st)) : ∀ e ∈ es, P e := by
  rcases flushDbs_cases hf with ⟨rfl, -⟩ | ⟨-, -, -, -, rfl | rfl⟩
  · intro e he
    cases he
  · exact hhead
  · intro e he
    rcases List.mem_append.mp he with h | h
    · exact hhead e h
    · simp only [List.mem_cons, List.not_mem_nil, or_false] at h
      rcases h with rfl | rfl
      · exact (htail _).1
      · exact (htail _).2

theorem StEq.flushHead {chain : List Block} {p q : Store} {s : Sys} (f : FilesInv chain s)
    (e : StEq (s.m.fsHeight + 1).toNat (s.m.fsHeight + 1).toNat s.m.fsTxCount p q) :
    StEq (s.m.st.height + 1).toNat (s.m.st.height + 1).toNat s.m.st.txCount
      (applyEffects p (flushHead s)) (applyEffects q (flushHead s)) := by
  obtain ⟨a1, a2, a3⟩ := flushFs_ends f
  have e1 := e.writeHeaders s.m.headersU (Nat.le_refl _) (Nat.le_of_eq a1.symm)
  have e2 := e1.writeTxCounts (s.m.txCounts.drop (s.m.fsHeight + 1).toNat) (Nat.le_refl _)
    (Nat.le_of_eq a2.symm)
  have e3 := e2.writeHashes s.m.txHashesU.flatten (Nat.le_refl _) (Nat.le_of_eq a3.symm)
  rw [flushHead_eq, priorTx_eq f]
  exact e3.batch (x := histFlushEffect s) rfl

/-- the effect list is the same, the writes start at `fs_height + 1` / `prior_tx_count` — inside the
    agreed part — and the file pointers move to the end of what was written -/
theorem resEq_flush {chain : List Block} {a b : Sys} (f : FilesInv chain a) (R : ResEq a b) (fu : Bool) :
    ResEqE (flush a fu) (flush b fu) := by
  unfold flush
  rw [flushDbs_congr R.m fu]
  cases hf : flushDbs a fu with
  | none => exact rfl
  | some r =>
    obtain ⟨es, m'⟩ := r
    show ResEq ⟨m', applyEffects a.p es⟩ ⟨m', applyEffects b.p es⟩
    refine ⟨rfl, ?_⟩
    show StEq (m'.fsHeight + 1).toNat (m'.fsHeight + 1).toNat m'.fsTxCount _ _
    rcases flushDbs_cases hf with ⟨rfl, rfl⟩ | ⟨-, -, h1, h2, hes⟩
    · exact R.st
    · rw [h1, h2]
      have e1 := R.st.flushHead f
      rcases hes with rfl | rfl
      · exact e1
      · rw [applyEffects_append, applyEffects_append]
        exact (e1.batch (x := utxoBatchEffect a _) rfl).batch (x := .putUState _) rfl

theorem ResEq.flushDbs {a b : Sys} (R : ResEq a b) (fu : Bool) :
    EV.Index.flushDbs b fu = EV.Index.flushDbs a fu := flushDbs_congr R.m fu


/-- the files are never behind the UTXO state record (`hH`, `hT`), so the opened stores agree up to the
    lengths it commits to: the two restarts are those of `resEq_of_recoversSame` -/
theorem resEq_reopen {a b : Sys} (cfg : Cfg) (R : ResEq a b)
    (hH : (a.p.ustate.getD {}).height ≤ a.m.fsHeight)
    (hT : (a.p.ustate.getD {}).txCount ≤ a.m.fsTxCount) :
    ResEqE (reopen cfg a) (reopen cfg b) := by
  have RS : RecoversSame cfg a.p b.p :=
    .of_opened ((R.st.openStore cfg).mono (by omega) (by omega) hT)
  cases h0 : recover cfg a.p with
  | none =>
    unfold reopen
    -- `reopen` unfolds to `openDbs … false none`, the body of `recover`: `rw` needs it spelled that way
    rw [show openDbs cfg b.p false none = _ from RS.recover, h0, show openDbs cfg a.p false none = none from h0]
    exact rfl
  | some x =>
    obtain ⟨e, r, hr, RR⟩ := resEq_of_recoversSame RS h0
    show ResEqE (stepOp2 cfg a .reopen) (stepOp2 cfg b .reopen)
    rw [reopen_of_some h0, reopen_of_some hr]
    exact RR


theorem histBackupEffect_congr {s t : Sys} (hm : t.m = s.m) (hh : t.p.hist = s.p.hist)
    (T : List HashX) (n : Nat) : histBackupEffect t T n = histBackupEffect s T n := by
  simp only [histBackupEffect, hm, hh]

/-- **`backup_block` + `flush_backup` on a store with the same UTXO view and undo table but ANY
    history table**: same refusal, or the same new memory and the same UTXO batch; the history batch
    is `History.backup` of the same touched set and tx count, computed on the other table -/
theorem backupFull_swpH {q : Store} {s : Sys} (cfg : Cfg) (b : Block) (h : UView s (swp q s))
    (hundo : q.undo = s.p.undo) :
    backupFull cfg (swp q s) b =
      match backupFull cfg s b with
      | .ok (es, s') =>
        .ok (histBackupEffect (swp q s) s'.m.touched s'.m.st.txCount :: es.drop 1,
             { m := s'.m,
               p := applyEffects q (histBackupEffect (swp q s) s'.m.touched s'.m.st.txCount :: es.drop 1) })
      | .error e => .error e := by
  rw [backupFull_eq, bkLoop_congr cfg b h (bkGuard_congr rfl hundo) rfl,
    backupFull_eq cfg s]
  cases bkLoop cfg s b <;> rfl

/-- the loops see the same UTXO view, the history batch is computed on the same table: the two batches
    are the same, no file is written, and the file pointers move down -/
theorem resEq_backup {chain : List Block} {a b : Sys} (f : FilesInv chain a) (R : ResEq a b)
    (cfg : Cfg) (blk : Block) :
    ResEqE (backup cfg a blk) (backup cfg b blk) := by
  obtain ⟨bm, bp⟩ := b
  obtain rfl : bm = a.m := R.m
  have v : UView a ⟨a.m, bp⟩ := R.agree f
  unfold backup
  rw [backupFull_eq cfg a, backupFull_eq cfg ⟨a.m, bp⟩, bkLoop_congr cfg blk v (bkGuard_congr rfl R.undo) rfl]
  cases hl : bkLoop cfg a blk with
  | error e => exact rfl
  | ok x =>
    have haf := (bkLoop_ok_iff.mp hl).1
    refine ⟨rfl, ?_⟩
    show StEq _ _ _ (applyEffects a.p _) (applyEffects bp _)
    rw [histBackupEffect_congr (s := a) (t := ⟨a.m, bp⟩) rfl R.hist]
    obtain ⟨h2, h1, -⟩ := assertFlushed_fields haf
    have e2 := (R.st.batch (x := histBackupEffect a (a.m.touched ++ x.touched)
      (bkSt a.m.st x blk).txCount) rfl).batch
        (x := utxoBatchEffect (setCD a x.s.m.cache x.s.m.deletes) (bkSt a.m.st x blk)) rfl
    apply e2.mono
    · show ((bkSt a.m.st x blk).height + 1).toNat ≤ _
      simp only [bkSt]; omega
    · show ((bkSt a.m.st x blk).height + 1).toNat ≤ _
      simp only [bkSt]; omega
    · show (bkSt a.m.st x blk).txCount ≤ _
      simp only [bkSt]; omega


/-- **One operation.**  In every state `a` of the reference run (whole-system invariant `FullInv`)
and every `ResEq` state `b`, each run operation — `advance_block` of ANY block, a flush of either
kind, a back-out of ANY block, a restart — fails on both with the same error or succeeds on both
with `ResEq` results. -/
theorem resEq_step {cfg : Cfg} {chain : List Block} {a b : Sys} (inv : FullInv cfg chain a)
    (R : ResEq a b) (op : IOp2) : ResEqE (stepOp2 cfg a op) (stepOp2 cfg b op) := by
  have f := inv.files
  cases op with
  | adv blk d => exact resEq_advance f R cfg d blk
  | flush fu => exact resEq_flush f R fu
  | backup blk => exact resEq_backup f R cfg blk
  | reopen =>
    have hu := inv.ustate_getD
    exact resEq_reopen cfg R (by rw [hu]; exact f.order.2.1) (by rw [hu]; exact f.dbTx_le_fsTx)

theorem run_pair {cfg : Cfg} {Rel : Track → Sys → Sys → Prop}
    (hstep : ∀ {t : Track} {a b : Sys} (op : IOp2), Rel t a b → OkOp cfg t op →
      ∃ a' b', stepOp2 cfg a op = .ok a' ∧ stepOp2 cfg b op = .ok b' ∧ Rel (t.step cfg op) a' b')
    (ops : List IOp2) {t : Track} {a b : Sys} (h : Rel t a b) (hv : ValidOps2 cfg t ops) :
    ∃ a' b', runOps2 cfg a ops = .ok a' ∧ runOps2 cfg b ops = .ok b' ∧ Rel (t.run cfg ops) a' b' := by
  induction ops generalizing t a b with
  | nil => exact ⟨a, b, rfl, rfl, h⟩
  | cons op r ih =>
    obtain ⟨a1, b1, h1, h2, h'⟩ := hstep op h hv.1
    obtain ⟨a', b', h3, h4, hr⟩ := ih h' hv.2
    exact ⟨a', b', (runOps2_cons_of_ok h1).trans h3, (runOps2_cons_of_ok h2).trans h4, hr⟩

theorem resEq_okStep {cfg : Cfg} {t : Track} {a b : Sys} (ti : TrackInv cfg t a) (R : ResEq a b)
    (op : IOp2) (hop : OkOp cfg t op) :
    ∃ a' b', stepOp2 cfg a op = .ok a' ∧ stepOp2 cfg b op = .ok b' ∧
      TrackInv cfg (t.step cfg op) a' ∧ ResEq a' b' := by
  obtain ⟨a', ha, ti'⟩ := trackInv_step ti op hop
  have hs := resEq_step (cfg := cfg) ti.inv.base R op
  rw [ha, resEqE_eq] at hs
  obtain ⟨b', hb, hs⟩ := hs.of_ok
  exact ⟨a', b', ha, hb, ti', hs⟩

theorem resEq_run {cfg : Cfg} (ops : List IOp2) {t : Track} {a b : Sys} (ti : TrackInv cfg t a)
    (R : ResEq a b) (hv : ValidOps2 cfg t ops) :
    ∃ a' b', runOps2 cfg a ops = .ok a' ∧ runOps2 cfg b ops = .ok b' ∧
      TrackInv cfg (t.run cfg ops) a' ∧ ResEq a' b' :=
  run_pair (Rel := fun t a b => TrackInv cfg t a ∧ ResEq a b)
    (fun op h hop => resEq_okStep h.1 h.2 op hop) ops ⟨ti, R⟩ hv

/-- **Closure under crashes, for any relation.**  `Rel t a b`: the crashed state `b` is related to the
state `a` of the crash-free run with bookkeeping `t`; admissible operations keep `Rel` in lock step
(`hstep`).  A crash is analysed at the crashed state ALONE (`hcrash`): it leaves a state `r` that stands
for the end `r'` of a crash-free stretch `ops1` from `b`, in that whatever is related to `r'` is related
to `r`.  Then the explaining run grows by `ops1`, and `r` is related to its end. -/
theorem explained_append {cfg : Cfg} {Rel : Track → Sys → Sys → Prop}
    (hstep : ∀ {t : Track} {a b : Sys} (op : IOp2), Rel t a b → OkOp cfg t op →
      ∃ a' b', stepOp2 cfg a op = .ok a' ∧ stepOp2 cfg b op = .ok b' ∧ Rel (t.step cfg op) a' b')
    {ops ops1 : List IOp2} {b r : Sys}
    (ih : ValidOps2 cfg {} ops → ∃ a, runOps2 cfg {} ops = .ok a ∧ Rel (Track.run cfg {} ops) a b)
    (hv : ValidOps2 cfg {} (ops ++ ops1))
    (hcrash : ∀ {a : Sys}, Rel (Track.run cfg {} ops) a b →
      ∃ r', runOps2 cfg b ops1 = .ok r' ∧
        ∀ {a' : Sys}, Rel ((Track.run cfg {} ops).run cfg ops1) a' r' →
          Rel ((Track.run cfg {} ops).run cfg ops1) a' r) :
    ∃ a', runOps2 cfg {} (ops ++ ops1) = .ok a' ∧ Rel (Track.run cfg {} (ops ++ ops1)) a' r := by
  obtain ⟨hv1, hv2⟩ := (validOps2_append cfg {} ops ops1).mp hv
  obtain ⟨a, ha, h⟩ := ih hv1
  obtain ⟨r', hr', hS⟩ := hcrash h
  obtain ⟨a', b', h1, h2, h'⟩ := run_pair hstep ops1 h hv2
  cases hr'.symm.trans h2
  exact ⟨a', by rw [runOps2_append, ha]; exact h1, Track.run_append .. ▸ hS h'⟩

/-! ### the compaction fields of the history state record

`ResEq` leaves the compaction fields (`comp_flush_count`, `comp_cursor`) of the persisted history
state record open, because `RecoversSame` does.  In a sync without compaction they are at their idle
value `-1` everywhere (`EV.Compact.RunShape`, a unary invariant of every run from the empty index and of
every restart), so the two records are equal as a whole. -/

theorem hstate_eq_of_idle {a b : Sys} (R : ResEq a b) (ha : EV.Compact.DiskShape a.p)
    (hb : EV.Compact.DiskShape b.p) : b.p.hstate.getD {} = a.p.hstate.getD {} := by
  have h1 := R.hfc
  have h2 := ha.flush
  have h3 := ha.cursor
  have h4 := hb.flush
  have h5 := hb.cursor
  generalize b.p.hstate.getD {} = x at *
  generalize a.p.hstate.getD {} = y at *
  cases x; cases y
  simp only at h1 h2 h3 h4 h5
  subst h1 h2 h3
  rw [h4, h5]

/-! ### the torn tail is overwritten

`ResEq` says where the two stores agree *below* the file pointers.  `TailEq Nh Nc Nx` says that they
also agree *from* record `Nh` / `Nc` / `Nx` on: a cut flush writes only below the tip it was
flushing, so this holds right after the crash with the old tip as bound, every later operation keeps
it (the same data is written at the same offset of both files), and once the file pointers have
passed the bound the files are equal outright. -/

/-- a write that ends at or below record `N` leaves the file alone from `N` on — also when it starts
    beyond the end of the file: `fileWrite` then appends, and the result is still shorter than `N` -/
theorem drop_fileWrite_of_le {α : Type} {f : List α} {off N : Nat} (d : List α)
    (h : off + d.length ≤ N) : (fileWrite f off d).drop N = f.drop N := by
  rw [← Nat.add_sub_cancel' h, ← List.drop_drop, drop_fileWrite_add, List.drop_drop]

/-- the same write into two files that agree below its offset and from `N` on: if it ends below `N` it
    leaves both alone from `N` on, and if it reaches `N` the two files are equal afterwards -/
theorem drop_fileWrite_congr {α : Type} {a b : List α} {off N : Nat} (d : List α)
    (ht : b.take off = a.take off) (h : b.drop N = a.drop N) :
    (fileWrite b off d).drop N = (fileWrite a off d).drop N := by
  by_cases hN : off + d.length ≤ N
  · rw [drop_fileWrite_of_le d hN, drop_fileWrite_of_le d hN, h]
  · have hd : b.drop (off + d.length) = a.drop (off + d.length) := by
      rw [← Nat.add_sub_cancel' (Nat.le_of_not_le hN), ← List.drop_drop, h, List.drop_drop]
    unfold fileWrite
    rw [ht, hd]

theorem eq_of_take_drop {α : Type} {a b : List α} {K N : Nat} (h1 : b.take K = a.take K)
    (h2 : b.drop N = a.drop N) (hNK : N ≤ K) : b = a := by
  have key : ∀ l : List α, l.drop K = (l.drop N).drop (K - N) := by
    intro l; rw [List.drop_drop]; congr 1; omega
  rw [← List.take_append_drop K b, ← List.take_append_drop K a, h1, key b, key a, h2]


structure TailEq (Nh Nc Nx : Nat) (p q : Store) : Prop where
  headers : q.headers.drop Nh = p.headers.drop Nh
  txcounts : q.txcounts.drop Nc = p.txcounts.drop Nc
  hashes : q.hashes.drop Nx = p.hashes.drop Nx

theorem TailEq.of_files {Nh Nc Nx : Nat} {p q p' q' : Store} (T : TailEq Nh Nc Nx p q)
    (hp : p'.headers = p.headers ∧ p'.txcounts = p.txcounts ∧ p'.hashes = p.hashes)
    (hq : q'.headers = q.headers ∧ q'.txcounts = q.txcounts ∧ q'.hashes = q.hashes) :
    TailEq Nh Nc Nx p' q' := by
  refine ⟨?_, ?_, ?_⟩
  · rw [hp.1, hq.1]; exact T.headers
  · rw [hp.2.1, hq.2.1]; exact T.txcounts
  · rw [hp.2.2, hq.2.2]; exact T.hashes

theorem files_applyEffect {p : Store} {e : Effect} (h : e.isWrite = false) :
    (applyEffect p e).headers = p.headers ∧ (applyEffect p e).txcounts = p.txcounts ∧
      (applyEffect p e).hashes = p.hashes := by
  rw [applyEffect_eq]
  cases e with
  | writeHeaders off d | writeTxCounts off d | writeHashes off d => cases h
  | histBatch dels puts st | utxoBatch d hp up ud upp st | putUState st => exact ⟨rfl, rfl, rfl⟩

theorem files_two {e1 e2 : Effect} (h1 : e1.isWrite = false) (h2 : e2.isWrite = false) (p : Store) :
    (applyEffects p [e1, e2]).headers = p.headers ∧ (applyEffects p [e1, e2]).txcounts = p.txcounts ∧
      (applyEffects p [e1, e2]).hashes = p.hashes := by
  obtain ⟨a1, a2, a3⟩ := files_applyEffect (p := p) h1
  obtain ⟨b1, b2, b3⟩ := files_applyEffect (p := applyEffect p e1) h2
  exact ⟨b1.trans a1, b2.trans a2, b3.trans a3⟩

theorem files_openStore (cfg : Cfg) (p : Store) :
    (openStore cfg p).headers = p.headers ∧ (openStore cfg p).txcounts = p.txcounts ∧
      (openStore cfg p).hashes = p.hashes :=
  ⟨openStore_headers cfg p, openStore_txcounts cfg p, openStore_hashes cfg p⟩

theorem files_step {cfg : Cfg} {s s' : Sys} {op : IOp2} (hop : ∀ fu, op ≠ .flush fu)
    (h : stepOp2 cfg s op = .ok s') :
    s'.p.headers = s.p.headers ∧ s'.p.txcounts = s.p.txcounts ∧ s'.p.hashes = s.p.hashes := by
  cases op with
  | adv blk d =>
    rw [(advance_keeps (show advance cfg d s blk = .ok s' from h)).1]
    exact ⟨rfl, rfl, rfl⟩
  | flush fu => exact (hop fu rfl).elim
  | backup blk =>
    obtain ⟨es, hb⟩ := backup_ok h
    obtain ⟨-, -, -, a0, -, -, hr⟩ := backupFull_inv hb
    obtain ⟨rfl, rfl⟩ := Prod.mk.inj hr
    exact files_two rfl rfl s.p
  | reopen =>
    obtain ⟨es, ho⟩ := reopen_ok h
    rw [(recover_effects ho).2]
    exact files_openStore cfg s.p

theorem flushHead_files (p : Store) (s : Sys) :
    (applyEffects p (flushHead s)).headers = fileWrite p.headers (s.m.fsHeight + 1).toNat s.m.headersU ∧
    (applyEffects p (flushHead s)).txcounts =
      fileWrite p.txcounts (s.m.fsHeight + 1).toNat (s.m.txCounts.drop (s.m.fsHeight + 1).toNat) ∧
    (applyEffects p (flushHead s)).hashes = fileWrite p.hashes (priorTx s) s.m.txHashesU.flatten := by
  simp [flushHead, applyEffects, flushFsEffects, applyEffect, histFlushEffect, priorTx]

theorem tailEq_flush {chain : List Block} {a b a' b' : Sys} (f : FilesInv chain a) (R : ResEq a b)
    {Nh Nc Nx : Nat} (T : TailEq Nh Nc Nx a.p b.p) {fu : Bool}
    {cfg : Cfg} (ha : stepOp2 cfg a (.flush fu) = .ok a') (hb : stepOp2 cfg b (.flush fu) = .ok b') :
    TailEq Nh Nc Nx a'.p b'.p := by
  obtain ⟨es, m', hf, rfl⟩ := flush_ok ha
  obtain ⟨es', m'', hf', rfl⟩ := flush_ok hb
  rw [R.flushDbs, hf] at hf'
  cases hf'
  show TailEq Nh Nc Nx (applyEffects a.p es) (applyEffects b.p es)
  have T1 : TailEq Nh Nc Nx (applyEffects a.p (flushHead a)) (applyEffects b.p (flushHead a)) := by
    obtain ⟨a1, a2, a3⟩ := flushHead_files a.p a
    obtain ⟨b1, b2, b3⟩ := flushHead_files b.p a
    rw [priorTx_eq f] at a3 b3
    exact ⟨by rw [a1, b1]; exact drop_fileWrite_congr _ R.headers T.headers,
      by rw [a2, b2]; exact drop_fileWrite_congr _ R.txcounts T.txcounts,
      by rw [a3, b3]; exact drop_fileWrite_congr _ R.hashes T.hashes⟩
  rcases flushDbs_cases hf with ⟨rfl, -⟩ | ⟨-, -, -, -, rfl | rfl⟩
  · exact T
  · exact T1
  · rw [applyEffects_append, applyEffects_append]
    exact T1.of_files (files_two rfl rfl _) (files_two rfl rfl _)

theorem tailEq_step {cfg : Cfg} {chain : List Block} {a b a' b' : Sys} (inv : FullInv cfg chain a)
    (R : ResEq a b) {Nh Nc Nx : Nat} (T : TailEq Nh Nc Nx a.p b.p) (op : IOp2)
    (ha : stepOp2 cfg a op = .ok a') (hb : stepOp2 cfg b op = .ok b') : TailEq Nh Nc Nx a'.p b'.p := by
  by_cases hop : ∃ fu, op = .flush fu
  · obtain ⟨fu, rfl⟩ := hop
    exact tailEq_flush inv.files R T ha hb
  · have hop' : ∀ fu, op ≠ .flush fu := fun fu h => hop ⟨fu, h⟩
    exact T.of_files (files_step hop' ha) (files_step hop' hb)

theorem resEq_run_tail {cfg : Cfg} (ops : List IOp2) {t : Track} {a b : Sys} (ti : TrackInv cfg t a)
    (R : ResEq a b) {Nh Nc Nx : Nat} (T : TailEq Nh Nc Nx a.p b.p) (hv : ValidOps2 cfg t ops) :
    ∃ a' b', runOps2 cfg a ops = .ok a' ∧ runOps2 cfg b ops = .ok b' ∧
      TrackInv cfg (t.run cfg ops) a' ∧ ResEq a' b' ∧ TailEq Nh Nc Nx a'.p b'.p := by
  refine run_pair (Rel := fun t a b => TrackInv cfg t a ∧ ResEq a b ∧ TailEq Nh Nc Nx a.p b.p)
    (fun op h hop => ?_) ops ⟨ti, R, T⟩ hv
  obtain ⟨a', b', ha, hb, ti', R'⟩ := resEq_okStep h.1 h.2.1 op hop
  exact ⟨a', b', ha, hb, ti', R', tailEq_step h.1.inv.base h.2.1 h.2.2 op ha hb⟩

/-- the two stores hold the same data; the history state record up to "absent = all defaults" -/
structure StoreEqv (p q : Store) : Prop where
  h : q.h = p.h
  u : q.u = p.u
  undo : q.undo = p.undo
  ustate : q.ustate = p.ustate
  hist : q.hist = p.hist
  hstate : q.hstate.getD {} = p.hstate.getD {}
  headers : q.headers = p.headers
  txcounts : q.txcounts = p.txcounts
  hashes : q.hashes = p.hashes

theorem StoreEqv.eq {p q : Store} (e : StoreEqv p q) : q = { p with hstate := q.hstate } := by
  cases q
  cases p
  simp only [Store.mk.injEq, true_and]
  exact ⟨e.h, e.u, e.undo, e.ustate, e.hist, e.headers, e.txcounts, e.hashes⟩

/-- **Equal outright.**  Once the file pointers have passed the tail bound, idle `ResEq` states have
the same store. -/
theorem storeEqv_of_tail {a b : Sys} (R : ResEq a b) {Nh Nc Nx : Nat} (T : TailEq Nh Nc Nx a.p b.p)
    (ha : EV.Compact.DiskShape a.p) (hb : EV.Compact.DiskShape b.p) (h1 : Nh ≤ (a.m.fsHeight + 1).toNat)
    (h2 : Nc ≤ (a.m.fsHeight + 1).toNat) (h3 : Nx ≤ a.m.fsTxCount) : StoreEqv a.p b.p :=
  ⟨R.h, R.u, R.undo, R.ustate, R.hist, hstate_eq_of_idle R ha hb,
    eq_of_take_drop R.headers T.headers h1, eq_of_take_drop R.txcounts T.txcounts h2,
    eq_of_take_drop R.hashes T.hashes h3⟩


def InWin (Nh Nc Nx : Nat) : Effect → Prop
  | .writeHeaders off d => off + d.length ≤ Nh
  | .writeTxCounts off d => off + d.length ≤ Nc
  | .writeHashes off d => off + d.length ≤ Nx
  | _ => True

theorem TailEq.applyEffect {Nh Nc Nx : Nat} {p q : Store} {e : Effect}
    (he : InWin Nh Nc Nx e) (T : TailEq Nh Nc Nx p q) : TailEq Nh Nc Nx p (applyEffect q e) := by
  rw [applyEffect_eq]
  cases e with
  | writeHeaders off d => exact ⟨(drop_fileWrite_of_le d he).trans T.headers, T.txcounts, T.hashes⟩
  | writeTxCounts off d => exact ⟨T.headers, (drop_fileWrite_of_le d he).trans T.txcounts, T.hashes⟩
  | writeHashes off d => exact ⟨T.headers, T.txcounts, (drop_fileWrite_of_le d he).trans T.hashes⟩
  | histBatch dels puts st | utxoBatch d hp up ud upp st | putUState st =>
    exact ⟨T.headers, T.txcounts, T.hashes⟩

theorem InWin.torn {Nh Nc Nx : Nat} (e t : Effect) (he : InWin Nh Nc Nx e)
    (ht : t ∈ tornPrefixes e) : InWin Nh Nc Nx t := by
  rcases mem_tornPrefixes ht with ⟨off, d, j, rfl, rfl⟩ | ⟨off, d, j, rfl, rfl⟩ | ⟨off, d, j, rfl, rfl⟩ <;>
    exact Nat.le_trans (Nat.add_le_add_left (List.length_take_le' j d) off) he

theorem flush_inWin {chain : List Block} {s : Sys} (f : FilesInv chain s) {fu : Bool}
    {es : List Effect} {m' : Mem} (hf : flushDbs s fu = some (es, m')) :
    ∀ e ∈ es, InWin (s.m.st.height + 1).toNat (s.m.st.height + 1).toNat s.m.st.txCount e := by
  obtain ⟨a1, a2, a3⟩ := flushFs_ends f
  rw [← priorTx_eq f] at a3
  exact forall_flushDbs hf
    (forall_flushHead s (Nat.le_of_eq a1) (Nat.le_of_eq a2) (Nat.le_of_eq a3) trivial)
    (fun _ => ⟨trivial, trivial⟩)

/-- **After any cut of a flush the files agree with the uncut store from the old tip on**: the flush
writes below the tip only. -/
theorem tailEq_of_cut {chain : List Block} {s : Sys} (f : FilesInv chain s) {fu : Bool}
    {es : List Effect} {m' : Mem} (hf : flushDbs s fu = some (es, m')) {c : List Effect}
    (hc : c ∈ cuts es) :
    TailEq (s.m.st.height + 1).toNat (s.m.st.height + 1).toNat s.m.st.txCount s.p (applyEffects s.p c) :=
  cuts_invariant TailEq.applyEffect InWin.torn (flush_inWin f hf) hc
    ⟨rfl, rfl, rfl⟩

theorem ResEq.trans {a b c : Sys} (R1 : ResEq a b) (R2 : ResEq b c) : ResEq a c := by
  refine ⟨R2.m.trans R1.m, R1.st.trans ?_⟩
  have := R2.st
  rw [R1.m] at this
  exact this

/-- the run invariant only looks at the committed part of the files -/
theorem fullInv'_of_resEq {cfg : Cfg} {chain : List Block} {K : List Nat} {a b : Sys}
    (inv : FullInv' cfg chain K a) (R : ResEq a b) : FullInv' cfg chain K b := by
  obtain ⟨bm, bp⟩ := b
  have hm : bm = a.m := R.m
  subst hm
  have base := inv.base
  have f := base.files
  obtain ⟨D, Del, w⟩ := base.rep
  exact
    { inv with
      base :=
        { base with
          rep := ⟨D, Del, repSysW_congr w R.h R.u rfl rfl (fun u hu => by
            show (fsTxHash _ _).1 = _
            rw [fsTxHash_of_resEq f R]
            exact w.res u hu)⟩
          hist := histInv_congr base.hist R.hist
          files := filesInv_of_resEq f R
          ustate := by
            show (bp.ustate = none ∧ a.m.dbst = {}) ∨ bp.ustate = some a.m.dbst
            rw [show bp.ustate = a.p.ustate from R.ustate]
            exact base.ustate }
      undo := undoInv_congr inv.undo (fun k _ =>
        undoLookup_congr (s := a) (s' := ⟨a.m, bp⟩) rfl R.undo k)
      hstate := (R.hfc).trans inv.hstate
      histIds := fun h e he => inv.histIds h e (by rw [← show bp.hist = a.p.hist from R.hist]; exact he)
      db := dbInv_congr inv.db R.h R.u (by rw [show bp.hist = a.p.hist from R.hist]) rfl }

theorem trackInv_of_resEq {cfg : Cfg} {t : Track} {a b : Sys} (ti : TrackInv cfg t a) (R : ResEq a b) :
    TrackInv cfg t b :=
  ⟨fullInv'_of_resEq ti.inv R, R.m ▸ ti.db⟩

end EV.Index
