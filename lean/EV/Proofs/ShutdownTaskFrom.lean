import EV.Proofs.ShutdownTaskStop
import EV.Proofs.ShutdownTaskValid

/-!
Task-level shutdown model: what holds along every run of the task started on an index state `s0` —
the empty index at the very first start, the database an earlier process left behind at every
restart.  `t0` is the bookkeeping of `s0` (`TrackInv cfg t0 s0`), needed only where the environment
hypothesis is.
-/
namespace EV.ShutdownTask
open EV.Index

variable {s0 : Sys} {t0 : Track} {cfg : Cfg} {evs : List Ev} {fl st st' : St} {e : Ev}

theorem inv_run (h : run cfg { sys := s0 } evs = some st) : Inv s0 cfg st :=
  run_induct (P := fun _ s => Inv s0 cfg s) (inv_init s0 cfg) (fun _ _ _ _ _ => inv_step) evs st h

theorem good_run (ti0 : TrackInv cfg t0 s0) (h : run cfg { sys := s0 } evs = some st)
    (henv : EnvOk cfg t0 (att st.log)) : Inv s0 cfg st ∧ Good t0 cfg st.log := by
  have := run_induct (P := fun _ s => Inv s0 cfg s ∧ GoodIf t0 cfg s.log) (cfg := cfg)
    ⟨inv_init s0 cfg, fun _ => ⟨trivial, fun _ h => nomatch h⟩⟩
    (fun _ _ _ _ _ p hs => ⟨inv_step p.1 hs, goodIf_step ti0 p.1 p.2 hs⟩) evs st h
  exact ⟨this.1, this.2 henv⟩

theorem drained (w : Shape st) (hf : st.finished = true) : st.inner = none ∧ st.lock = false := by
  have hin : st.inner = none := by
    cases hin : st.inner with
    | none => rfl
    | some x =>
      unfold St.finished at hf
      rcases w.outer_of_inner hin with ⟨p, ho, -⟩ | ho <;> rw [ho] at hf <;> cases hf
  exact ⟨hin, by rw [w.lock, hin]; rfl⟩

theorem finished_of_todo (w : Shape st) (hc : st.cancelled = true) (h0 : todo st = 0) :
    st.finished = true := by
  rcases w.outer_of_cancelled hc with ho | ho | ho
  · have := todo_handler_pos ho; omega
  all_goals simp [St.finished, ho]

theorem stops_of_shape (cfg : Cfg) (w : Shape st) :
    (st.outer = .handler → ∃ e, e.isWork = true ∧ (step cfg st e).isSome = true) ∧
    (st.cancelled = true → ∀ evs' st', run cfg st evs' = some st' →
      workCount evs' + todo st' ≤ todo st ∧ todo st ≤ 11) ∧
    (st.cancelled = true → todo st = 0 → st.finished = true) :=
  ⟨stop_enabled cfg w, fun hc _ _ h' => ⟨stop_bound w hc h', todo_le st⟩, finished_of_todo w⟩

/-! In a state that satisfies the invariants and whose log is admissible (`good_run`): -/

theorem valid_of_good (p : Inv s0 cfg st ∧ Good t0 cfg st.log) :
    ValidOps2 cfg t0 (att st.log) ∧ runOps2 cfg s0 (att st.log) = .ok st.sys ∧
      (∀ e ∈ st.log, e.2 = true) ∧ st.ok = true ∧ (st.outer = .died → st.log = []) :=
  ⟨p.2.valid, runOps2_att p.1 p.2, p.2.allOk,
    Bool.of_not_eq_false fun h => p.2.not_failed (p.1.err.ok h),
    fun hd => (p.1.err.died hd).resolve_right p.2.not_failed⟩

theorem flushed_of_good (p : Inv s0 cfg st ∧ Good t0 cfg st.log) (hr : st.outer = .returned) :
    ∃ done, Rem st.innerAtCancel done ∧ att st.log = att st.logAtCancel ++ done ++ [.flush true] := by
  obtain ⟨done, hrem, ⟨h1, -⟩ | ⟨h1, -⟩⟩ := p.1.after.returned hr
  · exact ⟨done, hrem, h1⟩
  · exact absurd (p.1.err.ok h1) p.2.not_failed

theorem kept_of_good (p : Inv s0 cfg st ∧ Good t0 cfg st.log) (hr : st.outer = .returned) :
    (pendingBackup st.innerAtCancel = none →
      chainOf2 t0.chain t0.dbLen (att st.logAtCancel) <+: chainOf2 t0.chain t0.dbLen (att st.log)) ∧
    (∀ b, pendingBackup st.innerAtCancel = some b →
      chainOf2 t0.chain t0.dbLen (att st.log) =
        (chainOf2 t0.chain t0.dbLen (att st.logAtCancel)).dropLast) := by
  obtain ⟨done, hrem, hlog⟩ := flushed_of_good p hr
  have hc : (Track.run cfg t0 (att st.log)).chain =
      ((Track.run cfg t0 (att st.logAtCancel)).run cfg done).chain := by
    rw [hlog, Track.run_append, Track.run_append]; rfl
  rw [← Track.run_chain cfg t0, ← Track.run_chain cfg t0, hc]
  exact rem_chain cfg _ hrem

end EV.ShutdownTask
