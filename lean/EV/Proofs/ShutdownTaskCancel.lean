import EV.Proofs.ShutdownTaskInv

/-!
Task-level shutdown model: what happens after the shutdown request — the section in flight
completes, then the handler's flush runs, then the task returns.
-/
namespace EV.ShutdownTask
open EV.Index

/-- The operations an inner task (the section in flight) may still carry out, as a function of
its state.  An `advance_and_maybe_flush` section: nothing (the block does not connect and no flush
is requested), the advance, the advance and a flush, or only a flush (the block does not connect,
`reorg_count = -1`, but the cache-size loop has requested a flush). -/
def Rem : Option Inner → List IOp2 → Prop
  | none, r => r = []
  | some (.wantLock sec), r =>
    match sec with
    | .adv b => r = [] ∨ (∃ d, r = [.adv b d]) ∨ (∃ d a, r = [.adv b d, .flush a]) ∨ ∃ a, r = [.flush a]
    | .flush => r = [.flush true]
    | .backup b => r = [.backup b]
    | .safe => r = []
  | some (.job _ j), r =>
    match j with
    | .adv b => r = [] ∨ (∃ d, r = [.adv b d]) ∨ (∃ d a, r = [.adv b d, .flush a]) ∨ ∃ a, r = [.flush a]
    | .flush a => r = [.flush a]
    | .backup b => r = [.backup b]
  | some (.jobDone _ j err), r =>
    match j, err with
    | .adv _, none => r = [] ∨ ∃ a, r = [.flush a]
    | _, _ => r = []

theorem rem_jobEnd {sec : Sec} {j : JobK} {err : Option Err} {r : List IOp2} (dH : Int)
    (h : Rem (some (.jobDone sec j err)) r) : Rem (some (.job sec j)) ((j.op dH).to2 :: r) := by
  cases j with
  | adv b =>
    cases err with
    | none =>
      rcases h with rfl | ⟨a, rfl⟩
      · exact .inr (.inl ⟨dH, rfl⟩)
      · exact .inr (.inr (.inl ⟨dH, a, rfl⟩))
    | some _ => cases h; exact .inr (.inl ⟨dH, rfl⟩)
  | flush a => cases h; rfl
  | backup b => cases h; rfl

theorem rem_jobSkip {sec : Sec} {b : Block} {r : List IOp2}
    (h : Rem (some (.jobDone sec (.adv b) none)) r) : Rem (some (.job sec (.adv b))) r := by
  rcases h with rfl | ⟨a, rfl⟩
  · exact .inl rfl
  · exact .inr (.inr (.inr ⟨a, rfl⟩))

theorem rem_secEnd (sec : Sec) (j : JobK) (err : Option Err) : Rem (some (.jobDone sec j err)) [] := by
  cases j <;> cases err <;> first | rfl | exact .inl rfl

/-- the inner slot holds the handler's own section (`flush_if_safe`), not the section in flight -/
def isSafe : Option Inner → Bool
  | some i => decide (i.sec = .safe)
  | none => false

/-- what the log looks like, relative to the log at the request, in each phase of the handler -/
structure AfterCancel (st : St) : Prop where
  /-- the handler waits for the lock: the section in flight goes on.  `done` is what it has done since
      the request; the clause speaks of every `r` it may still do, so that at its end (`r = []`) `done`
      itself is a `Rem` of the section at the request (`AfterCancel.waited`) -/
  waiting : st.outer = .handler → isSafe st.inner = false →
    ∃ done, att st.log = att st.logAtCancel ++ done ∧
      ∀ r, Rem st.inner r → Rem st.innerAtCancel (done ++ r)
  flushing : st.outer = .handler → ∀ j, st.inner = some (.job .safe j) →
    ∃ done, att st.log = att st.logAtCancel ++ done ∧ Rem st.innerAtCancel done
  flushed : st.outer = .handler → ∀ j e, st.inner = some (.jobDone .safe j e) →
    ∃ done, att st.log = att st.logAtCancel ++ done ++ [.flush true] ∧ Rem st.innerAtCancel done ∧
      (e = none → ∃ pre, st.log = pre ++ [(.flush true, true)])
  returned : st.outer = .returned →
    ∃ done, Rem st.innerAtCancel done ∧
      ((att st.log = att st.logAtCancel ++ done ++ [.flush true] ∧
          ∃ pre, st.log = pre ++ [(.flush true, true)]) ∨
       (st.ok = false ∧ att st.log = att st.logAtCancel ++ done))

variable {cfg : Cfg} {fl st st' : St} {e : Ev}

theorem afterCancel_of_out (h1 : st.outer ≠ .handler) (h2 : st.outer ≠ .returned) :
    AfterCancel st :=
  ⟨fun h => absurd h h1, fun h => absurd h h1, fun h => absurd h h1, fun h => absurd h h2⟩

theorem afterCancel_init (s0 : Sys) : AfterCancel { sys := s0 } :=
  afterCancel_of_out (fun h => nomatch h) (fun h => nomatch h)

theorem AfterCancel.wait_step (a : AfterCancel st) (ho : st.outer = .handler)
    (hs : isSafe st.inner = false) (ho' : st'.outer = .handler) (hs' : isSafe st'.inner = false)
    (hlc : st'.logAtCancel = st.logAtCancel) (hic : st'.innerAtCancel = st.innerAtCancel)
    {ops : List IOp2} (hlog : att st'.log = att st.log ++ ops)
    (hrem : ∀ r, Rem st'.inner r → Rem st.inner (ops ++ r)) : AfterCancel st' := by
  obtain ⟨done, hd1, hd2⟩ := a.waiting ho hs
  refine ⟨fun _ _ => ⟨done ++ ops, ?_, ?_⟩, ?_, ?_, ?_⟩
  · rw [hlog, hd1, hlc, List.append_assoc]
  · intro r hr; rw [hic, List.append_assoc]; exact hd2 _ (hrem r hr)
  · intro _ j hj; rw [hj] at hs'; cases hs'
  · intro _ j e hj; rw [hj] at hs'; cases hs'
  · intro h; rw [ho'] at h; cases h

/-- a step of a section of the main flow: before the request nothing is claimed; after it the handler
    is waiting for the lock -/
theorem AfterCancel.sec_step (w : Shape st) (a : AfterCancel st) {i : Inner}
    (hin : st.inner = some i) (hs : i.sec ≠ .safe) (ho' : st'.outer = st.outer)
    (hs' : isSafe st'.inner = false) (hlc : st'.logAtCancel = st.logAtCancel)
    (hic : st'.innerAtCancel = st.innerAtCancel) {ops : List IOp2}
    (hlog : att st'.log = att st.log ++ ops) (hrem : ∀ r, Rem st'.inner r → Rem (some i) (ops ++ r)) :
    AfterCancel st' := by
  by_cases ho : st.outer = .handler
  · exact a.wait_step ho (by rw [hin]; exact decide_eq_false hs) (ho'.trans ho) hs' hlc hic hlog
      (hin ▸ hrem)
  · refine afterCancel_of_out (ho' ▸ ho) (ho' ▸ fun hr => ?_)
    rcases w.outer_of_inner hin with ⟨p, h, -⟩ | h <;> cases h.symm.trans hr

theorem AfterCancel.job_end (w : Shape st) (a : AfterCancel st) {sec : Sec} {j : JobK}
    (hin : st.inner = some (.job sec j)) (d : Int) {err : Option Err} {ok : Bool}
    (ho' : st'.outer = st.outer) (hin' : st'.inner = some (.jobDone sec j err))
    (hlc : st'.logAtCancel = st.logAtCancel) (hic : st'.innerAtCancel = st.innerAtCancel)
    (hlog : st'.log = st.log ++ [(j.op d, ok)]) (hok : err = none → ok = true) :
    AfterCancel st' := by
  by_cases hns : sec = .safe
  · subst hns
    cases (w.wf _ hin : j = .flush true)
    have ho := w.safe _ hin rfl
    obtain ⟨done, hd1, hd2⟩ := a.flushing ho _ hin
    refine ⟨?_, ?_, ?_, ?_⟩
    · intro _ h; rw [hin'] at h; cases h
    · intro _ _ h; rw [hin'] at h; cases h
    · intro _ _ _ h
      rw [hin'] at h
      cases h
      refine ⟨done, ?_, hic ▸ hd2, fun hn => ⟨st.log, ?_⟩⟩
      · rw [hlog, att_append, hd1, hlc]; rfl
      · rw [hlog, hok hn]; rfl
    · intro h; rw [ho', ho] at h; cases h
  · refine a.sec_step w hin hns ho' (by rw [hin']; exact decide_eq_false hns) hlc hic
      (ops := [(j.op d).to2]) (by rw [hlog, att_append]; rfl) (fun r hr => ?_)
    rw [hin'] at hr
    exact rem_jobEnd d hr

theorem AfterCancel.waited (a : AfterCancel st) (ho : st.outer = .handler) (hi : st.inner = none) :
    ∃ done, att st.log = att st.logAtCancel ++ done ∧ Rem st.innerAtCancel done := by
  obtain ⟨done, hd1, hd2⟩ := a.waiting ho (by rw [hi]; rfl)
  have := hd2 [] (by rw [hi]; rfl)
  rw [List.append_nil] at this
  exact ⟨done, hd1, this⟩

theorem afterCancel_step (w : Shape st) (a : AfterCancel st) (h : Step cfg fl st e st') :
    AfterCancel st' := by
  cases h
  case pressure | forceReorg => exact ⟨a.waiting, a.flushing, a.flushed, a.returned⟩
  case cancel hcf =>
    -- the request: nothing has been done since; the handler's own section does not exist yet
    have hnh : st.outer ≠ .handler := fun ho => nomatch hcf.symm.trans (w.cancelled_of_outer (.inl ho))
    refine ⟨fun _ _ => ⟨[], (List.append_nil _).symm, fun r hr => hr⟩, ?_, ?_, (fun h => nomatch h)⟩
    · intro _ j hj; exact absurd (w.safe _ hj rfl) hnh
    · intro _ j e hj; exact absurd (w.safe _ hj rfl) hnh
  case innerStart sec hin hs =>
    exact a.sec_step w hin hs rfl (decide_eq_false hs) rfl rfl (ops := []) (List.append_nil _).symm
      (fun r hr => by cases sec <;> first | exact hr | exact absurd rfl hs)
  case secFlush hin =>
    exact a.sec_step w hin (fun h => nomatch h) rfl rfl rfl rfl (ops := []) (List.append_nil _).symm
      (fun r hr => .inr ⟨_, hr⟩)
  case jobSkip sec b d hin =>
    have hns : sec ≠ .safe := by rintro rfl; cases (w.wf _ hin : JobK.adv b = .flush true)
    exact a.sec_step w hin hns rfl (decide_eq_false hns) rfl rfl (ops := [])
      (List.append_nil _).symm (fun r hr => rem_jobSkip hr)
  case jobOk hin _ _ => exact a.job_end w hin _ rfl rfl rfl rfl rfl (fun _ => rfl)
  case jobErr hin _ _ => exact a.job_end w hin _ rfl rfl rfl rfl rfl (fun h => nomatch h)
  case hStart ho hi =>
    obtain ⟨done, hd1, hrem⟩ := a.waited ho hi
    exact ⟨(fun _ h => nomatch h), fun _ _ _ => ⟨done, hd1, hrem⟩, (fun _ _ _ h => nomatch h),
      (fun h => nomatch ho.symm.trans h)⟩
  case hSkip ho hi hok =>
    obtain ⟨done, hd1, hrem⟩ := a.waited ho hi
    exact ⟨(fun h => nomatch h), (fun h => nomatch h), (fun h => nomatch h),
      fun _ => ⟨done, hrem, .inr ⟨hok, hd1⟩⟩⟩
  case handlerEnd err hin =>
    obtain ⟨done, hd1, hd2, hd3⟩ := a.flushed (w.safe _ hin rfl) _ _ hin
    cases err with
    | none =>
      exact ⟨(fun h => nomatch h), (fun h => nomatch h), (fun h => nomatch h),
        fun _ => ⟨done, hd2, .inl ⟨hd1, hd3 rfl⟩⟩⟩
    | some _ => exact afterCancel_of_out (fun h => nomatch h) (fun h => nomatch h)
  case secDrop hin hns hna =>
    have ho := (w.outer_of_inner hin).resolve_left fun ⟨p, h, _⟩ => hna p h
    exact a.wait_step ho (by rw [hin]; exact decide_eq_false hns) ho rfl rfl rfl (ops := [])
      (List.append_nil _).symm (fun r hr => by rw [hr, hin]; exact rem_secEnd _ _ _)
  -- the outer task ends up neither in the handler nor returned: nothing is claimed
  case move m => cases m <;> exact afterCancel_of_out (fun h => nomatch h) (fun h => nomatch h)
  all_goals exact afterCancel_of_out (fun h => nomatch h) (fun h => nomatch h)

theorem rem_chain (cfg : Cfg) (t : Track) {i : Option Inner} {done : List IOp2} (h : Rem i done) :
    (pendingBackup i = none → t.chain <+: (t.run cfg done).chain) ∧
    (∀ b, pendingBackup i = some b → (t.run cfg done).chain = t.chain.dropLast) := by
  have hadv : ∀ b (done : List IOp2),
      (done = [] ∨ (∃ d, done = [.adv b d]) ∨ (∃ d a, done = [.adv b d, .flush a]) ∨ ∃ a, done = [.flush a]) →
      t.chain <+: (t.run cfg done).chain := by
    intro b done hd
    rcases hd with rfl | ⟨d, rfl⟩ | ⟨d, a, rfl⟩ | ⟨a, rfl⟩
    · exact List.prefix_refl _
    · exact List.prefix_append _ _
    · exact List.prefix_append _ _
    · exact List.prefix_refl _
  cases i with
  | none => simp only [Rem] at h; subst h; simp [pendingBackup, Track.run]
  | some i =>
    cases i with
    | wantLock sec =>
      cases sec with
      | adv b => exact ⟨fun _ => hadv b done h, by simp [pendingBackup]⟩
      | flush => simp only [Rem] at h; subst h; simp [pendingBackup, Track.run, Track.step]
      | backup b => simp only [Rem] at h; subst h; simp [pendingBackup, Track.run, Track.step]
      | safe => simp only [Rem] at h; subst h; simp [pendingBackup, Track.run]
    | job sec j =>
      cases j with
      | adv b => exact ⟨fun _ => hadv b done h, by simp [pendingBackup]⟩
      | flush a => simp only [Rem] at h; subst h; simp [pendingBackup, Track.run, Track.step]
      | backup b => simp only [Rem] at h; subst h; simp [pendingBackup, Track.run, Track.step]
    | jobDone sec j err =>
      simp only [Rem] at h
      split at h
      · rcases h with rfl | ⟨a, rfl⟩ <;> simp [pendingBackup, Track.run, Track.step]
      · subst h; simp [pendingBackup, Track.run]

def CancelWf (st : St) : Prop := ∀ i, st.innerAtCancel = some i → InnerWf i ∧ i.sec ≠ .safe

theorem cancelWf_step (w : Shape st) (a : CancelWf st) (h : Step cfg fl st e st') :
    CancelWf st' := by
  cases h
  -- the handler's own section exists only after the request
  case cancelStart hcf _ | cancel hcf =>
    exact fun i hi => ⟨w.wf i hi, fun hs => nomatch hcf.symm.trans (w.cancelled_of_outer (.inl (w.safe i hi hs)))⟩
  all_goals exact a

end EV.ShutdownTask
