import EV.Proofs.IndexStore

/-!
What a flushed store answers: `all_utxos` reads exactly the represented UTXO list when the cache and
the delete queue are empty (the state after any full flush).
-/
namespace EV.Index
open EV.Spec

theorem RepSysW.rowsOf_flushed {s : Sys} {U D : List Utxo} (w : RepSysW s U D [])
    (hc : s.m.cache = []) : RowsOf s U := by
  -- nothing cached, nothing queued for deletion: the represented list is what the rows hold
  have hmem : ∀ u, u ∈ U ↔ u ∈ D := fun u =>
    ⟨fun hu => (w.inU u hu).elim (fun h => by simp [hc] at h) (·.2.1), fun hu => (w.dbU u hu (by simp)).1⟩
  exact {
    nodup := w.uNodup
    hRows := fun e => by simp only [w.hRows e, hmem]
    uRows := fun e => by simp only [w.uRows e, hmem]
    uKeys := w.uKeys
    res := fun u hu => w.res u ((hmem u).mp hu) }

theorem RowsOf.uRows_perm {s : Sys} {V : List Utxo} (r : RowsOf s V) :
    s.p.u.Perm (V.map (fun u => (ukey u, u.value))) := by
  -- same `u` key: same output index and tx number, hence the same UTXO
  have hnd : (V.map (fun u => (ukey u, u.value))).Nodup := by
    refine nodup_map_of_keys opOf _ V r.nodup fun a ha b hb heq => ?_
    have h1 : ukey a = ukey b := congrArg Prod.fst heq
    rw [r.eq_of_idx_txnum ha hb (congrArg (fun k => k.2.1) h1) (congrArg (fun k => k.2.2) h1)]
  refine (List.perm_ext_iff_of_nodup (nodup_of_nodup_map (·.1) r.uKeys) hnd).mpr fun e => ?_
  rw [r.uRows e, List.mem_map]
  exact ⟨fun ⟨u, hu, h⟩ => ⟨u, hu, h.symm⟩, fun ⟨u, hu, h⟩ => ⟨u, hu, h.symm⟩⟩

/-- the row `all_utxos` makes of a `u` entry whose tx number resolves -/
def rowOfEntry (s : Sys) (e : UKey × Nat) : UtxoRow :=
  ⟨e.1.2.2, e.1.2.1, (resolve s e.1.2.2).getD 0, (fsTxHash s e.1.2.2).2, e.2⟩

theorem rowOfEntry_ukey {s : Sys} {u : Utxo} (h : resolve s u.txnum = some u.txid) :
    rowOfEntry s (ukey u, u.value) = ⟨u.txnum, u.idx, u.txid, (fsTxHash s u.txnum).2, u.value⟩ := by
  simp only [rowOfEntry, ukey, h, Option.getD_some]

theorem allUtxos_eq_map {s : Sys} {D : List Utxo}
    (hrows : ∀ e ∈ s.p.u, ∃ u ∈ D, e = (ukey u, u.value))
    (hres : ∀ u ∈ D, resolve s u.txnum = some u.txid) (hx : HashX) :
    allUtxos s hx = some ((s.p.u.filter (fun e => e.1.1 == hx)).map (rowOfEntry s)) := by
  refine mapM_option_eq_some _ _ _ fun e he => ?_
  obtain ⟨u, hu, rfl⟩ := hrows e (List.mem_filter.mp he).1
  have h := hres u hu
  rw [rowOfEntry_ukey h]
  rw [resolve] at h
  simp only [ukey]
  generalize fsTxHash s u.txnum = r at h ⊢
  obtain ⟨a, b⟩ := r
  obtain rfl : a = some u.txid := h
  rfl

theorem allUtxos_rows {s : Sys} {V : List Utxo} (r : RowsOf s V) (hx : HashX) :
    ∃ rows, allUtxos s hx = some rows ∧
      rows.Perm ((V.filter (fun u => u.hx == hx)).map
        (fun u => ⟨u.txnum, u.idx, u.txid, (fsTxHash s u.txnum).2, u.value⟩)) := by
  refine ⟨_, allUtxos_eq_map (fun e he => (r.uRows e).mp he) r.res hx, ?_⟩
  refine ((r.uRows_perm.filter _).map (rowOfEntry s)).trans (.of_eq ?_)
  rw [List.filter_map, List.map_map]
  apply List.map_congr_left
  intro u hu
  exact rowOfEntry_ukey (r.res u (List.mem_filter.mp hu).1)

theorem allUtxos_flushed {s : Sys} {U D : List Utxo} (w : RepSysW s U D [])
    (hc : s.m.cache = []) (hx : HashX) :
    ∃ rows, allUtxos s hx = some rows ∧
      rows.Perm ((U.filter (fun u => u.hx == hx)).map
        (fun u => ⟨u.txnum, u.idx, u.txid, (fsTxHash s u.txnum).2, u.value⟩)) :=
  allUtxos_rows (w.rowsOf_flushed hc) hx

end EV.Index
