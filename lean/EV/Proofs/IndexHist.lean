import EV.Proofs.IndexLogic
import EV.Proofs.CompactStore

/-!
History side of the index (`History.add_unflushed / flush / backup / get_txnums`) and the spec's
`historyOf`: what each of the four does to the tx numbers `get_txnums` returns for a hashX.
`add_unflushed` and `historyOf` are both stated over one function `touchNums`, whose append law stands
in for `List.range` arithmetic.  `flush` and `backup` are described hashX by hashX on the rows in
flush-id order (`Compact.rowsOf`, the vocabulary of the compaction proofs): which rows the batch
leaves in the table (`Compact.mem_histBatch`, `mem_histBatch_flatMap`), and `Compact.rowsOf_char` to
read the sorted list off that.
-/
namespace EV.Index
open EV.Spec

/-- tx numbers (from `first`) of the entries of `l` that contain `hx` -/
def touchNums : List (List HashX) → Nat → HashX → List Nat
  | [], _, _ => []
  | hxs :: r, first, hx => (if hxs.contains hx then [first] else []) ++ touchNums r (first + 1) hx

theorem touchNums_eq (l : List (List HashX)) (first : Nat) (hx : HashX) :
    touchNums l first hx =
      ((List.range l.length).filter (fun k => (l.getD k []).contains hx)).map (first + ·) := by
  induction l generalizing first with
  | nil => simp [touchNums]
  | cons hxs r ih =>
    have hshift : ∀ k, first + 1 + k = first + (k + 1) := fun k => by omega
    rw [touchNums, ih, List.length_cons, List.range_succ_eq_map, List.filter_cons, List.filter_map,
      List.getD_cons_zero]
    split <;>
      simp only [List.map_cons, List.map_map, Function.comp_def, hshift, Nat.add_zero, List.cons_append,
        List.nil_append, Nat.succ_eq_add_one, List.getD_cons_succ]

theorem touchNums_append (a b : List (List HashX)) (first : Nat) (hx : HashX) :
    touchNums (a ++ b) first hx = touchNums a first hx ++ touchNums b (first + a.length) hx := by
  induction a generalizing first with
  | nil => simp [touchNums]
  | cons x a ih =>
    simp only [List.cons_append, touchNums, ih, List.length_cons, List.append_assoc]
    congr 3
    omega

theorem touchNums_ge (l : List (List HashX)) (first : Nat) (hx : HashX) :
    ∀ n ∈ touchNums l first hx, first ≤ n := by
  intro n hn
  rw [touchNums_eq] at hn
  obtain ⟨k, -, rfl⟩ := List.mem_map.mp hn
  exact Nat.le_add_right _ _

theorem touchNums_of_not_mem {l : List (List HashX)} {hx : HashX} (h : hx ∉ l.flatten) (first : Nat) :
    touchNums l first hx = [] := by
  induction l generalizing first with
  | nil => rfl
  | cons hxs r ih =>
    rw [List.flatten_cons, List.mem_append, not_or] at h
    rw [touchNums, ih h.2, if_neg (by simpa using h.1)]
    rfl

def unfOf (unf : List (HashX × List Nat)) (hx : HashX) : List Nat := (alookup hx unf).getD []

theorem unfOf_nil (hx : HashX) : unfOf [] hx = [] := rfl

theorem unfOf_inner (n : Nat) (hxs : List HashX) (hn : hxs.Nodup) (unf : List (HashX × List Nat))
    (hx : HashX) :
    unfOf (hxs.foldl (fun unf hx => ainsert hx ((alookup hx unf).getD [] ++ [n]) unf) unf) hx =
      unfOf unf hx ++ (if hxs.contains hx then [n] else []) := by
  induction hxs generalizing unf with
  | nil => simp
  | cons a r ih =>
    rw [List.nodup_cons] at hn
    rw [List.foldl_cons, ih hn.2]
    by_cases h : a = hx
    · subst h
      simp [unfOf, alookup_ainsert, hn.1]
    · simp [unfOf, alookup_ainsert, h, Ne.symm h]

theorem nodup_keys_inner (n : Nat) (hxs : List HashX) (unf : List (HashX × List Nat))
    (h : (unf.map (·.1)).Nodup) :
    ((hxs.foldl (fun unf hx => ainsert hx ((alookup hx unf).getD [] ++ [n]) unf) unf).map (·.1)).Nodup :=
  List.foldlRecOn (motive := fun t : List (HashX × List Nat) => (t.map (·.1)).Nodup) hxs _ h
    fun _ h _ _ => nodup_keys_ainsert _ _ h

theorem unfOf_addUnflushed (unf : List (HashX × List Nat)) (hxsByTx : List (List HashX))
    (first : Nat) (hx : HashX) :
    unfOf (addUnflushed unf hxsByTx first) hx = unfOf unf hx ++ touchNums hxsByTx first hx := by
  induction hxsByTx generalizing unf first with
  | nil => simp [addUnflushed, touchNums]
  | cons hxs r ih =>
    have := ih (hxs.eraseDups.foldl (fun unf hx => ainsert hx ((alookup hx unf).getD [] ++ [first]) unf) unf)
      (first + 1)
    simp only [addUnflushed, List.zipIdx_cons, List.foldl_cons] at this ⊢
    rw [this, unfOf_inner first _ (nodup_eraseDups hxs), touchNums, List.append_assoc]
    simp

theorem nodup_keys_addUnflushed (unf : List (HashX × List Nat)) (hxsByTx : List (List HashX))
    (first : Nat) (h : (unf.map (·.1)).Nodup) :
    ((addUnflushed unf hxsByTx first).map (·.1)).Nodup :=
  List.foldlRecOn (motive := fun t : List (HashX × List Nat) => (t.map (·.1)).Nodup) _ _ h
    fun unf h x _ => nodup_keys_inner x.2 _ unf h

theorem historyOf_eq_touchNums (S : St) (hx : HashX) :
    historyOf S hx = touchNums S.touched 0 hx := by
  rw [touchNums_eq]; simp [historyOf]

theorem blockTouched_length (act height : Nat) (S : St) (txs : List Tx) :
    (blockTouched act height S txs).length = txs.length := by
  induction txs generalizing S with
  | nil => rfl
  | cons t r ih => simp [blockTouched, ih]

theorem historyOf_foldl (act height : Nat) (S : St) (txs : List Tx)
    (hlen : S.touched.length = S.txs.length) (hx : HashX) :
    historyOf (txs.foldl (applyTx act height) S) hx =
      historyOf S hx ++ touchNums (blockTouched act height S txs) S.txs.length hx := by
  rw [historyOf_eq_touchNums, historyOf_eq_touchNums, foldl_touched, touchNums_append, Nat.zero_add,
    hlen]

theorem historyOf_foldl_untouched (act height : Nat) (S : St) (txs : List Tx)
    (hlen : S.touched.length = S.txs.length) (hx : HashX)
    (h : hx ∉ (blockTouched act height S txs).flatten) :
    historyOf (txs.foldl (applyTx act height) S) hx = historyOf S hx := by
  rw [historyOf_foldl act height S txs hlen hx, touchNums_of_not_mem h, List.append_nil]

theorem historyOf_lt (S : St) (hx : HashX) : ∀ n ∈ historyOf S hx, n < S.touched.length := by
  intro n hn
  simp only [historyOf, List.mem_filter, List.mem_range] at hn
  exact hn.1

theorem historyOf_pairwise (S : St) (hx : HashX) : (historyOf S hx).Pairwise (· < ·) := by
  simp only [historyOf]
  exact List.Pairwise.filter _ List.pairwise_lt_range


open EV.Compact (Row NodupKeys rowsOf getTxnums_eq mem_rowsOf rowsOf_char rowsOf_congr rowsOf_pairwise_le
  rowsOf_pairwise_lt mem_histBatch mem_histBatch_sub mem_histBatch_flatMap nodupKeys_histBatch nodupKeys_sort_filter)

theorem getTxnums_some (p : Store) (hx : HashX) (k : Nat) :
    getTxnums p hx (some k) = (getTxnums p hx none).take k := rfl

structure HistWF (hist : List ((HashX × Nat) × List Nat)) (flushCount : Nat) : Prop where
  keys : (hist.map (·.1)).Nodup
  -- the next flush writes under id `flushCount + 1`: it must find no row there to overwrite (`exStale`)
  ids : ∀ e ∈ hist, e.1.2 ≤ flushCount

theorem HistWF.mono {hist : List Row} {a b : Nat} (h : HistWF hist a) (hab : a ≤ b) : HistWF hist b :=
  ⟨h.keys, fun e he => Nat.le_trans (h.ids e he) hab⟩

theorem hist_histFlush (s : Sys) :
    (applyEffect s.p (histFlushEffect s)).hist =
      ((sortByKey s.m.unflushed).map (fun (hx, nums) => ((hx, s.m.histFlush + 1), nums))).foldl
        (fun hs (k, v) => ainsert k v hs) s.p.hist := rfl

theorem hstate_histFlush (s : Sys) :
    (applyEffect s.p (histFlushEffect s)).hstate =
      some { hstateOf s.m with flushCount := s.m.histFlush + 1 } := rfl

theorem others_histFlush (s : Sys) :
    applyEffect s.p (histFlushEffect s) =
      { s.p with hist := (applyEffect s.p (histFlushEffect s)).hist,
                 hstate := (applyEffect s.p (histFlushEffect s)).hstate } := rfl

theorem mem_puts_histFlush {unf : List (HashX × List Nat)} {fid : Nat} {e : Row} :
    e ∈ (sortByKey unf).map (fun (hx, nums) => ((hx, fid), nums)) ↔ (e.1.1, e.2) ∈ unf ∧ e.1.2 = fid := by
  simp only [List.mem_map, sortByKey, List.mem_mergeSort]
  constructor
  · rintro ⟨x, hx, rfl⟩; exact ⟨hx, rfl⟩
  · rintro ⟨h1, rfl⟩; exact ⟨_, h1, rfl⟩

theorem mem_hist_histFlush (s : Sys) {e : Row} (he : e ∈ (applyEffect s.p (histFlushEffect s)).hist) :
    e ∈ s.p.hist ∨ ((e.1.1, e.2) ∈ s.m.unflushed ∧ e.1.2 = s.m.histFlush + 1) :=
  (mem_histBatch_sub s.p [] _ _ e he).symm.imp_right mem_puts_histFlush.mp

theorem histWF_histFlush (s : Sys) (hwf : HistWF s.p.hist s.m.histFlush) :
    HistWF (applyEffect s.p (histFlushEffect s)).hist (s.m.histFlush + 1) := by
  refine ⟨nodupKeys_histBatch s.p [] _ _ hwf.keys, fun e he => ?_⟩
  rcases mem_hist_histFlush s he with h | h
  · exact Nat.le_succ_of_le (hwf.ids e h)
  · exact Nat.le_of_eq h.2

/-- with distinct `unflushed` keys nothing put is overwritten, and no old row is: its id is smaller -/
theorem mem_hist_histFlush_iff (s : Sys) (hwf : HistWF s.p.hist s.m.histFlush)
    (hunf : (s.m.unflushed.map (·.1)).Nodup) (e : Row) :
    e ∈ (applyEffect s.p (histFlushEffect s)).hist ↔
      e ∈ s.p.hist ∨ ((e.1.1, e.2) ∈ s.m.unflushed ∧ e.1.2 = s.m.histFlush + 1) := by
  have hputs : NodupKeys ((sortByKey s.m.unflushed).map
      (fun (hx, nums) => ((hx, s.m.histFlush + 1), nums))) := by
    unfold NodupKeys
    rw [List.map_map]
    exact nodup_map_of_keys (·.1) _ _ (((List.mergeSort_perm _ _).map _).nodup_iff.mpr hunf)
      fun a _ b _ h => congrArg (·.1) h
  refine (mem_histBatch s.p [] _ _ hputs e).trans ?_
  rw [mem_puts_histFlush, or_comm]
  refine or_congr_left ⟨fun h => h.1, fun h => ⟨h, List.not_mem_nil, fun hm => ?_⟩⟩
  obtain ⟨e', he', hk⟩ := List.mem_map.mp hm
  have := hwf.ids e h
  rw [← hk, (mem_puts_histFlush.mp he').2] at this
  exact Nat.not_succ_le_self _ this

theorem rowsOf_histFlush (s : Sys) (hwf : HistWF s.p.hist s.m.histFlush)
    (hunf : (s.m.unflushed.map (·.1)).Nodup) (hx : HashX) :
    rowsOf (applyEffect s.p (histFlushEffect s)).hist hx =
      rowsOf s.p.hist hx ++
        ((alookup hx s.m.unflushed).map fun v => ((hx, s.m.histFlush + 1), v)).toList := by
  refine rowsOf_char (histWF_histFlush s hwf).keys hx _ ?_ fun e => ?_
  · refine List.pairwise_append.mpr ⟨rowsOf_pairwise_lt hwf.keys hx, ?_, fun a ha b hb => ?_⟩
    · cases alookup hx s.m.unflushed <;> simp
    · obtain ⟨v, -, rfl⟩ := Option.map_eq_some_iff.mp (Option.mem_toList.mp hb)
      exact Nat.lt_succ_of_le (hwf.ids a (mem_rowsOf.mp ha).1)
  · rw [List.mem_append, mem_rowsOf, mem_hist_histFlush_iff s hwf hunf, or_and_right, Option.mem_toList]
    refine or_congr_right ⟨fun h => ?_, fun h => ?_⟩
    · obtain ⟨v, hv, rfl⟩ := Option.map_eq_some_iff.mp h
      exact ⟨⟨alookup_some_mem hv, rfl⟩, rfl⟩
    · obtain ⟨⟨hm, hid⟩, rfl⟩ := h
      rw [alookup_of_mem_nodup hunf hm, ← hid]
      rfl

theorem getTxnums_histFlush (s : Sys) (hwf : HistWF s.p.hist s.m.histFlush)
    (hunf : (s.m.unflushed.map (·.1)).Nodup) (hx : HashX) :
    getTxnums (applyEffect s.p (histFlushEffect s)) hx none =
      getTxnums s.p hx none ++ unfOf s.m.unflushed hx := by
  rw [getTxnums_eq, getTxnums_eq, rowsOf_histFlush s hwf hunf, List.flatMap_append, unfOf]
  cases alookup hx s.m.unflushed <;> simp

namespace HistAux

theorem histBackupOne_pos (txCount : Nat) (k : HashX × Nat) (nums : List Nat) (rest : List Row)
    (h : bisectLeft nums txCount > 0) :
    histBackupOne txCount ((k, nums) :: rest) = ([], [(k, nums.take (bisectLeft nums txCount))]) := by
  simp [histBackupOne, h]

theorem histBackupOne_neg (txCount : Nat) (k : HashX × Nat) (nums : List Nat) (rest : List Row)
    (h : ¬ bisectLeft nums txCount > 0) :
    histBackupOne txCount ((k, nums) :: rest) =
      (k :: (histBackupOne txCount rest).1, (histBackupOne txCount rest).2) := by
  simp [histBackupOne, h]

/-- what the walk of `History.backup` leaves of the rows of one hashX (descending order) -/
def keepDesc (txCount : Nat) : List Row → List Row
  | [] => []
  | (k, nums) :: rest =>
    if bisectLeft nums txCount > 0 then (k, nums.take (bisectLeft nums txCount)) :: rest
    else keepDesc txCount rest

theorem histBackupOne_keys (txCount : Nat) (rd : List Row) (k : HashX × Nat) :
    k ∈ (histBackupOne txCount rd).1 ∨ k ∈ (histBackupOne txCount rd).2.map (·.1) →
      k ∈ rd.map (·.1) := by
  induction rd with
  | nil => simp [histBackupOne]
  | cons e rest ih =>
    obtain ⟨k', nums⟩ := e
    by_cases h : bisectLeft nums txCount > 0
    · rw [histBackupOne_pos _ _ _ _ h]
      rintro (hk | hk)
      · cases hk
      · exact List.mem_cons.mpr (Or.inl (List.mem_singleton.mp hk))
    · rw [histBackupOne_neg _ _ _ _ h]
      rintro (hk | hk)
      · exact (List.mem_cons.mp hk).elim (fun h => List.mem_cons.mpr (Or.inl h))
          fun h => List.mem_cons_of_mem _ (ih (Or.inl h))
      · exact List.mem_cons_of_mem _ (ih (Or.inr hk))

theorem nodupKeys_histBackupOne (txCount : Nat) (rd : List Row) : NodupKeys (histBackupOne txCount rd).2 := by
  induction rd with
  | nil => exact List.nodup_nil
  | cons e rest ih =>
    by_cases h : bisectLeft e.2 txCount > 0
    · rw [histBackupOne_pos _ _ _ _ h]; exact List.pairwise_singleton _ _
    · rw [histBackupOne_neg _ _ _ _ h]; exact ih

/-- the walk's deletes and its one put, applied to the rows it walked, leave `keepDesc` -/
theorem mem_keepDesc (txCount : Nat) {rd : List Row} (hn : NodupKeys rd) (e : Row) :
    e ∈ keepDesc txCount rd ↔ e ∈ (histBackupOne txCount rd).2 ∨
      (e ∈ rd ∧ e.1 ∉ (histBackupOne txCount rd).1 ∧ e.1 ∉ (histBackupOne txCount rd).2.map (·.1)) := by
  induction rd with
  | nil => simp [keepDesc, histBackupOne]
  | cons r rest ih =>
    obtain ⟨k, nums⟩ := r
    obtain ⟨hk, hrest⟩ := List.nodup_cons.mp hn
    have hne : e ∈ rest → e.1 ≠ k := fun he heq => hk (List.mem_map.mpr ⟨e, he, heq⟩)
    by_cases h : bisectLeft nums txCount > 0
    · rw [histBackupOne_pos _ _ _ _ h, keepDesc, if_pos h]
      simp only [List.mem_cons, List.not_mem_nil, or_false, not_false_eq_true, true_and,
        List.map_cons, List.map_nil]
      exact or_congr_right ⟨fun he => ⟨Or.inr he, hne he⟩,
        fun he => he.1.resolve_left fun h => he.2 (h ▸ rfl)⟩
    · rw [histBackupOne_neg _ _ _ _ h, keepDesc, if_neg h, ih hrest]
      simp only [List.mem_cons, not_or]
      exact or_congr_right ⟨fun he => ⟨Or.inr he.1, ⟨hne he.1, he.2.1⟩, he.2.2⟩,
        fun he => ⟨he.1.resolve_left fun h => he.2.1.1 (h ▸ rfl), he.2.1.2, he.2.2⟩⟩

theorem keepDesc_pairwise (txCount : Nat) {R : HashX × Nat → HashX × Nat → Prop} {rd : List Row}
    (h : rd.Pairwise (fun a b => R a.1 b.1)) :
    (keepDesc txCount rd).Pairwise (fun a b => R a.1 b.1) := by
  induction rd with
  | nil => exact List.Pairwise.nil
  | cons e rest ih =>
    rw [keepDesc]
    split
    · exact List.pairwise_cons.mpr (List.pairwise_cons.mp h)
    · exact ih (List.pairwise_cons.mp h).2

theorem take_bisectLeft (nums : List Nat) (x : Nat) :
    nums.take (bisectLeft nums x) = nums.takeWhile (· < x) := by
  induction nums with
  | nil => rfl
  | cons c cs ih =>
    rw [bisectLeft, List.takeWhile_cons]
    by_cases hc : c < x
    · rw [if_pos hc, Nat.add_comm, List.take_succ_cons, ih, decide_eq_true hc]; rfl
    · rw [if_neg hc, List.take_zero, decide_eq_false hc]; rfl

theorem keepDesc_flat (txCount : Nat) (rd : List Row)
    (hasc : (rd.reverse.flatMap (·.2)).Pairwise (· ≤ ·)) :
    (keepDesc txCount rd).reverse.flatMap (·.2) =
      (rd.reverse.flatMap (·.2)).takeWhile (· < txCount) := by
  induction rd with
  | nil => rfl
  | cons e rest ih =>
    obtain ⟨k, nums⟩ := e
    simp only [List.reverse_cons, List.flatMap_append, List.flatMap_cons, List.flatMap_nil,
      List.append_nil] at hasc ⊢
    obtain ⟨hrest, -, hcross⟩ := List.pairwise_append.mp hasc
    have hnums := take_bisectLeft nums txCount
    rw [keepDesc]
    split
    · next hb =>
      -- `nums` starts below `txCount`, so everything in the older rows is below it too
      cases nums with
      | nil => simp [bisectLeft] at hb
      | cons c cs =>
        have hc : c < txCount := by
          rw [bisectLeft] at hb
          split at hb
          · assumption
          · omega
        rw [List.reverse_cons, List.flatMap_append, List.flatMap_cons, List.flatMap_nil,
          List.append_nil, hnums, List.takeWhile_append_of_pos]
        intro a ha
        exact decide_eq_true (Nat.lt_of_le_of_lt (hcross a ha c List.mem_cons_self) hc)
    · next hb =>
      rw [Nat.eq_zero_of_not_pos hb, List.take_zero] at hnums
      rw [ih hrest, takeWhile_append_of_nil hnums.symm]

theorem mem_histRowsDesc {hist : List Row} {hx : HashX} {e : Row} :
    e ∈ histRowsDesc hist hx ↔ e ∈ hist ∧ e.1.1 = hx := by
  simp [histRowsDesc, List.mem_filter]

theorem histBackupOne_hx (txCount : Nat) (hist : List Row) (hx : HashX) (k : HashX × Nat)
    (hk : k ∈ (histBackupOne txCount (histRowsDesc hist hx)).1 ∨
      k ∈ (histBackupOne txCount (histRowsDesc hist hx)).2.map (·.1)) :
    k ∈ hist.map (·.1) ∧ k.1 = hx := by
  obtain ⟨e, he, rfl⟩ := List.mem_map.mp (histBackupOne_keys txCount _ k hk)
  exact ⟨List.mem_map_of_mem (mem_histRowsDesc.mp he).1, (mem_histRowsDesc.mp he).2⟩

theorem histRowsDesc_eq {hist : List Row} (hn : NodupKeys hist) (hx : HashX) :
    histRowsDesc hist hx = (rowsOf hist hx).reverse := by
  refine List.Perm.eq_of_pairwise (le := fun a b => b.1.2 ≤ a.1.2) ?_
    ((List.pairwise_mergeSort (fun a b c h1 h2 => keyLe_trans (fun e : Row => e.1.2) c b a h2 h1)
      (fun a b => keyLe_total (fun e : Row => e.1.2) b a) _).imp of_decide_eq_true)
    (List.pairwise_reverse.mpr (rowsOf_pairwise_le hist hx))
    ((List.mergeSort_perm _ _).trans ((List.reverse_perm _).trans (List.mergeSort_perm _ _)).symm)
  -- same members, both sorted by id, and ids are distinct within a hashX (`hn`): the same list
  intro a b ha hb h1 h2
  have ha' := mem_histRowsDesc.mp ha
  have hb' := mem_rowsOf.mp (List.mem_reverse.mp hb)
  exact eq_of_nodup_map hn ha'.1 hb'.1 (Prod.ext (ha'.2.trans hb'.2.symm) (Nat.le_antisymm h2 h1))

end HistAux
open HistAux

theorem histBackupEffect_eq (s : Sys) (touched : List HashX) (txCount : Nat) :
    histBackupEffect s touched txCount =
      .histBatch
        (((touched.eraseDups).mergeSort (fun a b => decide (a ≤ b))).flatMap
          fun hx => (histBackupOne txCount (histRowsDesc s.p.hist hx)).1)
        (((touched.eraseDups).mergeSort (fun a b => decide (a ≤ b))).flatMap
          fun hx => (histBackupOne txCount (histRowsDesc s.p.hist hx)).2)
        { hstateOf s.m with flushCount := s.m.histFlush + 1 } := by
  simp only [histBackupEffect, List.flatMap_map]

theorem hstate_histBackup (s : Sys) (touched : List HashX) (txCount : Nat) :
    (applyEffect s.p (histBackupEffect s touched txCount)).hstate =
      some { hstateOf s.m with flushCount := s.m.histFlush + 1 } := rfl

theorem others_histBackup (s : Sys) (touched : List HashX) (txCount : Nat) :
    applyEffect s.p (histBackupEffect s touched txCount) =
      { s.p with hist := (applyEffect s.p (histBackupEffect s touched txCount)).hist,
                 hstate := (applyEffect s.p (histBackupEffect s touched txCount)).hstate } := rfl

theorem nodup_keys_histBackup (s : Sys) (touched : List HashX) (txCount : Nat)
    (hkeys : (s.p.hist.map (·.1)).Nodup) :
    ((applyEffect s.p (histBackupEffect s touched txCount)).hist.map (·.1)).Nodup := by
  rw [histBackupEffect_eq]
  exact nodupKeys_histBatch _ _ _ _ hkeys

theorem keys_histBackup (s : Sys) (touched : List HashX) (txCount : Nat) :
    ∀ e ∈ (applyEffect s.p (histBackupEffect s touched txCount)).hist, e.1 ∈ s.p.hist.map (·.1) := by
  rw [histBackupEffect_eq]
  intro e he
  rcases mem_histBatch_sub _ _ _ _ e he with h | h
  · obtain ⟨hx', _, hp'⟩ := List.mem_flatMap.mp h
    exact (histBackupOne_hx txCount _ hx' e.1 (Or.inr (List.mem_map_of_mem hp'))).1
  · exact List.mem_map_of_mem h

theorem rowsOf_histBackup (s : Sys) (touched : List HashX) (txCount : Nat) (hn : NodupKeys s.p.hist)
    (hx : HashX) :
    rowsOf (applyEffect s.p (histBackupEffect s touched txCount)).hist hx =
      if hx ∈ touched then (keepDesc txCount (rowsOf s.p.hist hx).reverse).reverse
      else rowsOf s.p.hist hx := by
  have hn' := nodup_keys_histBackup s touched txCount hn
  have hmem : ∀ {hx}, hx ∈ (touched.eraseDups).mergeSort (fun a b => decide (a ≤ b)) ↔ hx ∈ touched := by
    intro hx; rw [List.mem_mergeSort, List.mem_eraseDups]
  obtain ⟨hin, hout⟩ := mem_histBatch_flatMap s.p { hstateOf s.m with flushCount := s.m.histFlush + 1 }
    (cs := (touched.eraseDups).mergeSort (fun a b => decide (a ≤ b))) (hxOf := id)
    (D := fun hx => (histBackupOne txCount (histRowsDesc s.p.hist hx)).1)
    (P := fun hx => (histBackupOne txCount (histRowsDesc s.p.hist hx)).2)
    (by rw [List.map_id]; exact (List.mergeSort_perm _ _).nodup_iff.mpr (nodup_eraseDups touched))
    (fun c _ k hk => (histBackupOne_hx txCount _ c k (Or.inl hk)).2)
    (fun c _ e he => (histBackupOne_hx txCount _ c e.1 (Or.inr (List.mem_map_of_mem he))).2)
    (fun c _ => nodupKeys_histBackupOne txCount _)
  rw [← histBackupEffect_eq] at hin hout
  split
  · next ht =>
    have hnrd : NodupKeys (histRowsDesc s.p.hist hx) := nodupKeys_sort_filter hn _ _
    refine rowsOf_char hn' hx _ ?_ fun e => ?_
    · rw [List.pairwise_reverse]
      exact keepDesc_pairwise txCount (R := fun a b => b.2 < a.2)
        (List.pairwise_reverse.mpr (rowsOf_pairwise_lt hn hx))
    · rw [List.mem_reverse, ← histRowsDesc_eq hn hx]
      -- a row of `keepDesc` is the walk's put or a walked row the batch keeps: `mem_keepDesc`
      -- against the batch's own account of the table, `hin`
      have hkey : e ∈ keepDesc txCount (histRowsDesc s.p.hist hx) → e.1.1 = hx := fun he =>
        ((mem_keepDesc txCount hnrd e).mp he).elim
          (fun h => (histBackupOne_hx txCount _ hx e.1 (Or.inr (List.mem_map_of_mem h))).2)
          (fun h => (mem_histRowsDesc.mp h.1).2)
      refine ⟨fun he => ⟨?_, hkey he⟩, fun he => ?_⟩
      · refine (hin hx (hmem.mpr ht) e (hkey he)).mpr (((mem_keepDesc txCount hnrd e).mp he).imp_right ?_)
        exact fun h => ⟨(mem_histRowsDesc.mp h.1).1, h.2⟩
      · refine (mem_keepDesc txCount hnrd e).mpr (((hin hx (hmem.mpr ht) e he.2).mp he.1).imp_right ?_)
        exact fun h => ⟨mem_histRowsDesc.mpr ⟨h.1, he.2⟩, h.2⟩
  · next ht =>
    exact rowsOf_congr hn hn' hx fun e he => hout e (by rw [List.map_id, he, hmem]; exact ht)

/-- no id grows: whatever bounds the flush ids before bounds them after -/
theorem histWF_histBackup (s : Sys) (touched : List HashX) (txCount : Nat) {fc : Nat}
    (hwf : HistWF s.p.hist fc) :
    HistWF (applyEffect s.p (histBackupEffect s touched txCount)).hist fc := by
  refine ⟨nodup_keys_histBackup s touched txCount hwf.keys, fun e he => ?_⟩
  obtain ⟨e', he', hek⟩ := List.mem_map.mp (keys_histBackup s touched txCount e he)
  rw [← hek]
  exact hwf.ids e' he'

theorem histWF_histBackup_succ (s : Sys) (touched : List HashX) (txCount : Nat)
    (hwf : HistWF s.p.hist s.m.histFlush) :
    HistWF (applyEffect s.p (histBackupEffect s touched txCount)).hist (s.m.histFlush + 1) :=
  (histWF_histBackup s touched txCount hwf).mono (Nat.le_succ _)

theorem getTxnums_histBackup_of_not_mem (s : Sys) (touched : List HashX) (txCount : Nat)
    (hkeys : (s.p.hist.map (·.1)).Nodup) {hx : HashX} (h : hx ∉ touched) :
    getTxnums (applyEffect s.p (histBackupEffect s touched txCount)) hx none = getTxnums s.p hx none := by
  rw [getTxnums_eq, getTxnums_eq, rowsOf_histBackup s touched txCount hkeys, if_neg h]

/-- Only key order being chronological order is used (the walk stops at the first row, from the top, that
    has an entry below `tx_count`), and compaction preserves that. -/
theorem getTxnums_histBackup_of_mem (s : Sys) (touched : List HashX) (txCount : Nat)
    (hkeys : (s.p.hist.map (·.1)).Nodup) {hx : HashX} (h : hx ∈ touched)
    (hasc : (getTxnums s.p hx none).Pairwise (· ≤ ·)) :
    getTxnums (applyEffect s.p (histBackupEffect s touched txCount)) hx none =
      (getTxnums s.p hx none).takeWhile (· < txCount) := by
  rw [getTxnums_eq] at hasc
  rw [getTxnums_eq, getTxnums_eq, rowsOf_histBackup s touched txCount hkeys, if_pos h, keepDesc_flat,
    List.reverse_reverse]
  rwa [List.reverse_reverse]

theorem getTxnums_histBackup' (s : Sys) (touched : List HashX) (txCount : Nat)
    (hkeys : (s.p.hist.map (·.1)).Nodup) (hx : HashX)
    (hasc : (getTxnums s.p hx none).Pairwise (· < ·)) :
    getTxnums (applyEffect s.p (histBackupEffect s touched txCount)) hx none =
      if hx ∈ touched then (getTxnums s.p hx none).filter (· < txCount)
      else getTxnums s.p hx none := by
  split
  · next h =>
    rw [getTxnums_histBackup_of_mem s touched txCount hkeys h (hasc.imp Nat.le_of_lt)]
    exact takeWhile_eq_filter _ (hasc.imp fun hab hb =>
      decide_eq_true (Nat.lt_trans hab (of_decide_eq_true hb)))
  · next h => exact getTxnums_histBackup_of_not_mem s touched txCount hkeys h

theorem asc_histBackup (s : Sys) (touched : List HashX) (txCount : Nat)
    (hwf : HistWF s.p.hist s.m.histFlush)
    (hasc : ∀ hx, (getTxnums s.p hx none).Pairwise (· < ·)) (hx : HashX) :
    (getTxnums (applyEffect s.p (histBackupEffect s touched txCount)) hx none).Pairwise (· < ·) := by
  rw [getTxnums_histBackup' s touched txCount hwf.keys hx (hasc hx)]
  split
  · exact (hasc hx).filter _
  · exact hasc hx

namespace HistAux

/-- a table with an *empty* row in the middle and an untouched neighbour -/
def exSys : Sys :=
  { m := { histFlush := 3, unflushed := [(8, [6]), (7, [6, 9])] },
    p := { hist := [((7, 1), [1, 2]), ((7, 2), []), ((7, 3), [5]), ((8, 3), [5])] } }

example : HistWF exSys.p.hist exSys.m.histFlush := ⟨by decide, by decide⟩
example : (exSys.m.unflushed.map (·.1)).Nodup := by decide
example : ∀ hx, (getTxnums exSys.p hx none).Pairwise (· < ·) := by
  intro hx
  -- the table as a whole is in flush-id order, so the rows of any `hx` already are
  have hs : (exSys.p.hist.filter (fun e => e.1.1 == hx)).Pairwise
      (fun a b => decide (a.1.2 ≤ b.1.2) = true) :=
    List.Pairwise.filter _ (by decide)
  rw [getTxnums_eq, rowsOf, List.mergeSort_of_pairwise hs]
  by_cases h7 : hx = 7
  · subst h7; decide
  · by_cases h8 : hx = 8
    · subst h8; decide
    · have : exSys.p.hist.filter (fun e => e.1.1 == hx) = [] := by simp [exSys, Ne.symm h7, Ne.symm h8]
      rw [this]; exact List.Pairwise.nil

example : getTxnums (applyEffect exSys.p (histFlushEffect exSys)) 7 none = [1, 2, 5, 6, 9] := by
  rw [getTxnums_histFlush exSys ⟨by decide, by decide⟩ (by decide), getTxnums_eq, rowsOf,
    List.mergeSort_of_pairwise (by decide)]
  decide

/-- backup on the example (duplicates in `touched`, empty row kept, row 3 deleted) -/
example : getTxnums (applyEffect exSys.p (histBackupEffect exSys [7, 7] 4)) 7 none = [1, 2] := by
  rw [getTxnums_histBackup' exSys _ _ (by decide), getTxnums_eq, rowsOf,
    List.mergeSort_of_pairwise (by decide)]
  · decide
  · rw [getTxnums_eq, rowsOf, List.mergeSort_of_pairwise (by decide)]; decide

/-- `HistWF.ids` is needed for `getTxnums_histFlush`: a stale row under the *next* flush id (what
    `History.clear_excess` removes when the DB is opened) is overwritten by the flush -/
def exStale : Sys := { m := { histFlush := 0, unflushed := [(7, [2])] }, p := { hist := [((7, 1), [1])] } }

example : getTxnums (applyEffect exStale.p (histFlushEffect exStale)) 7 none = [2] ∧
    getTxnums exStale.p 7 none ++ unfOf exStale.m.unflushed 7 = [1, 2] := by
  have hs : sortByKey exStale.m.unflushed = [(7, [2])] := List.mergeSort_singleton _
  rw [getTxnums_eq, getTxnums_eq, rowsOf, rowsOf, hist_histFlush, hs,
    List.mergeSort_of_pairwise (by decide), List.mergeSort_of_pairwise (by decide)]
  decide

/-- the ascending hypothesis is needed for `getTxnums_histBackup'`: the walk stops at the first row
    (from the top) that has an entry below `tx_count` and never looks at the rows under it -/
def exDesc : Sys := { m := { histFlush := 2 }, p := { hist := [((7, 1), [5]), ((7, 2), [1])] } }

example : getTxnums (applyEffect exDesc.p (histBackupEffect exDesc [7] 3)) 7 none = [5, 1] ∧
    (getTxnums exDesc.p 7 none).filter (· < 3) = [1] := by
  have hr : rowsOf exDesc.p.hist 7 = [((7, 1), [5]), ((7, 2), [1])] :=
    List.mergeSort_of_pairwise (by decide)
  -- the walk rewrites row 2 to `[1]` and stops; row 1 keeps its `[5]`
  rw [getTxnums_eq, getTxnums_eq, rowsOf_histBackup _ _ _ (by unfold NodupKeys; decide), hr]
  decide

end HistAux

end EV.Index
