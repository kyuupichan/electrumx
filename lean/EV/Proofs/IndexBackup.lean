import EV.Proofs.IndexLogic

/-!
`backup_block`'s loop inverts `advance_block`'s loop, over any UTXO store that satisfies `RepIface`:
run on a store representing the UTXO set *after* a valid block, with that block's undo list, it
yields a store representing the UTXO set *before* the block and consumes exactly the undo list.
Both loops walk a reversed list (the transactions, the inputs of each); the inductions run over the list in
order and carry what the loop still has in front of it (`rest`), so that no append law of the loops is needed.
-/
namespace EV.Index
open EV.Spec

theorem spendAll_perm (U : List Utxo) (ins : List TxIn) :
    U.Perm ((spendAll U ins).1 ++ (spendAll U ins).2) := by
  induction ins generalizing U with
  | nil => simp [spendAll]
  | cons i r ih =>
    simp only [spendAll]
    by_cases hg : i.isGen
    · simp only [hg, if_true]; exact ih U
    · simp only [hg]
      have h1 : U.Perm (U.filter (fun u => !names i u) ++ U.filter (names i)) := by
        have := List.filter_append_perm (fun u => names i u) U
        exact (this.symm.trans List.perm_append_comm)
      have h2 := ih (U.filter (fun u => !names i u))
      refine h1.trans ?_
      refine (List.Perm.append_right _ h2).trans ?_
      simp only [List.append_assoc, Bool.false_eq_true, if_false]
      exact List.Perm.append_left _ List.perm_append_comm

theorem filter_ne_append_cons {U R : List Utxo} {u : Utxo}
    (hn : ((U ++ u :: R).map opOf).Nodup) :
    (U ++ u :: R).filter (fun x => !decide (opOf x = opOf u)) = U ++ R := by
  rw [List.filter_append, List.filter_cons]
  simp only [decide_true, Bool.not_true, Bool.false_eq_true, if_false]
  rw [← List.filter_append]
  exact List.filter_eq_self.mpr fun x hx => by simpa using fresh_of_nodup hn x hx

theorem spendOutputs_rep {σ : Type} {ops : UOps σ} {RepS : σ → List Utxo → Prop}
    (I : RepIface ops RepS) (cfg : Cfg) (height : Nat) (txid : Hash) (n : Nat) (outs : List TxOut)
    (idx : Nat) (U : List Utxo) (a : Acc σ)
    (hrep : RepS a.s (U ++ newUtxos cfg.act height n txid outs idx)) :
    ∃ s', RepS s' U ∧
      spendOutputs ops cfg height txid outs idx a =
        .ok { a with s := s',
                     touched := a.touched ++ (newUtxos cfg.act height n txid outs idx).map (·.hx),
                     delta := a.delta - ((newUtxos cfg.act height n txid outs idx).length : Int) } := by
  induction outs generalizing idx a with
  | nil => exact ⟨a.s, by simpa [newUtxos] using hrep, by simp [spendOutputs, newUtxos]⟩
  | cons o r ih =>
    by_cases hun : unspendable cfg.act height o.kind
    · simp only [newUtxos, spendOutputs, hun, if_true] at hrep ⊢
      exact ih (idx + 1) a hrep
    · simp only [newUtxos, hun, Bool.false_eq_true, if_false] at hrep ⊢
      obtain ⟨s1, hsp, hrep1⟩ := I.spend hrep (List.mem_append_right U List.mem_cons_self)
      rw [filter_ne_append_cons (I.nodup hrep)] at hrep1
      have hsp' : ops.spend a.s txid idx = .ok (⟨o.hx, n, o.value⟩, s1) := hsp
      simp only [spendOutputs, hun, hsp', Bool.false_eq_true, if_false]
      -- the accumulator of the recursive call is read off the goal
      refine (ih (idx + 1) _ hrep1).imp fun s' h => ⟨h.1, h.2.trans ?_⟩
      simp only [List.map_cons, List.length_cons, List.append_assoc, List.singleton_append]
      congr 2
      omega

theorem restoreInputs_rep {σ : Type} {ops : UOps σ} {RepS : σ → List Utxo → Prop}
    (I : RepIface ops RepS) (ins : List TxIn) (U : List Utxo) (hU : (U.map opOf).Nodup)
    (hok : InputsOK U ins) (rest : List TxIn)
    (undo0 : List CacheVal) (a : Acc σ) (W : List Utxo)
    (hrep : RepS a.s W)
    (hn : ((W ++ (spendAll U ins).2).map opOf).Nodup) :
    ∃ M', RepS M' (W ++ (spendAll U ins).2.reverse) ∧
      restoreInputs ops (ins.reverse ++ rest) (undo0 ++ (spendAll U ins).2.map cvOf) a =
        restoreInputs ops rest undo0
          { a with s := M',
                   touched := a.touched ++ ((spendAll U ins).2.reverse).map (·.hx),
                   delta := a.delta + ((spendAll U ins).2.length : Int) } := by
  induction ins generalizing U undo0 a rest with
  | nil => exact ⟨a.s, by simpa [spendAll] using hrep, by simp [spendAll]⟩
  | cons i r ih =>
    rw [List.reverse_cons, List.append_assoc r.reverse, List.singleton_append]
    by_cases hg : i.isGen
    · simp only [InputsOK, spendAll, hg, if_true] at hok hn ⊢
      obtain ⟨M', h1, h2⟩ := ih U hU hok (i :: rest) undo0 a hrep hn
      exact ⟨M', h1, by rw [h2]; simp [restoreInputs, hg]⟩
    · obtain ⟨u, hu, hp1, hp2, hrest, hall⟩ := spendAll_cons_of_ok hU hg hok
      have hres := ih _ (List.Nodup.sublist (List.Sublist.map _ List.filter_sublist) hU) hrest
        (i :: rest) (undo0 ++ [cvOf u]) a hrep
      rw [hall] at hn ⊢
      generalize (spendAll (U.filter fun x => !decide (opOf x = opOf u)) r).2 = sp at hn hres ⊢
      -- `u` was spent first, so it is restored last, on top of the others
      obtain ⟨M1, h1, h2⟩ := hres (List.Nodup.sublist
        (List.Sublist.map _ (List.Sublist.append_left (List.sublist_cons_self _ _) _)) hn)
      refine ⟨ops.add M1 u.txid u.idx (cvOf u), by
        simpa [List.reverse_cons, List.append_assoc] using I.add u h1 fun x hx =>
          fresh_of_nodup hn x (by simpa using hx), ?_⟩
      rw [List.map_cons, List.append_cons undo0, h2]
      simp only [restoreInputs, hg, hp1, hp2, Bool.false_eq_true, if_false, List.getLast?_append,
        List.getLast?_singleton, Option.some_or, List.dropLast_concat]
      simp only [cvOf, List.reverse_cons, List.map_append, List.map_cons, List.map_nil,
        List.append_assoc, List.length_cons]
      congr 2
      omega

theorem backupTxs_inverts_then {σ : Type} {ops : UOps σ} {RepS : σ → List Utxo → Prop}
    (I : RepIface ops RepS) (cfg : Cfg) (height : Nat) (txs : List Tx) (S : St)
    (hS : (S.utxos.map opOf).Nodup) (hv : ValidTxs cfg.act height S txs) (rest : List Tx)
    (undo0 : List CacheVal) (a : Acc σ)
    (hrep : RepS a.s (txs.foldl (applyTx cfg.act height) S).utxos) :
    ∃ a', backupTxs ops cfg height (txs.reverse ++ rest) (undo0 ++ blockUndo cfg.act height S txs) a
            = backupTxs ops cfg height rest undo0 a' ∧
      RepS a'.s S.utxos ∧ a'.txNum = a.txNum + txs.length ∧
      a'.delta = a.delta - blockDelta cfg.act height S txs ∧
      (∀ hx, hx ∈ a.touched ∨ hx ∈ (blockTouched cfg.act height S txs).flatten → hx ∈ a'.touched) := by
  induction txs generalizing S a undo0 rest with
  | nil =>
    exact ⟨a, by simp [blockUndo], by simpa using hrep, by simp, by simp [blockDelta],
      by intro hx h; simpa [blockTouched] using h⟩
  | cons tx r ih =>
    obtain ⟨hin, hfresh, hrest⟩ := hv
    have hS1 := applyTx_nodup (act := cfg.act) (height := height) hS hfresh
    rw [List.foldl_cons] at hrep
    obtain ⟨a1, hb1, hrep1, hn1, hd1, ht1⟩ := ih (applyTx cfg.act height S tx) hS1 hrest (tx :: rest)
      (undo0 ++ (spendAll S.utxos tx.ins).2.map cvOf) a hrep
    rw [applyTx_eq] at hrep1
    obtain ⟨M2, hrep2, hso⟩ := spendOutputs_rep I cfg height tx.id S.txs.length tx.outs 0
      (spendAll S.utxos tx.ins).1 a1 hrep1
    have hperm := spendAll_perm S.utxos tx.ins
    obtain ⟨M3, hrep3, hri⟩ := restoreInputs_rep I tx.ins S.utxos hS hin [] undo0
      { a1 with s := M2,
                touched := a1.touched ++ (newUtxos cfg.act height S.txs.length tx.id tx.outs 0).map (·.hx),
                delta := a1.delta - ((newUtxos cfg.act height S.txs.length tx.id tx.outs 0).length : Int) }
      (spendAll S.utxos tx.ins).1 hrep2 ((hperm.map opOf).nodup_iff.mp hS)
    refine ⟨?_, ?eq, ?_, ?_, ?_, ?_⟩
    case eq =>
      rw [List.reverse_cons, List.append_assoc r.reverse, List.singleton_append, blockUndo,
        ← List.append_assoc undo0, hb1]
      rw [List.append_nil] at hri
      simp only [backupTxs, hso, hri, restoreInputs]
      rfl
    · exact I.perm hrep3 ((List.Perm.append_left _ (List.reverse_perm _)).trans hperm.symm)
    · simp only [hn1, List.length_cons]; omega
    · simp only [hd1, blockDelta]; omega
    · intro hx h
      simp only [List.mem_append, List.mem_map, List.mem_reverse]
      rcases h with h | h
      · exact Or.inl (Or.inl (ht1 hx (Or.inl h)))
      · simp only [blockTouched, List.flatten_cons, List.mem_append, List.mem_map] at h
        rcases h with (⟨x, hx1, rfl⟩ | ⟨x, hx1, rfl⟩) | h
        · exact Or.inr ⟨x, hx1, rfl⟩
        · exact Or.inl (Or.inr ⟨x, hx1, rfl⟩)
        · exact Or.inl (Or.inl (ht1 hx (Or.inr h)))

/-- **Undo is exact.**  `backup_block`'s loop, run on a store representing the UTXO set after a valid
block with that block's undo list appended to any `undo0`, succeeds, leaves exactly `undo0`, and
yields a store representing the UTXO set before the block. -/
theorem backupTxs_inverts {σ : Type} {ops : UOps σ} {RepS : σ → List Utxo → Prop}
    (I : RepIface ops RepS) (cfg : Cfg) (height : Nat) (txs : List Tx) (S : St)
    (hS : (S.utxos.map opOf).Nodup) (hv : ValidTxs cfg.act height S txs)
    (undo0 : List CacheVal) (a : Acc σ)
    (hrep : RepS a.s (txs.foldl (applyTx cfg.act height) S).utxos) :
    ∃ a', backupTxs ops cfg height txs.reverse (undo0 ++ blockUndo cfg.act height S txs) a
            = .ok (a', undo0) ∧
      RepS a'.s S.utxos ∧ a'.txNum = a.txNum + txs.length ∧
      a'.delta = a.delta - blockDelta cfg.act height S txs ∧
      (∀ hx, hx ∈ a.touched ∨ hx ∈ (blockTouched cfg.act height S txs).flatten → hx ∈ a'.touched) := by
  have h := backupTxs_inverts_then I cfg height txs S hS hv [] undo0 a hrep
  rwa [List.append_nil] at h

end EV.Index
