import EV.Proofs.CompactInv
import EV.Proofs.IndexOpen

/-!
Whole runs: the driver script (open-for-compacting, batches, `set_flush_count`), interruption
after any batch, resumption, normal server starts in between - as a list of events on the
*persistent* store - and the invariant `PInv` that every reachable store satisfies.
-/
namespace EV.Compact
open EV.Index

/-- the history DB's state record (defaults as `read_state` on an empty DB) -/
def hsOf (p : Store) : HState := p.hstate.getD {}
/-- `flush_count` of the history DB -/
def hF (p : Store) : Nat := (hsOf p).flushCount
/-- `flush_count` of the UTXO DB -/
def uF (p : Store) : Nat := (p.ustate.getD {}).flushCount

theorem hsOf_congr {p p' : Store} (h : p'.hstate = p.hstate) : hsOf p' = hsOf p :=
  congrArg (·.getD {}) h

theorem hsOf_of_hstate {p : Store} {st : HState} (h : p.hstate = some st) : hsOf p = st :=
  congrArg (·.getD {}) h

theorem hF_of_hstate {p : Store} {st : HState} (h : p.hstate = some st) : hF p = st.flushCount :=
  congrArg (·.flushCount) (hsOf_of_hstate h)

theorem uF_congr {p p' : Store} (h : p'.ustate = p.ustate) : uF p' = uF p :=
  congrArg (fun u => (u.getD {}).flushCount) h

/-- what holds of the store on disk at every point where a process (compaction or server) can start -/
structure PInv (maxRow : Nat) (p : Store) : Prop where
  nodup : NodupKeys p.hist
  width : HxWidth p.hist
  ordered : IdsOrdered p.hist (hF p) (hsOf p).compFlushCount (hsOf p).compCursor
  tight : IdsTight maxRow p (hsOf p).compCursor
  cfcTight : CfcTight maxRow p (hsOf p).compFlushCount
  notAhead : hF p ≤ uF p

theorem pinv_iff {maxRow : Nat} {p : Store} :
    PInv maxRow p ↔ HInv maxRow p (hF p) (hsOf p).compFlushCount (hsOf p).compCursor ∧ hF p ≤ uF p :=
  ⟨fun h => ⟨⟨h.nodup, h.width, h.ordered, h.tight, h.cfcTight⟩, h.notAhead⟩,
    fun ⟨h, hna⟩ => ⟨h.nodup, h.width, h.ordered, h.tight, h.cfcTight, hna⟩⟩

theorem pinv_of_hinv {maxRow : Nat} {q p' : Store} {st : HState} (h1 : p'.hist = q.hist) (h2 : hsOf p' = st)
    (hI : HInv maxRow q st.flushCount st.compFlushCount st.compCursor) (h3 : st.flushCount ≤ uF p') :
    PInv maxRow p' := by
  subst h2
  exact pinv_iff.mpr ⟨hI.congr h1, h3⟩

theorem pinv_congr {maxRow : Nat} {p p' : Store} (h1 : p'.hist = p.hist) (h2 : p'.hstate = p.hstate)
    (h3 : hF p ≤ uF p') (hP : PInv maxRow p) : PInv maxRow p' :=
  pinv_of_hinv h1 (hsOf_congr h2) (pinv_iff.mp hP).1 h3

theorem pinv_of_sinv {maxRow : Nat} {s : Sys} {p' : Store} (hI : SInv maxRow s) (h1 : p'.hist = s.p.hist)
    (h2 : p'.hstate = some (hstateOf s.m)) (h3 : s.m.histFlush ≤ uF p') : PInv maxRow p' :=
  pinv_of_hinv (st := hstateOf s.m) h1 (hsOf_of_hstate h2) (sinv_iff.mp hI) h3

/-- `_open_dbs` on a store whose history is not ahead of the UTXO DB: `clear_excess` is idle -/
theorem openDbs_spec (cfg : Cfg) (p : Store) (compacting : Bool) (keep : Option (List Nat))
    (es : List Effect) (s : Sys) (hna : hF p ≤ uF p)
    (h : openDbs cfg p compacting keep = some (es, s)) :
    s.p.hist = p.hist ∧ s.p.hstate = p.hstate ∧ s.p.ustate = p.ustate ∧ s.m.histFlush = hF p ∧
    s.m.compFlush = (if compacting then (hsOf p).compFlushCount else -1) ∧
    s.m.compCursor = (if compacting then (hsOf p).compCursor else -1) := by
  have hh : openHistState p = p.hstate.getD {} := by rw [openHistState_eq]; exact if_pos hna
  rw [openDbs_eq] at h
  obtain ⟨l, -, h⟩ := Option.map_eq_some_iff.mp h
  cases h
  refine ⟨by rw [openStore_hist, openStore1_of_le hna], by rw [openStore_hstate, openStore1_of_le hna],
    openStore_ustate cfg p, ?_⟩
  unfold openState
  rw [hh]
  cases compacting <;> exact ⟨rfl, rfl, rfl⟩

theorem driverLoop_done (maxRow : Nat) (limits : List Nat) (s : Sys) (h : s.m.compCursor = -1) :
    driverLoop maxRow limits s = (s, true) := by
  cases limits with
  | nil => simp [driverLoop, h]
  | cons l r => simp [driverLoop, h]

theorem driverLoop_snd (maxRow : Nat) (limits : List Nat) (s : Sys) :
    (driverLoop maxRow limits s).2 = decide ((driverLoop maxRow limits s).1.m.compCursor = -1) := by
  induction limits generalizing s with
  | nil => rfl
  | cons limit rest ih =>
    unfold driverLoop
    split
    · next h => exact (decide_eq_true h).symm
    · next h =>
      split
      · exact (decide_eq_false h).symm
      · exact ih _

/-- what is known after the driver loop, started in `s`, ended in `r`.  The last two clauses: either no
    batch was committed (`r = s`) or the history state record on disk is the one of the memory, written by
    the last batch; the flush count is unchanged, or the compaction has finished and the new one is a
    `CfcTight` value of the store started from -/
def LoopPost (maxRow : Nat) (s r : Sys) : Prop :=
  (∀ hx, getTxnums r.p hx none = getTxnums s.p hx none) ∧
  SInv maxRow r ∧ r.p.ustate = s.p.ustate ∧ hF r.p = r.m.histFlush ∧
  (r = s ∨ r.p.hstate = some (hstateOf r.m)) ∧
  (r.m.histFlush = s.m.histFlush ∨ (r.m.compCursor = -1 ∧ CfcTight maxRow s.p r.m.histFlush))

theorem loopPost_stay (maxRow : Nat) (s : Sys) (hI : SInv maxRow s) (hF0 : hF s.p = s.m.histFlush) :
    LoopPost maxRow s s :=
  ⟨fun _ => rfl, hI, rfl, hF0, Or.inl rfl, Or.inl rfl⟩

theorem driverLoop_inv (maxRow : Nat) (hm : 0 < maxRow) (limits : List Nat) (s : Sys)
    (hI : SInv maxRow s) (hF0 : hF s.p = s.m.histFlush) :
    LoopPost maxRow s (driverLoop maxRow limits s).1 := by
  induction limits generalizing s with
  | nil => exact loopPost_stay maxRow s hI hF0
  | cons limit rest ih =>
    unfold driverLoop
    split
    · exact loopPost_stay maxRow s hI hF0
    · split
      · exact loopPost_stay maxRow s hI hF0
      · next e s' hb =>
        obtain ⟨k, cfc', hB⟩ := compactHistory_ok maxRow limit s e s' hI.nodup hb
        have b1 := hB.rows.getTxnums hm hI.nodup
        obtain ⟨b2, b3⟩ := hB.sinv hm hI
        obtain ⟨i1, i2, i3, i4, i5, i6⟩ := ih s' b2 (hF_of_hstate hB.hstate)
        refine ⟨fun hx => by rw [i1, b1], i2, i3.trans hB.sameOther.2.2.2.1, i4, Or.inr ?_, ?_⟩
        · rcases i5 with i5 | i5
          · rw [i5]; exact hB.hstate
          · exact i5
        · -- after the final batch the rest of the loop does nothing
          rcases b3 with b3 | ⟨b3, b4⟩
          · exact i6.imp (·.trans b3) (And.imp_right (cfcTight_congr fun hx => (b1 hx).symm))
          · rw [driverLoop_done maxRow rest s' b3]
            exact Or.inr ⟨b3, b4⟩

/-- no hashX needs more than `F + 1` rows when compacted (ids `0 … F`) -/
def RowsFit (maxRow : Nat) (p : Store) (F : Nat) : Prop := ∀ hx, nchunks maxRow p hx ≤ F + 1

/-- every row id is at most the history flush count: the next `History.flush` id is new for every hashX -/
def AllIdsLE (p : Store) : Prop := ∀ e ∈ p.hist, e.1.2 ≤ hF p

theorem allIdsLE_of_idle {maxRow : Nat} {p : Store} (hP : PInv maxRow p) (hc : (hsOf p).compCursor = -1) :
    AllIdsLE p :=
  idsOrdered_idle.mp (hc ▸ hP.ordered)

theorem allIdsLE_of_fit {maxRow : Nat} {p : Store} (hP : PInv maxRow p) (hfit : RowsFit maxRow p (hF p)) :
    AllIdsLE p := by
  intro e he
  have ho := hP.ordered e he
  by_cases hlt : (prefixOf e.1.1 : Int) < (hsOf p).compCursor
  · have := hP.tight e he hlt
    have := hfit e.1.1
    omega
  · rw [if_neg hlt] at ho; exact ho

theorem compactScript_start {cfg : Cfg} {maxRow : Nat} {p : Store} {es : List Effect} {s : Sys}
    (hP : PInv maxRow p) (ho : openDbs cfg p true none = some (es, s)) :
    s.p.hist = p.hist ∧ s.p.hstate = p.hstate ∧ s.p.ustate = p.ustate ∧ s.m.histFlush = hF p ∧
    hF s.p = s.m.histFlush ∧ s.m.compCursor = (hsOf p).compCursor ∧
    SInv maxRow { s with m := driverInit s.m } := by
  obtain ⟨o1, o2, o3, o4, o5, o6⟩ := openDbs_spec cfg p true none es s hP.notAhead ho
  simp only [if_true] at o5 o6
  have hI : HInv maxRow s.p s.m.histFlush s.m.compFlush s.m.compCursor := by
    rw [o4, o5, o6]; exact (pinv_iff.mp hP).1.congr o1
  exact ⟨o1, o2, o3, o4, o4 ▸ congrArg (·.flushCount) (hsOf_congr o2), o6, sinv_iff.mpr hI.init⟩

/-- `compactScript` with the flag the loop returns replaced by what it says (`driverLoop_snd`) -/
theorem compactScript_eq (cfg : Cfg) (maxRow : Nat) (p : Store) (limits : List Nat) (b : Bool) :
    compactScript cfg maxRow p limits b =
      match openDbs cfg p true none with
      | none => p
      | some (_, s) =>
        if s.m.dbst.firstSync then s.p
        else if (driverLoop maxRow limits { s with m := driverInit s.m }).1.m.compCursor = -1 ∧ b = true then
          applyEffect (driverLoop maxRow limits { s with m := driverInit s.m }).1.p
            (setFlushCountEffect (driverLoop maxRow limits { s with m := driverInit s.m }).1)
        else (driverLoop maxRow limits { s with m := driverInit s.m }).1.p := by
  unfold compactScript
  cases openDbs cfg p true none with
  | none => rfl
  | some r =>
    obtain ⟨es, s⟩ := r
    have h := driverLoop_snd maxRow limits { s with m := driverInit s.m }
    simp only
    generalize driverLoop maxRow limits { s with m := driverInit s.m } = q at h ⊢
    obtain ⟨s', fin⟩ := q
    simp only at h ⊢
    rw [h]
    by_cases hc : s'.m.compCursor = -1 <;> cases b <;> simp [hc]

/-- `hok`: when `set_flush_count` is lost (`b = false`) the UTXO flush count has to cover every compacted
    row id (see `EvOK`) -/
theorem compactScript_inv (cfg : Cfg) (maxRow : Nat) (hm : 0 < maxRow) (p : Store) (limits : List Nat)
    (b : Bool) (hP : PInv maxRow p)
    (hok : b = true ∨ (1 ≤ uF p ∧ RowsFit maxRow p (uF p))) :
    (∀ hx, getTxnums (compactScript cfg maxRow p limits b) hx none = getTxnums p hx none) ∧
    PInv maxRow (compactScript cfg maxRow p limits b) := by
  rw [compactScript_eq]
  cases ho : openDbs cfg p true none with
  | none => exact ⟨fun _ => rfl, hP⟩
  | some r =>
    obtain ⟨es, s⟩ := r
    obtain ⟨o1, o2, o3, o4, hF0, _, hI⟩ := compactScript_start hP ho
    have hu : uF s.p = uF p := uF_congr o3
    have hPs : PInv maxRow s.p := pinv_congr o1 o2 (by rw [hu]; exact hP.notAhead) hP
    have hgs : ∀ hx, getTxnums s.p hx none = getTxnums p hx none := fun hx => getTxnums_congr o1 hx none
    simp only
    split
    · exact ⟨hgs, hPs⟩
    · obtain ⟨d1, d2, d3, _, d5, d6⟩ := driverLoop_inv maxRow hm limits _ hI hF0
      generalize (driverLoop maxRow limits { s with m := driverInit s.m }).1 = s' at *
      have hg' : ∀ hx, getTxnums s'.p hx none = getTxnums p hx none := fun hx => by rw [d1]; exact hgs hx
      have hcore : ∀ p' : Store, p'.hist = s'.p.hist → p'.hstate = s'.p.hstate →
          s'.m.histFlush ≤ uF p' → PInv maxRow p' := by
        intro p' h1 h2 h3
        rcases d5 with rfl | d5
        · exact pinv_congr h1 h2 (hF0 ▸ h3) hPs
        · exact pinv_of_sinv d2 h1 (h2.trans d5) h3
      split
      · -- `set_flush_count` rewrites the UTXO state record only, with the history flush count
        exact ⟨fun hx => (getTxnums_congr (q := s'.p) rfl hx none).trans (hg' hx), hcore _ rfl rfl (Nat.le_refl _)⟩
      · -- the UTXO state record stays: the history flush count is the old one, or the final batch's
        next hcase =>
        refine ⟨hg', hcore _ rfl rfl ?_⟩
        rw [uF_congr (d3.trans o3)]
        rcases d6 with d6 | ⟨d6, d7⟩
        · exact d6.trans o4 ▸ hP.notAhead
        · rcases hok with rfl | ⟨hok1, hok2⟩
          · exact absurd ⟨d6, rfl⟩ hcase
          · rcases cfcTight_congr (fun hx => (hgs hx).symm) d7 with t | ⟨hx, t⟩
            · omega
            · have := hok2 hx; omega

theorem serverStart_inv (cfg : Cfg) (maxRow : Nat) (p : Store) (hP : PInv maxRow p) :
    (∀ hx, getTxnums (serverStart cfg p) hx none = getTxnums p hx none) ∧
    PInv maxRow (serverStart cfg p) := by
  unfold serverStart
  cases ho : openDbs cfg p false none with
  | none => exact ⟨fun _ => rfl, hP⟩
  | some r =>
    obtain ⟨es, s⟩ := r
    obtain ⟨o1, o2, o3, _⟩ := openDbs_spec cfg p false none es s hP.notAhead ho
    exact ⟨fun hx => getTxnums_congr o1 hx none,
      pinv_congr o1 o2 (uF_congr o3 ▸ hP.notAhead) hP⟩

/-- what can happen to the database directory, one process at a time -/
inductive Ev where
  /-- a run of `electrumx_compact_history` that performs the batches with these limits and is then
      stopped or killed (or runs to the end, if the cursor wraps before the list is exhausted);
      `setFlush = false`: the process died between the final batch and `set_flush_count` -/
  | compact (limits : List Nat) (setFlush : Bool)
  /-- a normal start of the server (`open_for_sync` / `open_for_serving`), no block indexed -/
  | serverStart
deriving Repr

def runEv (cfg : Cfg) (maxRow : Nat) (p : Store) : Ev → Store
  | .compact limits b => compactScript cfg maxRow p limits b
  | .serverStart => serverStart cfg p

def runEvs (cfg : Cfg) (maxRow : Nat) (p : Store) (evs : List Ev) : Store :=
  evs.foldl (runEv cfg maxRow) p

/-- the side condition of an event, evaluated on the store it starts from.  Only a compaction run whose
    final `set_flush_count` is lost (`b = false`) has one: the UTXO flush count then stays, and must bound
    the history flush count the last batch installs — `1 ≤ uF p` and `RowsFit` answer the two cases of
    `CfcTight`. -/
def EvOK (maxRow : Nat) (p : Store) : Ev → Prop
  | .compact _ b => b = true ∨ (1 ≤ uF p ∧ RowsFit maxRow p (uF p))
  | .serverStart => True

def AllOK (cfg : Cfg) (maxRow : Nat) : Store → List Ev → Prop
  | _, [] => True
  | p, ev :: evs => EvOK maxRow p ev ∧ AllOK cfg maxRow (runEv cfg maxRow p ev) evs

theorem allOK_take (cfg : Cfg) (maxRow : Nat) (p : Store) (evs : List Ev) (n : Nat)
    (h : AllOK cfg maxRow p evs) : AllOK cfg maxRow p (evs.take n) := by
  induction evs generalizing p n with
  | nil => simp [AllOK]
  | cons ev evs ih =>
    cases n with
    | zero => simp [AllOK]
    | succ n => exact ⟨h.1, ih _ n h.2⟩

theorem allOK_of_setFlush (cfg : Cfg) (maxRow : Nat) (p : Store) (evs : List Ev)
    (h : ∀ limits b, Ev.compact limits b ∈ evs → b = true) : AllOK cfg maxRow p evs := by
  induction evs generalizing p with
  | nil => trivial
  | cons ev evs ih =>
    refine ⟨?_, ih _ (fun l b hm => h l b (List.mem_cons_of_mem _ hm))⟩
    cases ev with
    | compact l b => exact Or.inl (h l b List.mem_cons_self)
    | serverStart => trivial

theorem runEv_inv (cfg : Cfg) (maxRow : Nat) (hm : 0 < maxRow) (p : Store) (ev : Ev)
    (hP : PInv maxRow p) (hok : EvOK maxRow p ev) :
    (∀ hx, getTxnums (runEv cfg maxRow p ev) hx none = getTxnums p hx none) ∧
    PInv maxRow (runEv cfg maxRow p ev) := by
  cases ev with
  | compact limits b => exact compactScript_inv cfg maxRow hm p limits b hP hok
  | serverStart => exact serverStart_inv cfg maxRow p hP

theorem runEvs_inv (cfg : Cfg) (maxRow : Nat) (hm : 0 < maxRow) (p : Store) (evs : List Ev)
    (hP : PInv maxRow p) (hok : AllOK cfg maxRow p evs) :
    (∀ hx, getTxnums (runEvs cfg maxRow p evs) hx none = getTxnums p hx none) ∧
    PInv maxRow (runEvs cfg maxRow p evs) := by
  induction evs generalizing p with
  | nil => exact ⟨fun _ => rfl, hP⟩
  | cons ev evs ih =>
    obtain ⟨h1, h2⟩ := runEv_inv cfg maxRow hm p ev hP hok.1
    obtain ⟨i1, i2⟩ := ih (runEv cfg maxRow p ev) h2 hok.2
    exact ⟨fun hx => by unfold runEvs at *; rw [List.foldl_cons, i1, h1], by
      unfold runEvs at *; rw [List.foldl_cons]; exact i2⟩

end EV.Compact
