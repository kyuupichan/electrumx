import EV.Proofs.TxCodecTrunc

/-! Reader and serialiser are inverse to each other (`Codec`): `read ∘ serialize = id` on well-formed
values, where every varint written is minimal, and `serialize ∘ read = id` on buffers whose varints are
minimal, where every parsed value is in range of the packers.  The relation is closed under sequencing,
so each composite reader inherits it from its equation as a `seq` / `bind` chain. -/
namespace EV.TxCodec

theorem BytesOK_slice {buf : Bytes} (h : BytesOK buf) (a b : Nat) : BytesOK (slice buf a b) :=
  fun x hx => h x (List.mem_of_mem_drop (List.mem_of_mem_take hx))

theorem getElem?_lt {buf : Bytes} (h : BytesOK buf) {c m : Nat} (hm : buf[c]? = some m) : m < 256 :=
  h m (List.mem_of_getElem? hm)

theorem i32ToNat_natToI32 (m : Nat) (h : m < 4294967296) : i32ToNat (natToI32 m) = m :=
  (toTwos_ofTwos (M := 2147483648) h).1

theorem i64ToNat_natToI64 (m : Nat) (h : m < 18446744073709551616) : i64ToNat (natToI64 m) = m :=
  (toTwos_ofTwos (M := 9223372036854775808) h).1

theorem natToI32_range (m : Nat) (h : m < 4294967296) :
    -2147483648 ≤ natToI32 m ∧ natToI32 m < 2147483648 := (toTwos_ofTwos (M := 2147483648) h).2

theorem natToI64_range (m : Nat) (h : m < 18446744073709551616) :
    -9223372036854775808 ≤ natToI64 m ∧ natToI64 m < 9223372036854775808 :=
  (toTwos_ofTwos (M := 9223372036854775808) h).2

/-- The reader `r` and the serialiser `ser` are inverse to each other.  `dec`: where `ser x` stands in a
    buffer, `x` well-formed, `r` returns `x` and the cursor behind it, and the bytes there are canonical
    (`K`).  `enc`: a read of canonical bytes that ends inside the buffer returns a well-formed value
    whose serialisation is exactly the bytes read.  `K` is `noCanon` for formats with one encoding per value;
    `e ≤ buf.length` matters for readers that end in a silently truncating slice. -/
structure Codec {α : Type} (r : Reader α) (ser : α → Bytes) (Wf : α → Prop) (K : Bytes → Nat → Bool) :
    Prop where
  dec : ∀ {buf c x}, At buf c (ser x) → Wf x → r buf c = .ok (x, c + (ser x).length) ∧ K buf c = true
  enc : ∀ {buf c x e}, r buf c = .ok (x, e) → BytesOK buf → K buf c = true → e ≤ buf.length →
    At buf c (ser x) ∧ e = c + (ser x).length ∧ Wf x

def noCanon : Bytes → Nat → Bool := fun _ _ => true

section
variable {α β γ : Type} {r1 : Reader α} {s1 : α → Bytes} {W1 : α → Prop} {K1 : Bytes → Nat → Bool}

/-- A payload behind a head that it determines (`p`: its length, its number of items).  `hK` ties the
    canonicity predicate of the whole, one of the model's `canon*`, to those of the parts. -/
theorem Codec.bind (h1 : Codec r1 s1 W1 K1) {k : α → Reader β} (p : β → α) {s2 : β → Bytes}
    {W2 : α → β → Prop} {K2 : α → Bytes → Nat → Bool} (h2 : ∀ x, Codec (k x) s2 (W2 x) (K2 x))
    (hp : ∀ x y, W2 x y → p y = x) {ser : β → Bytes} {Wf : β → Prop} {K : Bytes → Nat → Bool}
    (hs : ∀ y, ser y = s1 (p y) ++ s2 y) (hw : ∀ y, Wf y ↔ W1 (p y) ∧ W2 (p y) y)
    (hK : ∀ {buf c x c1}, r1 buf c = .ok (x, c1) → (K buf c = true ↔ K1 buf c = true ∧ K2 x buf c1 = true)) :
    Codec (Reader.bind r1 k) ser Wf K where
  dec {buf c y} hat hwy := by
    rw [hs] at hat ⊢
    obtain ⟨w1, w2⟩ := (hw y).mp hwy
    obtain ⟨e1, k1⟩ := h1.dec hat.left w1
    obtain ⟨e2, k2⟩ := (h2 (p y)).dec hat.right w2
    rw [bind_of_ok e1, List.length_append, ← Nat.add_assoc]
    exact ⟨e2, (hK e1).mpr ⟨k1, k2⟩⟩
  enc {buf c y e} h hb hk he := by
    obtain ⟨x, c1, e1, e2⟩ := bind_ok.mp h
    obtain ⟨k1, k2⟩ := (hK e1).mp hk
    obtain ⟨a2, rfl, w2⟩ := (h2 x).enc e2 hb k2 he
    obtain rfl := hp x y w2
    obtain ⟨a1, rfl, w1⟩ := h1.enc e1 hb k1 (Nat.le_trans (Nat.le_add_right _ _) he)
    rw [hs, List.length_append, Nat.add_assoc]
    exact ⟨a1.append a2, rfl, (hw y).mpr ⟨w1, w2⟩⟩

/-- Two fields in a row, put together by `f`.  `ser` and `Wf` are the model's serialiser and
    well-formedness of the whole; for a structure constructor `f`, `hs` is `rfl` and `hf` is `⟨_, _, rfl⟩`. -/
theorem Codec.seq (h1 : Codec r1 s1 W1 K1) {r2 : Reader β} {s2 : β → Bytes} {W2 : β → Prop}
    {K2 : Bytes → Nat → Bool} (h2 : Codec r2 s2 W2 K2) {f : α → β → γ}
    {ser : γ → Bytes} {Wf : γ → Prop} {K : Bytes → Nat → Bool}
    (hf : ∀ z, Wf z → ∃ x y, f x y = z)
    (hs : ∀ x y, ser (f x y) = s1 x ++ s2 y) (hw : ∀ x y, Wf (f x y) ↔ W1 x ∧ W2 y)
    (hK : ∀ {buf c x c1}, r1 buf c = .ok (x, c1) → (K buf c = true ↔ K1 buf c = true ∧ K2 buf c1 = true)) :
    Codec (seq r1 r2 f) ser Wf K where
  dec {buf c z} hat hwz := by
    obtain ⟨x, y, rfl⟩ := hf z hwz
    rw [hs] at hat ⊢
    obtain ⟨w1, w2⟩ := (hw x y).mp hwz
    obtain ⟨e1, k1⟩ := h1.dec hat.left w1
    obtain ⟨e2, k2⟩ := h2.dec hat.right w2
    rw [List.length_append, ← Nat.add_assoc]
    exact ⟨seq_ok.mpr ⟨x, _, y, e1, e2, rfl⟩, (hK e1).mpr ⟨k1, k2⟩⟩
  enc {buf c z e} h hb hk he := by
    obtain ⟨x, c1, y, e1, e2, rfl⟩ := seq_ok.mp h
    obtain ⟨k1, k2⟩ := (hK e1).mp hk
    obtain ⟨a2, rfl, w2⟩ := h2.enc e2 hb k2 he
    obtain ⟨a1, rfl, w1⟩ := h1.enc e1 hb k1 (Nat.le_trans (Nat.le_add_right _ _) he)
    rw [hs, List.length_append, Nat.add_assoc]
    exact ⟨a1.append a2, rfl, (hw x y).mpr ⟨w1, w2⟩⟩

theorem Codec.pair (h1 : Codec r1 s1 W1 K1) {r2 : Reader β} {s2 : β → Bytes} {W2 : β → Prop}
    {K2 : Bytes → Nat → Bool} (h2 : Codec r2 s2 W2 K2) {K : Bytes → Nat → Bool}
    (hK : ∀ {buf c x c1}, r1 buf c = .ok (x, c1) → (K buf c = true ↔ K1 buf c = true ∧ K2 buf c1 = true)) :
    Codec (TxCodec.seq r1 r2 Prod.mk) (fun p => s1 p.1 ++ s2 p.2) (fun p => W1 p.1 ∧ W2 p.2) K :=
  h1.seq h2 (fun z _ => ⟨z.1, z.2, rfl⟩) (fun _ _ => rfl) (fun _ _ => Iff.rfl) hK
end

/-- `hK` behind a head without a choice of encodings that moves the cursor by `w` -/
theorem canon_shift (K : Bytes → Nat → Bool) {buf : Bytes} {c w c1 : Nat} (h : c1 = c + w) :
    K buf (c + w) = true ↔ noCanon buf c = true ∧ K buf c1 = true := h ▸ (and_iff_right rfl).symm

/-- `hK` in front of a tail without a choice of encodings -/
theorem canon_left {K : Bytes → Nat → Bool} {buf : Bytes} {c c1 : Nat} :
    K buf c = true ↔ K buf c = true ∧ noCanon buf c1 = true := (and_iff_left rfl).symm

/-- a fixed-width field: `g` encodes, `f` decodes -/
theorem codec_readFixed {α : Type} {w : Nat} {f : Nat → α} {g : α → Nat} {Wf : α → Prop}
    (h1 : ∀ x, Wf x → g x < 256 ^ w ∧ f (g x) = x) (h2 : ∀ n, n < 256 ^ w → g (f n) = n ∧ Wf (f n)) :
    Codec (readFixed w f) (fun x => leBytes w (g x)) Wf noCanon where
  dec {buf c x} hat hw := by
    obtain ⟨l, e⟩ := h1 x hw
    rw [readFixed_at f hat l, e, leBytes_length]
    exact ⟨rfl, rfl⟩
  enc {buf c x e} h hb _ _ := by
    obtain ⟨rfl, hl, rfl⟩ := readFixed_inv h
    have hs := BytesOK_slice hb c (c + w)
    have hlen : (slice buf c (c + w)).length = w := by rw [slice_length _ _ _ hl]; omega
    have h3 := leBytes_leNat _ hs
    have h4 := leNat_lt _ hs
    rw [hlen] at h3 h4
    obtain ⟨g1, g2⟩ := h2 _ h4
    rw [g1, h3, hlen]
    exact ⟨At.of_slice (Nat.le_add_right _ _) hl, rfl, g2⟩

theorem codec_readLeU (w : Nat) : Codec (readLeU w) (leBytes w) (· < 256 ^ w) noCanon :=
  codec_readFixed (f := id) (g := id) (fun _ h => ⟨h, rfl⟩) (fun _ h => ⟨rfl, h⟩)

theorem codec_readLeI32 : Codec readLeI32 (fun v => leBytes 4 (i32ToNat v))
    (fun v => -2147483648 ≤ v ∧ v < 2147483648) noCanon :=
  codec_readFixed (f := natToI32) (fun v h => ⟨i32ToNat_lt v, natToI32_i32ToNat v h.1 h.2⟩)
    (fun n h => ⟨i32ToNat_natToI32 n h, natToI32_range n h⟩)

theorem codec_readLeI64 : Codec readLeI64 (fun v => leBytes 8 (i64ToNat v))
    (fun v => -9223372036854775808 ≤ v ∧ v < 9223372036854775808) noCanon :=
  codec_readFixed (f := natToI64) (fun v h => ⟨i64ToNat_lt v, natToI64_i64ToNat v h.1 h.2⟩)
    (fun n h => ⟨i64ToNat_natToI64 n h, natToI64_range n h⟩)

theorem readVarint_at {buf : Bytes} {c n : Nat} (h : At buf c (packVarint n))
    (hn : n < 18446744073709551616) : readVarint buf c = .ok (n, c + (packVarint n).length) := by
  rw [readVarint_eq]
  by_cases h1 : n < 253
  · rw [packVarint_of_lt h1] at h ⊢
    rw [bind_of_ok (readByte_ok.mpr ⟨h.head, rfl⟩), if_pos h1]; rfl
  · obtain ⟨t1, t2, t3⟩ := varintTag_spec hn
    rw [packVarint_of_ge (by omega)] at h ⊢
    rw [bind_of_ok (readByte_ok.mpr ⟨h.head, rfl⟩), if_neg (by omega)]
    refine (readFixed_at id h.tail t3).trans ?_
    rw [List.length_cons, leBytes_length, Nat.add_assoc, Nat.add_comm 1]; rfl

theorem canonVarintAt_at {buf : Bytes} {c n : Nat} (h : At buf c (packVarint n))
    (hn : n < 18446744073709551616) : canonVarintAt buf c = true := by
  unfold canonVarintAt
  rw [readVarint_at h hn]
  simp

theorem readVarint_lt {buf : Bytes} {c n e : Nat} (h : readVarint buf c = .ok (n, e)) (hb : BytesOK buf) :
    n < 18446744073709551616 := by
  obtain ⟨m, hm, hcases⟩ := readVarint_inv h
  have := getElem?_lt hb hm
  rcases hcases with ⟨_, rfl, _⟩ | ⟨_, h2⟩
  · omega
  · have h3 := ((codec_readLeU _).enc h2 hb rfl (strict_readFixed _ id h2)).2.2
    have : 256 ^ varintWidth m ≤ 256 ^ 8 := Nat.pow_le_pow_right (by omega) (varintWidth_bounds m).2
    omega

theorem readVarint_ser {buf : Bytes} {c n e : Nat} (h : readVarint buf c = .ok (n, e)) (hb : BytesOK buf)
    (hc : canonVarintAt buf c = true) : At buf c (packVarint n) ∧ e = c + (packVarint n).length := by
  obtain ⟨m, hm, hcases⟩ := readVarint_inv h
  have hm256 := getElem?_lt hb hm
  have hone := At.single hm
  simp only [canonVarintAt, h, decide_eq_true_eq] at hc
  rcases hcases with ⟨h1, rfl, rfl⟩ | ⟨h1, h2⟩
  · rw [packVarint_of_lt h1]
    exact ⟨hone, rfl⟩
  · obtain ⟨a2, rfl, _⟩ := (codec_readLeU _).enc h2 hb rfl (strict_readFixed _ id h2)
    rw [leBytes_length] at hc
    -- the encoding is as long as what was read, so it is not the one-byte form and has the same tag
    have hn : 253 ≤ n := by
      have hw := varintWidth_bounds m
      rcases Nat.lt_or_ge n 253 with h5 | h5
      · rw [packVarint_of_lt h5, List.length_singleton] at hc; omega
      · exact h5
    obtain ⟨t1, t2, _⟩ := varintTag_spec (readVarint_lt h hb)
    rw [packVarint_of_ge hn] at hc ⊢
    rw [List.length_cons, leBytes_length] at hc
    rw [varintWidth_inj t1 t2 h1 hm256 (by omega), List.length_cons, leBytes_length, Nat.add_assoc,
      Nat.add_comm 1]
    exact ⟨hone.append a2, rfl⟩

theorem codec_readVarint : Codec readVarint packVarint (· < 18446744073709551616) canonVarintAt where
  dec hat hw := ⟨readVarint_at hat hw, canonVarintAt_at hat hw⟩
  enc h hb hk _ := ⟨(readVarint_ser h hb hk).1, (readVarint_ser h hb hk).2, readVarint_lt h hb⟩

theorem codec_takeBytes (k : Nat) : Codec (takeBytes k) (fun s => s) (·.length = k) noCanon where
  dec {buf c s} hat hw := by
    subst hw
    exact ⟨by rw [takeBytes, hat.slice], rfl⟩
  enc {buf c s e} h _ _ he := by
    cases h
    have hl := slice_length buf c (c + k) he
    rw [Nat.add_sub_cancel_left] at hl
    exact ⟨At.of_slice (Nat.le_add_right _ _) he, by rw [hl], hl⟩

theorem codec_readVarbytes : Codec readVarbytes (fun s => packVarint s.length ++ s)
    (·.length < 18446744073709551616) canonVarintAt :=
  readVarbytes_eq ▸ codec_readVarint.bind (K2 := fun _ => noCanon) List.length codec_takeBytes
    (fun _ _ h => h) (fun _ => rfl) (fun _ => (and_iff_left rfl).symm) (fun _ => canon_left)

theorem codec_readOutput : Codec readOutput serOut WfOut canonOutput :=
  readOutput_eq ▸ codec_readLeI64.seq codec_readVarbytes (fun o _ => ⟨o.1, o.2, rfl⟩) (fun _ _ => rfl)
    (fun _ _ => (inRangeOut_iff _).trans and_assoc.symm) (fun h => canon_shift _ (readFixed_inv h).1)

theorem codec_readInput : Codec readInput serIn WfIn canonInput :=
  readInput_eq ▸ (codec_takeBytes 32).seq
    ((codec_readLeU 4).pair (codec_readVarbytes.pair (codec_readLeU 4) (fun _ => canon_left))
      (fun h => canon_shift canonVarintAt (readFixed_inv (f := id) h).1))
    (fun i _ => ⟨i.1, (i.2, i.3, i.4), rfl⟩) (fun _ _ => rfl)
    (fun _ _ => and_congr_right fun _ => inRangeIn_iff _)
    (fun h => by cases h; exact canon_shift (fun buf c => canonVarintAt buf (c + 4)) rfl)

section
variable {α : Type} {r : Reader α} {ser : α → Bytes} {Wf : α → Prop} {K : Bytes → Nat → Bool}

theorem codec_readItems (h : Codec r ser Wf K) : ∀ n, Codec (fun buf => readItems r buf n)
    (fun xs => (xs.map ser).flatten) (fun xs => xs.length = n ∧ ∀ x ∈ xs, Wf x)
    (fun buf => canonItems r K buf n)
  | 0 =>
    { dec := fun _ hw => by rw [List.eq_nil_of_length_eq_zero hw.1]; exact ⟨rfl, rfl⟩
      enc := fun {buf c xs e} hr _ _ he => by
        cases hr
        exact ⟨At.nil he, rfl, rfl, nofun⟩ }
  | n + 1 => funext (readItems_succ r n) ▸ h.seq (codec_readItems h n)
      (fun xs hw => match xs, hw with | x :: xs, _ => ⟨x, xs, rfl⟩)
      (fun _ _ => by simp) (fun _ _ => by simp [and_left_comm])
      (fun e1 => by simp only [canonItems, e1, Bool.and_eq_true])

theorem codec_readMany (h : Codec r ser Wf K) : Codec (readMany r)
    (fun xs => packVarint xs.length ++ (xs.map ser).flatten)
    (fun xs => xs.length < 18446744073709551616 ∧ ∀ x ∈ xs, Wf x) (canonMany r K) :=
  readMany_eq r ▸ codec_readVarint.bind List.length (codec_readItems h) (fun _ _ hw => hw.1)
    (fun _ => rfl) (fun _ => by simp) (fun e1 => by simp only [canonMany, e1, Bool.and_eq_true])
end

/-- `canonTx` from the cursor behind the version field -/
def canonBody (buf : Bytes) (c : Nat) : Bool :=
  canonMany readInput canonInput buf c &&
  match readMany readInput buf c with
  | .error _ => true
  | .ok (_, c2) => canonMany readOutput canonOutput buf c2

/-- `dec` is `C13_read_serialize` and `C13_serialize_canon`, `enc` is `C13_serialize_read` -/
theorem codec_readTx : Codec readTx serializeRaw WfTx canonTx :=
  readTx_eq ▸ codec_readLeI32.seq
    ((codec_readMany codec_readInput).pair
      ((codec_readMany codec_readOutput).pair (codec_readLeU 4) (fun _ => canon_left))
      (K := canonBody) (fun e1 => by simp only [canonBody, e1, Bool.and_eq_true]))
    (fun t _ => ⟨t.1, (t.2, t.3, t.4), rfl⟩) (fun _ _ => by simp [serializeRaw])
    (fun _ _ =>
      ⟨fun ⟨hr, h32⟩ =>
        let ⟨v1, v2, hin, hins, hon, houts, hlt⟩ := (inRange_iff _).mp hr
        ⟨⟨v1, v2⟩, ⟨hin, fun i hi => ⟨h32 i hi, hins i hi⟩⟩, ⟨hon, houts⟩, hlt⟩,
      fun ⟨⟨v1, v2⟩, ⟨hin, hins⟩, ⟨hon, houts⟩, hlt⟩ =>
        ⟨(inRange_iff _).mpr ⟨v1, v2, hin, fun i hi => (hins i hi).2, hon, houts, hlt⟩,
          fun i hi => (hins i hi).1⟩⟩)
    (fun h => canon_shift canonBody (readFixed_inv h).1)

theorem readTx_at {buf : Bytes} {c : Nat} {t : Tx} (h : At buf c (serializeRaw t)) (hw : WfTx t) :
    readTx buf c = .ok (t, c + (serializeRaw t).length) := (codec_readTx.dec h hw).1

end EV.TxCodec
