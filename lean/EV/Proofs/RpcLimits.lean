import EV.Proofs.RpcEffect

/-! For C17: the arithmetic of the header cap, the history limit, what one call of
`subscription_address_status` does, and from it what the two notification loops and `_notify_inner` as a
whole do (`LoopSpec`, which composes: `LoopSpec.append`). -/
namespace EV.Rpc

/-- `max(0, min(a, height + 1 - start))` on Python ints is truncated subtraction on naturals -/
theorem clip_cast (a H s : Nat) :
    max 0 (min (a : Int) ((H : Int) + 1 - s)) = ((min a (H + 1 - s) : Nat) : Int) := by omega

theorem diskCount_eq (H s c : Nat) : diskCount H s c = min c (H + 1 - s) := by
  unfold diskCount; rw [clip_cast]; rfl

/-- `DB.read_headers` without its special case for an empty read -/
theorem readHeaders_eq (w : World) (s c : Nat) :
    readHeaders w s c =
      ((w.hdrFile.drop (s * 80)).take (min c (w.height + 1 - s) * 80), min c (w.height + 1 - s)) := by
  unfold readHeaders
  rw [diskCount_eq]
  split
  · rfl
  · rename_i h
    rw [Decidable.not_not.mp h]
    rfl

/-- the headers file holds one 80-byte header per height `0 … height` (C01's invariant) -/
def FileOK (w : World) : Prop := w.hdrFile.length = 80 * (w.height + 1)

theorem readHeaders_length {w : World} (hf : FileOK w) (s c : Nat) :
    (readHeaders w s c).1.length = 80 * min c (w.height + 1 - s) := by
  rw [readHeaders_eq, List.length_take, List.length_drop, hf]
  have hk : min c (w.height + 1 - s) ≤ w.height + 1 - s := Nat.min_le_right _ _
  generalize min c (w.height + 1 - s) = k at hk ⊢
  omega

/-- `result = l[:limit]`, then `if len(result) >= limit`: the test is decided by the whole length,
    and below the limit nothing is cut -/
theorem take_limit {α β : Type} (limit : Nat) (l : List α) (a : β) (f : List α → β) :
    (if limit ≤ (l.take limit).length then a else f (l.take limit)) =
      if limit ≤ l.length then a else f l := by
  by_cases h : limit ≤ l.length
  · rw [if_pos h, if_pos (by rw [List.length_take]; omega)]
  · rw [List.take_of_length_le (by omega)]

theorem histCompute_eq (w : World) (hx : Bytes) :
    histCompute w hx =
      if histLimit w.maxSend ≤ (w.history hx).length then .tooLarge else .ok (w.history hx) :=
  take_limit _ _ _ _

theorem histCompute_large {w : World} {hx : Bytes}
    (h : histLimit w.maxSend ≤ (w.history hx).length) : histCompute w hx = .tooLarge := by
  rw [histCompute_eq, if_pos h]

theorem histCompute_small {w : World} {hx : Bytes}
    (h : (w.history hx).length < histLimit w.maxSend) : histCompute w hx = .ok (w.history hx) := by
  rw [histCompute_eq, if_neg (Nat.not_le.mpr h)]

theorem histCompute_cases (w : World) (hx : Bytes) :
    (histLimit w.maxSend ≤ (w.history hx).length ∧ histCompute w hx = .tooLarge) ∨
    ((w.history hx).length < histLimit w.maxSend ∧ histCompute w hx = .ok (w.history hx)) := by
  by_cases h : histLimit w.maxSend ≤ (w.history hx).length
  · exact Or.inl ⟨h, histCompute_large h⟩
  · exact Or.inr ⟨by omega, histCompute_small (by omega)⟩

theorem limitedHistory_cases {w : World} {m : Mgr} (hok : CacheOK w m) (hx : Bytes) :
    ∃ m', CacheGrowth w m m' ∧
      ((histLimit w.maxSend ≤ (w.history hx).length ∧
          limitedHistory w m hx = (m', .error (.rpcError Gen.badRequest))) ∨
       ((w.history hx).length < histLimit w.maxSend ∧
          limitedHistory w m hx = (m', .ok (w.history hx)))) := by
  refine ⟨_, limitedHistory_growth w m hx, ?_⟩
  have hs := limitedHistory_snd hok hx
  rcases histCompute_cases w hx with ⟨hl, hc⟩ | ⟨hl, hc⟩ <;> rw [hc] at hs
  · exact .inl ⟨hl, Prod.ext rfl hs⟩
  · exact .inr ⟨hl, Prod.ext rfl hs⟩

/-- the status computed for a notification: `None` and the subscription dropped when the history
    has reached the limit, otherwise the status of the **whole** history -/
def StatusRight (w : World) (hx : Bytes) (s : Status) : Prop :=
  (histLimit w.maxSend ≤ (w.history hx).length ∧ s = none) ∨
  ((w.history hx).length < histLimit w.maxSend ∧ s = statusOf (w.history hx) (w.mempool hx))

theorem subscriptionAddressStatus_spec {w : World} {st : St} (hok : CacheOK w st.mgr) (hx : Bytes) :
    CacheGrowth w st.mgr (subscriptionAddressStatus w st hx).1.mgr ∧
    StatusRight w hx (subscriptionAddressStatus w st hx).2 ∧
    (subscriptionAddressStatus w st hx).1.sess.subs =
      if histLimit w.maxSend ≤ (w.history hx).length then dErase hx st.sess.subs
      else st.sess.subs := by
  unfold subscriptionAddressStatus addressStatus
  obtain ⟨m, hg, ⟨hl, e⟩ | ⟨hl, e⟩⟩ := limitedHistory_cases hok hx <;> rw [e]
  · exact ⟨hg, .inl ⟨hl, rfl⟩, (if_pos hl).symm⟩
  · exact ⟨hg, .inr ⟨hl, rfl⟩, (if_neg (Nat.not_le.mpr hl)).symm⟩

/-- subscriptions are only ever dropped, and only those whose history reached the limit -/
def SubsShrink (w : World) (s s' : List (Bytes × String)) : Prop :=
  ∀ hx, dGet hx s' = dGet hx s ∨ (histLimit w.maxSend ≤ (w.history hx).length ∧ dGet hx s' = none)

theorem SubsShrink.refl (w : World) (s : List (Bytes × String)) : SubsShrink w s s :=
  fun _ => Or.inl rfl

theorem SubsShrink.erase {w : World} {hx : Bytes}
    (hl : histLimit w.maxSend ≤ (w.history hx).length) (s : List (Bytes × String)) :
    SubsShrink w s (dErase hx s) := by
  intro hx'
  by_cases heq : hx' = hx
  · rw [heq]; exact Or.inr ⟨hl, dGet_dErase_self _ _⟩
  · exact Or.inl (dGet_dErase_ne heq _)

theorem SubsShrink.trans {w : World} {a b c : List (Bytes × String)} (h1 : SubsShrink w a b)
    (h2 : SubsShrink w b c) : SubsShrink w a c := by
  intro hx
  rcases h2 hx with h | ⟨hl, h⟩
  · rcases h1 hx with h' | ⟨hl, h'⟩
    · exact Or.inl (h.trans h')
    · exact Or.inr ⟨hl, h.trans h'⟩
  · exact Or.inr ⟨hl, h⟩

theorem SubsShrink.some {w : World} {a b : List (Bytes × String)} (h : SubsShrink w a b)
    {hx : Bytes} {alias : String} (hb : dGet hx b = some alias) : dGet hx a = some alias := by
  rcases h hx with h' | ⟨_, h'⟩
  · rw [← h']; exact hb
  · rw [h'] at hb; cases hb

theorem SubsShrink.none {w : World} {a b : List (Bytes × String)} (h : SubsShrink w a b) {hx : Bytes}
    (ha : dGet hx a = none) : dGet hx b = none := by
  rcases h hx with h' | ⟨_, h'⟩
  · rw [h', ha]
  · exact h'

structure LoopSpec (w : World) (st : St) (keys : List Bytes) (out : St × List (String × Status)) :
    Prop where
  ok : CacheOK w out.1.mgr
  shrink : SubsShrink w st.sess.subs out.1.sess.subs
  notes : ∀ a s, (a, s) ∈ out.2 →
    ∃ hx, hx ∈ keys ∧ dGet hx st.sess.subs = some a ∧ StatusRight w hx s
  dropped : ∀ hx a, hx ∈ keys → dGet hx st.sess.subs = some a → a ≠ "" →
    histLimit w.maxSend ≤ (w.history hx).length → dGet hx out.1.sess.subs = none

theorem LoopSpec.nil {w : World} {st : St} (hok : CacheOK w st.mgr) : LoopSpec w st [] (st, []) :=
  ⟨hok, SubsShrink.refl _ _, fun _ _ h => (nomatch h), fun _ _ h => (nomatch h)⟩

theorem LoopSpec.skip {w : World} {st : St} {hx : Bytes} (hok : CacheOK w st.mgr)
    (hsk : dGet hx st.sess.subs = none ∨ dGet hx st.sess.subs = some "") :
    LoopSpec w st [hx] (st, []) := by
  refine ⟨hok, SubsShrink.refl _ _, fun _ _ h => (nomatch h), fun hx' a hmem hsub hne _ => ?_⟩
  cases List.mem_singleton.mp hmem
  rcases hsk with h | h <;> rw [h] at hsub <;> cases hsub
  exact absurd rfl hne

/-- one call of `subscription_address_status` for a subscribed key, whether or not its status is sent -/
theorem LoopSpec.one {w : World} {st : St} {hx : Bytes} {alias : String}
    {sent : List (String × Status)} (hok : CacheOK w st.mgr)
    (hsome : dGet hx st.sess.subs = some alias)
    (hn : ∀ x ∈ sent, x = (alias, (subscriptionAddressStatus w st hx).2)) :
    LoopSpec w st [hx] ((subscriptionAddressStatus w st hx).1, sent) := by
  obtain ⟨hg, hr, hs⟩ := subscriptionAddressStatus_spec hok hx
  refine ⟨CacheOK.of_growth hg hok, ?_, fun a s h => ?_, fun hx' a hmem _ _ hl => ?_⟩
  · show SubsShrink w _ (subscriptionAddressStatus w st hx).1.sess.subs
    rw [hs]
    split
    · rename_i hl; exact .erase hl _
    · exact .refl _ _
  · cases hn _ h
    exact ⟨hx, List.mem_singleton_self _, hsome, hr⟩
  · cases List.mem_singleton.mp hmem
    show dGet hx (subscriptionAddressStatus w st hx).1.sess.subs = none
    rw [hs, if_pos hl]
    exact dGet_dErase_self _ _

/-- The specification composes: a loop over `k1`, then one over `k2` from the state the first left.
    An iteration is the case `k1 = [hx]`, `_notify_inner` the two loops one after the other. -/
theorem LoopSpec.append {w : World} {st : St} {k1 k2 : List Bytes}
    {o1 o2 : St × List (String × Status)} (h1 : LoopSpec w st k1 o1)
    (h2 : CacheOK w o1.1.mgr → LoopSpec w o1.1 k2 o2) :
    LoopSpec w st (k1 ++ k2) (o2.1, o1.2 ++ o2.2) := by
  have h2 := h2 h1.ok
  refine ⟨h2.ok, h1.shrink.trans h2.shrink, fun a s h => ?_, fun hx a hmem hsub hne hl => ?_⟩
  · rcases List.mem_append.mp h with h | h
    · obtain ⟨hx, hm, hs, hr⟩ := h1.notes a s h
      exact ⟨hx, List.mem_append_left _ hm, hs, hr⟩
    · obtain ⟨hx, hm, hs, hr⟩ := h2.notes a s h
      exact ⟨hx, List.mem_append_right _ hm, h1.shrink.some hs, hr⟩
  · rcases List.mem_append.mp hmem with hm | hm
    · exact h2.shrink.none (h1.dropped hx a hm hsub hne hl)
    · -- still subscribed when the second loop starts, or already gone
      rcases h1.shrink hx with h' | ⟨_, h'⟩
      · exact h2.dropped hx a hm (h'.trans hsub) hne hl
      · exact h2.shrink.none h'

theorem notifyTouched_spec (w : World) (l : List Bytes) :
    ∀ st, CacheOK w st.mgr → LoopSpec w st l (notifyTouched w st l) := by
  induction l with
  | nil => exact fun st hok => LoopSpec.nil hok
  | cons hx rest ih =>
    intro st hok
    unfold notifyTouched
    split
    · rename_i hnone
      exact (LoopSpec.skip hok (.inl hnone)).append (ih st)
    · rename_i alias hsome
      split
      · rename_i hempty
        exact (LoopSpec.skip hok (.inr (hempty ▸ hsome))).append (ih st)
      · exact (LoopSpec.one hok hsome fun _ h => List.mem_singleton.mp h).append (ih _)

theorem notifyMempool_spec (w : World) (l : List (Bytes × Status)) :
    ∀ st, CacheOK w st.mgr → LoopSpec w st (l.map (·.1)) (notifyMempool w st l) := by
  induction l with
  | nil => exact fun st hok => LoopSpec.nil hok
  | cons e rest ih =>
    obtain ⟨hx, old⟩ := e
    intro st hok
    simp only [List.map_cons]
    unfold notifyMempool
    split
    · rename_i hnone
      exact (LoopSpec.skip hok (.inl hnone)).append (ih st)
    · rename_i alias hsome
      split
      · rename_i hempty
        exact (LoopSpec.skip hok (.inr (hempty ▸ hsome))).append (ih st)
      · split
        · exact (LoopSpec.one hok hsome fun _ h => List.mem_singleton.mp h).append (ih _)
        · exact (LoopSpec.one hok hsome (sent := []) fun _ h => nomatch h).append (ih _)

/-- `_notify_inner` as one loop: over the touched subscribed script hashes at least -/
theorem notifyInner_spec (w : World) (st : St) (touched : List Bytes) (heightChanged : Bool)
    (hok : CacheOK w st.mgr) :
    ∃ keys, (∀ hx ∈ touched, (dGet hx st.sess.subs).isSome = true → hx ∈ keys) ∧
      LoopSpec w st keys ((notifyInner w st touched heightChanged).1,
        (notifyInner w st touched heightChanged).2.2) := by
  unfold notifyInner
  split
  · exact ⟨_, fun hx hm hs => List.mem_append_left _ (List.mem_filter.mpr ⟨hm, hs⟩),
      (notifyTouched_spec w _ st hok).append (notifyMempool_spec w _ _)⟩
  · rename_i hcond
    -- nothing is done only if no touched script hash is subscribed
    exact ⟨[], fun hx hm hs => absurd (Bool.or_eq_true_iff.mpr (.inl (decide_eq_true
      (List.ne_nil_of_mem (List.mem_filter.mpr ⟨hm, hs⟩))))) hcond, LoopSpec.nil hok⟩

theorem invalidate_hist {w0 w : World} {m : Mgr} {touched : List Bytes}
    (h0 : ∀ hx r, dGet hx m.histCache = some r → r = histCompute w0 hx)
    (hsame : ∀ hx, ¬ hx ∈ touched → histCompute w hx = histCompute w0 hx) :
    ∀ (always : Bool) hx r, dGet hx (invalidateWith always m touched true).histCache = some r →
      r = histCompute w hx := by
  intro always hx r h
  simp only [invalidateWith, Bool.true_or, if_true] at h
  -- an entry that survives the filter was there before, under an untouched script hash
  rw [dGet_filter (fun k => !touched.contains k)] at h
  split at h
  · rename_i hnot
    rw [hsame hx (by simpa using hnot)]
    exact h0 hx r h
  · cases h

/-- `Gen.invalidateAlways` is `true`, so `height_changed` makes no difference to the cache.  The
    proof evaluates the constant: it stops building if the source stops invalidating on
    mempool-only notifications. -/
theorem invalidate_flag (m : Mgr) (touched : List Bytes) (hc : Bool) :
    invalidate m touched hc = invalidate m touched true := by
  cases hc <;> rfl

end EV.Rpc
