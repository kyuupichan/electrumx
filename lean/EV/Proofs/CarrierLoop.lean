import EV.Model.SyncLoopT
import EV.Proofs.CarrierFS
import EV.Proofs.RunShape

/-!
Carrier completeness, loop level; the property statements are in `EV/Props/C07carrier.lean`.  The
events of `EV.SyncLoopT` are translated into the run operations of the whole-run theorem with
back-outs (`opsOf`; `IOp2`, `ValidOps2`, `Track`: `EV/Proofs/IndexRunReorg.lean`; its invariant
with the shape of the history DB, `RunInv`: `EV/Proofs/RunShape.lean`), and
running them is what `step` does (`step_ops`; `on_caught_up`: `step_caughtUp_eq`); the real
system is the ghost system of that theorem up to `first_sync` flags (`Ghost`, `CarrierFS.lean`) and
up to the resets of `touched` (which no invariant mentions).  The loop invariant `LInv` adds: once
caught up, `touched` covers every script hash whose client-visible confirmed state differs between
the reference chain (the chain when `caught_up` was set, later the chain at the last told point) and
the current chain.
-/
namespace EV.SyncLoopT
open EV.Index EV.Spec EV.SyncLoop

def opsOf : Ev → List IOp2
  | .block b d none => [.adv b d]
  | .block b d (some a) => [.adv b d, .flush a]
  | .stale none => []
  | .stale (some a) => [.flush a]
  | .batchEnd => []
  | .caughtUp => [.flush true]
  | .reorg bs => .flush true :: bs.map .backup

/-- validity of an event list w.r.t. the evolving bookkeeping: every advanced block is a valid next
    block of the surviving chain, every block backed out by a `reorg` is the tip at that moment, is
    above height 0 and its height is retained (`BackupOk`) -/
def ValidEvs (cfg : Cfg) : Track → List Ev → Prop
  | _, [] => True
  | t, e :: r => ValidOps2 cfg t (opsOf e) ∧ ValidEvs cfg (t.run cfg (opsOf e)) r

instance decValidEvs (cfg : Cfg) : ∀ (t : Track) (evs : List Ev), Decidable (ValidEvs cfg t evs)
  | _, [] => isTrue trivial
  | t, e :: r =>
    have := decValidEvs cfg (t.run cfg (opsOf e)) r
    by unfold ValidEvs; exact inferInstance

def trackOf (cfg : Cfg) (t : Track) (evs : List Ev) : Track :=
  evs.foldl (fun t e => t.run cfg (opsOf e)) t

def Forward : List Ev → Prop
  | [] => True
  | .reorg _ :: _ => False
  | _ :: r => Forward r

instance decForward : ∀ evs : List Ev, Decidable (Forward evs)
  | [] => isTrue trivial
  | .reorg _ :: _ => isFalse (fun h => h)
  | .block _ _ _ :: r => decForward r
  | .stale _ :: r => decForward r
  | .batchEnd :: r => decForward r
  | .caughtUp :: r => decForward r

def Ghost (cfg : Cfg) (t : Track) (s : Sys) : Prop :=
  ∃ s0 f1 f2 f3, EV.Compact.RunInv cfg t s0 ∧ s = setFS s0 f1 f2 f3

theorem ghost_init (cfg : Cfg) : Ghost cfg {} {} :=
  ⟨{}, true, true, true, EV.Compact.runInv_init cfg, rfl⟩

theorem ghost_clearFirstSync {cfg : Cfg} {t : Track} {s : Sys} (g : Ghost cfg t s) :
    Ghost cfg t (clearFirstSync s) := by
  obtain ⟨s0, f1, f2, f3, ti, rfl⟩ := g
  exact ⟨s0, false, f2, f3, ti, rfl⟩

theorem ghost_resetTouched {cfg : Cfg} {t : Track} {s : Sys} (g : Ghost cfg t s) :
    Ghost cfg t (resetTouched s) := by
  obtain ⟨s0, f1, f2, f3, ti, rfl⟩ := g
  exact ⟨setTouched s0 [], f1, f2, f3,
    ⟨trackInv_setTouched ti.toTrackInv [], EV.Compact.runShape_congr (s := s0) rfl rfl rfl rfl ti.shape⟩, rfl⟩

structure LInv (cfg : Cfg) (t : Track) (ref : List Block) (l : Loop) : Prop where
  ghost : Ghost cfg t l.s
  cov : l.caughtUp = true → Cov cfg.act ref t.chain l.s.m.touched

theorem lInv_init (cfg : Cfg) : LInv cfg {} [] {} :=
  ⟨ghost_init cfg, fun h => by simp at h⟩

/-- one step of the ghost system (`runInv_step`), seen from the real one: the set carries
    (`step_carries`), whatever the reference chain -/
theorem LInv.step {cfg : Cfg} {t : Track} {ref : List Block} {l : Loop} (li : LInv cfg t ref l)
    (op : IOp2) (hne : op ≠ .reopen) (hok : OkOp cfg t op) :
    ∃ s', stepOp2 cfg l.s op = .ok s' ∧ LInv cfg (t.step cfg op) ref { l with s := s' } := by
  obtain ⟨⟨s0, f1, f2, f3, ti, hs⟩, hcov⟩ := li
  obtain ⟨s0', h1, ti'⟩ := EV.Compact.runInv_step ti op hok
  obtain ⟨hsub, hchg⟩ := step_carries ti.toTrackInv hok hne h1
  obtain ⟨g2, g3, h2⟩ := stepOp2_setFS hne h1 f1 f2 f3
  rw [hs] at hcov ⊢
  exact ⟨_, h2, ⟨s0', f1, g2, g3, ti', rfl⟩, fun hc => (hcov hc).step hsub hchg⟩

theorem LInv.run {cfg : Cfg} (ops : List IOp2) {t : Track} {ref : List Block} {l : Loop}
    (li : LInv cfg t ref l) (hne : ∀ op ∈ ops, op ≠ .reopen) (hv : ValidOps2 cfg t ops) :
    ∃ s', runOps2 cfg l.s ops = .ok s' ∧ LInv cfg (t.run cfg ops) ref { l with s := s' } := by
  induction ops generalizing t l with
  | nil => exact ⟨l.s, rfl, li⟩
  | cons op r ih =>
    obtain ⟨hop, hr⟩ := List.forall_mem_cons.mp hne
    obtain ⟨s1, h1, li1⟩ := li.step op hop hv.1
    obtain ⟨s', h2, li2⟩ := ih li1 hr hv.2
    exact ⟨s', (runOps2_cons_of_ok h1).trans h2, li2⟩

/-- up to `first_sync` flags, which no reader looks at -/
def OutOK (cfg : Cfg) (o : Out) (c : List Block) : Prop :=
  (∃ s0 f1 f2 f3, o.sys = setFS s0 f1 f2 f3 ∧ FullInv cfg c s0 ∧ Flushed s0) ∧
  (match o with
   | .first _ => True
   | .told h _ _ => h = (c.length : Int) - 1)

/-- emitted items paired with the surviving chain at that moment: the first `on_caught_up` (only
    when not yet caught up) fixes the reference chain; every told point's touched set covers the
    changes since the previous reference chain, and its chain becomes the next reference -/
def Carried (cfg : Cfg) : Bool → List Block → List (Out × List Block) → Prop
  | _, _, [] => True
  | cu, _, (.first s, c) :: r => cu = false ∧ OutOK cfg (.first s) c ∧ Carried cfg true c r
  | cu, ref, (.told h T s, c) :: r =>
    cu = true ∧ OutOK cfg (.told h T s) c ∧ Cov cfg.act ref c T ∧ Carried cfg true c r

theorem Carried.outOK {cfg : Cfg} {cu : Bool} {ref c : List Block} {o : Out}
    {r : List (Out × List Block)} (h : Carried cfg cu ref ((o, c) :: r)) : OutOK cfg o c := by
  cases o <;> exact h.2.1

theorem Carried.tail {cfg : Cfg} {cu : Bool} {ref c : List Block} {o : Out}
    {r : List (Out × List Block)} (h : Carried cfg cu ref ((o, c) :: r)) : Carried cfg true c r := by
  cases o with
  | first s => exact h.2.2
  | told _ _ _ => exact h.2.2.2

theorem Carried.all_outOK {cfg : Cfg} {cu : Bool} {ref : List Block} {l : List (Out × List Block)}
    (h : Carried cfg cu ref l) : ∀ x ∈ l, OutOK cfg x.1 x.2 := by
  induction l generalizing cu ref with
  | nil => exact List.forall_mem_nil _
  | cons y r ih => exact List.forall_mem_cons.mpr ⟨h.outOK, ih h.tail⟩

/-- what a fully flushed ghost state gives an emitted item (`OutOK`) -/
theorem ghost_outOK {cfg : Cfg} {t : Track} {s : Sys} (g : Ghost cfg t s)
    (h : t.dbLen = t.chain.length) :
    (∃ s0 f1 f2 f3, s = setFS s0 f1 f2 f3 ∧ FullInv cfg t.chain s0 ∧ Flushed s0) ∧
    s.m.st.height = (t.chain.length : Int) - 1 := by
  obtain ⟨s0, f1, f2, f3, ti, rfl⟩ := g
  exact ⟨⟨s0, f1, f2, f3, rfl, ti.inv.base, flushed_of_db ti.inv.base (ti.flushed h)⟩,
    ti.inv.base.files.height⟩

theorem step_caughtUp_eq (cfg : Cfg) (l : Loop) :
    step cfg l .caughtUp =
      match flush (clearFirstSync l.s) true with
      | .error e => .error e
      | .ok s1 =>
        if l.caughtUp then
          .ok ({ l with s := resetTouched s1 }, some (.told s1.m.st.height s1.m.touched s1))
        else .ok ({ s := s1, caughtUp := true }, some (.first s1)) := by
  simp only [step, SyncLoop.step]
  cases flush (clearFirstSync l.s) true with
  | error e => rfl
  | ok s1 => cases l.caughtUp <;> rfl

/-- the emitted item may be put in front of any list carried from the current chain on, which
    becomes the reference -/
theorem step_caughtUp {cfg : Cfg} {t : Track} {ref : List Block} {l : Loop} (li : LInv cfg t ref l) :
    ∃ l' o, step cfg l .caughtUp = .ok (l', some o) ∧ l'.caughtUp = true ∧
      LInv cfg (t.run cfg (opsOf .caughtUp)) t.chain l' ∧
      ∀ r, Carried cfg true t.chain r → Carried cfg l.caughtUp ref ((o, t.chain) :: r) := by
  obtain ⟨s1, h1, g1, c1⟩ :=
    LInv.step (l := { l with s := clearFirstSync l.s }) ⟨ghost_clearFirstSync li.ghost, li.cov⟩
      (.flush true) (fun h => nomatch h) trivial
  have h1 : flush (clearFirstSync l.s) true = .ok s1 := h1
  obtain ⟨hfl, hh⟩ := ghost_outOK g1 rfl
  cases hc : l.caughtUp with
  | true =>
    exact ⟨{ l with s := resetTouched s1 }, .told s1.m.st.height s1.m.touched s1,
      by simp only [step_caughtUp_eq, h1, hc, if_true], hc,
      ⟨ghost_resetTouched g1, fun _ => cov_refl _ _ _⟩,
      fun r hr => ⟨rfl, ⟨hfl, hh⟩, c1 hc, hr⟩⟩
  | false =>
    exact ⟨{ s := s1, caughtUp := true }, .first s1,
      by simp only [step_caughtUp_eq, h1, hc, Bool.false_eq_true, if_false], rfl,
      ⟨g1, fun _ => cov_refl _ _ _⟩, fun r hr => ⟨rfl, ⟨hfl, trivial⟩, hr⟩⟩

theorem backups_eq (cfg : Cfg) (s : Sys) (bs : List Block) :
    backups cfg s bs = runOps2 cfg s (bs.map .backup) := by
  induction bs generalizing s with
  | nil => rfl
  | cons b r ih =>
    show (match backup cfg s b with
          | Except.error e => Except.error e
          | Except.ok s' => backups cfg s' r) = _
    simp only [ih]
    rfl

/-- the two exceptions: `on_caught_up` clears `first_sync` first and emits (`step_caughtUp_eq`), the
    end of a batch may empty `touched` -/
theorem step_ops (cfg : Cfg) (l : Loop) {e : Ev} (h1 : e ≠ .caughtUp) (h2 : e ≠ .batchEnd) :
    step cfg l e = (runOps2 cfg l.s (opsOf e)).map (fun s => ({ l with s := s }, none)) := by
  cases e with
  | block b d arg =>
    cases arg with
    | none =>
      dsimp only [step, SyncLoop.step, opsOf, runOps2, stepOp2]
      cases advance cfg d l.s b <;> rfl
    | some a =>
      dsimp only [step, SyncLoop.step, opsOf, runOps2, stepOp2]
      cases advance cfg d l.s b with
      | error e => rfl
      | ok s1 => dsimp only; cases flush s1 a <;> rfl
  | stale arg =>
    cases arg with
    | none => rfl
    | some a => dsimp only [step, opsOf, runOps2, stepOp2]; cases flush l.s a <;> rfl
  | batchEnd => exact absurd rfl h2
  | caughtUp => exact absurd rfl h1
  | reorg bs =>
    dsimp only [step, opsOf, runOps2, stepOp2]
    cases flush l.s true with
    | error e => rfl
    | ok s1 => dsimp only; rw [backups_eq]; cases runOps2 cfg s1 (bs.map .backup) <;> rfl

theorem opsOf_ne_reopen (e : Ev) : ∀ op ∈ opsOf e, op ≠ .reopen := by
  cases e with
  | block b d arg =>
    cases arg
    · exact List.forall_mem_singleton.mpr nofun
    · exact List.forall_mem_cons.mpr ⟨nofun, List.forall_mem_singleton.mpr nofun⟩
  | stale arg =>
    cases arg
    · exact List.forall_mem_nil _
    · exact List.forall_mem_singleton.mpr nofun
  | batchEnd => exact List.forall_mem_nil _
  | caughtUp => exact List.forall_mem_singleton.mpr nofun
  | reorg bs => exact List.forall_mem_cons.mpr ⟨nofun, List.forall_mem_map.mpr fun _ _ => nofun⟩

theorem step_quiet {cfg : Cfg} {t : Track} {ref : List Block} {l : Loop} (li : LInv cfg t ref l)
    (e : Ev) (hne : e ≠ .caughtUp) (hv : ValidOps2 cfg t (opsOf e)) :
    ∃ l', step cfg l e = .ok (l', none) ∧ l'.caughtUp = l.caughtUp ∧
      LInv cfg (t.run cfg (opsOf e)) ref l' := by
  by_cases hb : e = .batchEnd
  · subst hb
    by_cases hc : l.caughtUp = true
    · exact ⟨l, by simp only [step, hc, if_true], rfl, li⟩
    · exact ⟨{ l with s := resetTouched l.s }, by simp only [step, hc, Bool.false_eq_true, if_false],
        rfl, ghost_resetTouched li.ghost, fun h => absurd h hc⟩
  · obtain ⟨s1, h1, li1⟩ := li.run (opsOf e) (opsOf_ne_reopen e) hv
    exact ⟨{ l with s := s1 }, by rw [step_ops cfg l hne hb, h1]; rfl, rfl, li1⟩

theorem Forward.tail {e : Ev} {r : List Ev} (h : Forward (e :: r)) : Forward r := by
  cases e <;> first | exact h | exact h.elim

theorem track_chain_forward (cfg : Cfg) (t : Track) {e : Ev} {r : List Ev} (hf : Forward (e :: r)) :
    t.chain <+: (t.run cfg (opsOf e)).chain := by
  cases e with
  | block b d arg => cases arg <;> exact List.prefix_append _ _
  | stale arg => cases arg <;> exact List.prefix_refl _
  | batchEnd => exact List.prefix_refl _
  | caughtUp => exact List.prefix_refl _
  | reorg bs => exact hf.elim

/-- the chains at which the items of a run are emitted -/
def chainsOf (cfg : Cfg) : Track → List Ev → List (List Block)
  | _, [] => []
  | t, .caughtUp :: r => t.chain :: chainsOf cfg (t.run cfg (opsOf .caughtUp)) r
  | t, e :: r => chainsOf cfg (t.run cfg (opsOf e)) r

theorem chainsOf_forward (cfg : Cfg) (evs : List Ev) (t : Track) (hf : Forward evs) :
    (t.chain :: chainsOf cfg t evs).Pairwise (· <+: ·) := by
  induction evs generalizing t with
  | nil => exact List.pairwise_singleton _ _
  | cons e r ih =>
    have hpre := track_chain_forward cfg t hf
    have ih' := ih (t.run cfg (opsOf e)) hf.tail
    -- with the chain after `e` put in between; `on_caught_up` emits it, the other events do not
    have hall : (t.chain :: (t.run cfg (opsOf e)).chain :: chainsOf cfg (t.run cfg (opsOf e)) r).Pairwise
        (· <+: ·) :=
      List.pairwise_cons.mpr ⟨List.forall_mem_cons.mpr
        ⟨hpre, fun c hc => hpre.trans ((List.pairwise_cons.mp ih').1 c hc)⟩, ih'⟩
    cases e with
    | caughtUp => exact hall
    | reorg bs => exact hf.elim
    | _ => exact hall.sublist (.cons_cons _ (List.sublist_cons_self _ _))

theorem run_inv {cfg : Cfg} (evs : List Ev) {t : Track} {ref : List Block} {l : Loop}
    (li : LInv cfg t ref l) (hv : ValidEvs cfg t evs) :
    ∃ l' ocs, run cfg l evs = .ok (l', ocs.map (·.1)) ∧
      ocs.map (·.2) = chainsOf cfg t evs ∧ Carried cfg l.caughtUp ref ocs ∧
      ∃ ref', LInv cfg (trackOf cfg t evs) ref' l' := by
  induction evs generalizing t ref l with
  | nil => exact ⟨l, [], rfl, rfl, trivial, ref, li⟩
  | cons e r ih =>
    obtain ⟨he, hr⟩ := hv
    by_cases hcu : e = .caughtUp
    · subst hcu
      obtain ⟨l1, o, h1, hcu, li1, ho⟩ := step_caughtUp li
      obtain ⟨l', ocs, h2, hcs, hcar, hfin⟩ := ih li1 hr
      exact ⟨l', (o, t.chain) :: ocs,
        by simp only [run, h1, h2, Option.toList, List.singleton_append, List.map_cons],
        by simp only [List.map_cons, chainsOf, hcs], ho ocs (hcu ▸ hcar), hfin⟩
    · obtain ⟨l1, h1, hcu', li1⟩ := step_quiet li e hcu he
      obtain ⟨l', ocs, h2, hcs, hcar, hfin⟩ := ih li1 hr
      refine ⟨l', ocs, by simp only [run, h1, h2, Option.toList, List.nil_append], ?_, ?_, hfin⟩
      · cases e <;> first | exact absurd rfl hcu | exact hcs
      · rw [← hcu']; exact hcar

theorem carried_true_told {cfg : Cfg} {ref : List Block} {l : List (Out × List Block)}
    (h : Carried cfg true ref l) : ∀ x ∈ l, ∃ ht T s, x.1 = .told ht T s := by
  induction l generalizing ref with
  | nil => exact List.forall_mem_nil _
  | cons y r ih =>
    obtain ⟨o, c⟩ := y
    refine List.forall_mem_cons.mpr ⟨?_, ih h.tail⟩
    cases o with
    | first s => exact absurd h.1 (by simp)
    | told ht T s => exact ⟨ht, T, s, rfl⟩

theorem carried_consecutive {cfg : Cfg} {cu : Bool} {ref : List Block}
    {l : List (Out × List Block)} (h : Carried cfg cu ref l) (i : Nat)
    (o1 : Out) (c1 : List Block) (ht : Int) (T : List HashX) (s : Sys) (c2 : List Block)
    (h1 : l[i]? = some (o1, c1)) (h2 : l[i + 1]? = some (.told ht T s, c2)) :
    Cov cfg.act c1 c2 T := by
  induction l generalizing cu ref i with
  | nil => cases h1
  | cons y r ih =>
    obtain ⟨o, c⟩ := y
    cases i with
    | succ j => exact ih h.tail j h1 h2
    | zero =>
      obtain ⟨-, rfl⟩ := Prod.mk.inj (Option.some.inj h1)
      cases r with
      | nil => cases h2
      | cons z r' =>
        obtain rfl := Option.some.inj h2
        exact h.tail.2.2.1

end EV.SyncLoopT
