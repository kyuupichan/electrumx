import EV.Proofs.CompactRun

/-!
Totality and progress: on a table without empty rows whose hashXs need at most 65536 rows each, a
`_compact_history` call does not raise (so the batch theorems are not vacuous), every batch with a
positive limit advances the cursor, and the driver loop reaches the end.
-/
namespace EV.Compact
open EV.Index

/-- the byte-level formula of `_compact_hashX` is the entry-level one -/
theorem nrowsOf_eq (maxRow : Nat) (rows : List Row) :
    nrowsOf maxRow rows = ((fullHist rows).length + maxRow - 1) / maxRow := by
  unfold nrowsOf
  rw [← Nat.div_div_eq_div_mul]
  congr 1
  omega

theorem chunkLoop_total (hx : HashX) (M : List Row) (cs : List (List Nat)) (n : Nat) (acc : CAcc) (ws : Nat)
    (h : n + cs.length ≤ 65536) : ∃ r, chunkLoop hx M cs n acc ws = .ok r := by
  induction cs generalizing n acc ws with
  | nil => exact ⟨_, rfl⟩
  | cons c cs ih =>
    simp only [List.length_cons] at h
    simp only [chunkLoop]
    rw [if_neg (by omega)]
    split
    · exact ih _ _ _ (by omega)
    · exact ih _ _ _ (by omega)

theorem compactHashX_total (maxRow : Nat) (hm : 0 < maxRow) (hx : HashX) (rows : List Row) (acc : CAcc)
    (hne : fullHist rows ≠ []) (hw : (chunksOf maxRow rows).length ≤ 65536) :
    ∃ r, compactHashX maxRow hx rows acc = .ok r := by
  unfold compactHashX
  unfold chunksOf at hw
  obtain ⟨r, hr⟩ := chunkLoop_total hx rows (chunks maxRow (fullHist rows)) 0
    { acc with dels := acc.dels ++ rows.map (·.1) } 0 (by omega)
  rw [hr]
  have hlen := chunks_length maxRow hm (fullHist rows)
  have hpos : 0 < (fullHist rows).length := by
    cases hf : fullHist rows with
    | nil => exact absurd hf hne
    | cons a r => simp
  have h1 : 1 ≤ (chunks maxRow (fullHist rows)).length := by
    rw [hlen]
    exact Nat.div_pos (by omega) hm
  simp only
  rw [if_neg]
  · exact ⟨_, rfl⟩
  · rw [nrowsOf_eq, ← hlen]
    intro hc; apply hc; omega

/-- every row has at least one entry (`History.flush` and `History.backup` never write an empty row) -/
def NoEmptyRows (hist : List Row) : Prop := ∀ e ∈ hist, e.2 ≠ []

/-- no hashX needs more than 65536 rows (else `pack_be_uint16` raises in `_compact_hashX`) -/
def RowCountOK (maxRow : Nat) (p : Store) : Prop := ∀ hx, nchunks maxRow p hx ≤ 65536

def CallsTotal (maxRow : Nat) (calls : List Call) : Prop :=
  ∀ c ∈ calls, ∀ acc, ∃ r, compactHashX maxRow c.1 c.2 acc = .ok r

theorem foldCalls_total (maxRow : Nat) (calls : List Call) (acc : CAcc) (h : CallsTotal maxRow calls) :
    ∃ r, foldCalls maxRow calls acc = .ok r := by
  induction calls generalizing acc with
  | nil => exact ⟨_, rfl⟩
  | cons c cs ih =>
    obtain ⟨r, hr⟩ := h c List.mem_cons_self acc
    simp only [foldCalls, hr]
    exact ih _ fun c' hc' => h c' (List.mem_cons_of_mem _ hc')

theorem prefixLoop_total (maxRow : Nat) (items : List ScanItem) (prior : Option HashX) (pend : List Row)
    (acc : CAcc) (ws : Nat) (h : CallsTotal maxRow (callsP items prior pend)) :
    ∃ r, prefixLoop maxRow items prior pend acc ws = .ok r := by
  obtain ⟨r, hr⟩ := foldCalls_total maxRow _ acc h
  rw [← prefixLoop_acc maxRow items prior pend acc ws] at hr
  cases hp : prefixLoop maxRow items prior pend acc ws with
  | ok r' => exact ⟨r', rfl⟩
  | error e => rw [hp] at hr; cases hr

theorem histLoop_total (maxRow limit : Nat) (p : Store) (fuel : Nat) (cursor : Int) (acc : CAcc) (ws : Nat)
    (hc : 0 ≤ cursor ∨ limit = 0)
    (h : ∀ c : Nat, CallsTotal maxRow (callsP (scanPrefix p c) none [])) :
    ∃ r, histLoop maxRow limit p fuel cursor acc ws = .ok r := by
  induction fuel generalizing cursor acc ws with
  | zero => exact ⟨_, rfl⟩
  | succ f ih =>
    simp only [histLoop]
    split
    · next hcond =>
      have h0 : 0 ≤ cursor := by
        rcases hc with hc | hc
        · exact hc
        · omega
      rw [if_neg (by omega)]
      obtain ⟨r, hr⟩ := prefixLoop_total maxRow (scanPrefix p cursor.toNat) none [] acc 0 (h cursor.toNat)
      unfold compactPrefix
      rw [hr]
      exact ih _ _ _ (Or.inl (by omega))
    · exact ⟨_, rfl⟩

theorem fullHist_ne_nil {rows : List Row} (hne : rows ≠ []) (he : ∀ e ∈ rows, e.2 ≠ []) : fullHist rows ≠ [] := by
  cases rows with
  | nil => exact absurd rfl hne
  | cons a r =>
    unfold fullHist
    simp only [List.flatMap_cons, ne_eq, List.append_eq_nil_iff, not_and]
    intro h; exact absurd h (he a List.mem_cons_self)

theorem callsTotal_scan (maxRow : Nat) (hm : 0 < maxRow) (p : Store) (hn : NodupKeys p.hist)
    (he : NoEmptyRows p.hist) (hw : RowCountOK maxRow p) (c : Nat) :
    CallsTotal maxRow (callsP (scanPrefix p c) none []) := by
  intro cl hcl acc
  obtain ⟨r1, r2, _, _⟩ := (callsP_ok p hn c).rows cl hcl
  apply compactHashX_total maxRow hm
  · apply fullHist_ne_nil r2
    intro e hee
    rw [r1] at hee
    exact he e (mem_rowsOf.mp hee).1
  · unfold chunksOf fullHist
    rw [r1]
    exact hw cl.1

theorem compactHistory_total (maxRow limit : Nat) (hm : 0 < maxRow) (s : Sys) (hn : NodupKeys s.p.hist)
    (he : NoEmptyRows s.p.hist) (hw : RowCountOK maxRow s.p) (hc : 0 ≤ s.m.compCursor ∨ limit = 0) :
    ∃ e s', compactHistory maxRow limit s = .ok (e, s') := by
  unfold compactHistory
  obtain ⟨r, hr⟩ := histLoop_total maxRow limit s.p (65536 - s.m.compCursor).toNat s.m.compCursor
    { cfc := s.m.compFlush } 0 hc (callsTotal_scan maxRow hm s.p hn he hw)
  rw [hr]
  exact ⟨_, _, rfl⟩

theorem rowCountOK_congr {maxRow : Nat} {p p' : Store}
    (h : ∀ hx, getTxnums p' hx none = getTxnums p hx none) (hw : RowCountOK maxRow p) : RowCountOK maxRow p' := by
  intro hx; rw [nchunks_congr h]; exact hw hx

theorem compactHistory_progress (maxRow limit : Nat) (hl : 0 < limit) (s : Sys) (e : Effect) (s' : Sys)
    (hn : NodupKeys s.p.hist) (h1 : s.m.compCursor < 65536)
    (h : compactHistory maxRow limit s = .ok (e, s')) :
    s'.m.compCursor = -1 ∨ (s.m.compCursor < s'.m.compCursor ∧ s'.m.compCursor < 65536) := by
  obtain ⟨k, cfc', hB⟩ := compactHistory_ok maxRow limit s e s' hn h
  have := hB.pos hl h1
  have := hB.le
  rw [hB.mem]
  unfold flushCompaction
  split
  · exact Or.inl rfl
  · exact Or.inr (by simp only; omega)

/-- the hypotheses of `compactHistory_total` on the system; every batch keeps them (`tinv_batch`) -/
structure TInv (maxRow : Nat) (s : Sys) : Prop where
  nodup : NodupKeys s.p.hist
  noEmpty : NoEmptyRows s.p.hist
  rowCount : RowCountOK maxRow s.p

theorem tinv_batch (maxRow limit : Nat) (hm : 0 < maxRow) (s : Sys) (e : Effect) (s' : Sys)
    (hT : TInv maxRow s) (h : compactHistory maxRow limit s = .ok (e, s')) : TInv maxRow s' := by
  obtain ⟨k, cfc', hB⟩ := compactHistory_ok maxRow limit s e s' hT.nodup h
  refine ⟨hB.rows.nodup, fun r hr => ?_, rowCountOK_congr (hB.rows.getTxnums hm hT.nodup) hT.rowCount⟩
  rcases hB.rows.row hr with ⟨_, _, hc⟩ | ⟨he, _⟩
  · exact compactRows_ne_nil hm hc
  · exact hT.noEmpty r he

/-- with positive limits, 65536 minus the cursor iterations suffice: every batch handles at least one
    prefix -/
theorem driverLoop_completes (maxRow : Nat) (hm : 0 < maxRow) (limits : List Nat) (s : Sys)
    (hT : TInv maxRow s) (hl : ∀ l ∈ limits, 0 < l)
    (hc : s.m.compCursor = -1 ∨
      (0 ≤ s.m.compCursor ∧ s.m.compCursor < 65536 ∧ 65536 - s.m.compCursor ≤ limits.length)) :
    (driverLoop maxRow limits s).1.m.compCursor = -1 := by
  induction limits generalizing s with
  | nil =>
    rcases hc with hc | ⟨_, _, hc⟩
    · exact hc
    · simp only [List.length_nil] at hc; omega
  | cons limit rest ih =>
    rcases hc with hc | ⟨c0, c1, c2⟩
    · rw [driverLoop_done maxRow _ s hc]; exact hc
    · have hne : s.m.compCursor ≠ -1 := by omega
      obtain ⟨e, s', hb⟩ := compactHistory_total maxRow limit hm s hT.nodup hT.noEmpty hT.rowCount (Or.inl c0)
      have hstep : driverLoop maxRow (limit :: rest) s = driverLoop maxRow rest s' := by
        simp only [driverLoop]; rw [if_neg hne, hb]
      rw [hstep]
      apply ih s' (tinv_batch maxRow limit hm s e s' hT hb) (fun l hl' => hl l (List.mem_cons_of_mem _ hl'))
      rcases compactHistory_progress maxRow limit (hl limit List.mem_cons_self) s e s' hT.nodup c1 hb with hp | ⟨hp1, hp2⟩
      · exact Or.inl hp
      · right
        simp only [List.length_cons] at c2
        exact ⟨by omega, hp2, by omega⟩

theorem compactScript_completes (cfg : Cfg) (maxRow : Nat) (hm : 0 < maxRow) (p : Store) (limits : List Nat)
    (hP : PInv maxRow p) (he : NoEmptyRows p.hist) (hw : RowCountOK maxRow p)
    (hcur : (hsOf p).compCursor = -1 ∨ (0 ≤ (hsOf p).compCursor ∧ (hsOf p).compCursor < 65536))
    (hl : ∀ l ∈ limits, 0 < l) (hlen : 65536 ≤ limits.length)
    (es : List Effect) (s : Sys) (ho : openDbs cfg p true none = some (es, s))
    (hfs : s.m.dbst.firstSync = false) :
    (hsOf (compactScript cfg maxRow p limits true)).compCursor = -1 ∧
    uF (compactScript cfg maxRow p limits true) = hF (compactScript cfg maxRow p limits true) := by
  obtain ⟨o1, _, _, _, hF0, o7, hI⟩ := compactScript_start hP ho
  have hT : TInv maxRow ({ s with m := driverInit s.m } : Sys) :=
    ⟨by show NodupKeys s.p.hist; rw [o1]; exact hP.nodup, by show NoEmptyRows s.p.hist; rw [o1]; exact he,
      rowCountOK_congr (fun hx => getTxnums_congr o1 hx none) hw⟩
  have hc0 : 0 ≤ ({ s with m := driverInit s.m } : Sys).m.compCursor ∧
      ({ s with m := driverInit s.m } : Sys).m.compCursor < 65536 := by
    show 0 ≤ (if s.m.compCursor = -1 then 0 else s.m.compCursor) ∧
      (if s.m.compCursor = -1 then 0 else s.m.compCursor) < 65536
    rw [o7]; split <;> omega
  have c2 := driverLoop_completes maxRow hm limits _ hT hl (Or.inr ⟨hc0.1, hc0.2, by omega⟩)
  obtain ⟨_, _, _, d5, d7, _⟩ := driverLoop_inv maxRow hm limits _ hI hF0
  rw [compactScript_eq, ho]
  simp only
  rw [if_neg (by rw [hfs]; simp), if_pos ⟨c2, trivial⟩]
  generalize (driverLoop maxRow limits { s with m := driverInit s.m }).1 = s' at *
  -- `set_flush_count` leaves the history state record alone and copies the flush count
  show (hsOf s'.p).compCursor = -1 ∧ s'.m.histFlush = hF s'.p
  rcases d7 with rfl | d7
  · -- no batch committed: impossible, the loop ended with cursor −1 but began with it in `0 … 65535`
    omega
  · exact ⟨by rw [hsOf_of_hstate d7]; exact c2, d5.symm⟩

end EV.Compact
