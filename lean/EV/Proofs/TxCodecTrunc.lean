import EV.Proofs.TxCodecBasic

/-! Every reader as a sequence (`Reader.bind`, `seq`) of three elementary ones (`readByte`, `readFixed`,
`takeBytes`), and what sequencing preserves: no `outOfFuel`, cursors move forward by a least amount,
the behaviour on a truncated buffer (`Regular`).  `read_tx` ends in a fixed-width read, so on a
truncated buffer it fails. -/
namespace EV.TxCodec

def Reader.bind {α β : Type} (r : Reader α) (k : α → Reader β) : Reader β := fun buf c =>
  match r buf c with
  | .error e => .error e
  | .ok (x, c1) => k x buf c1

def Reader.pure {α : Type} (x : α) : Reader α := fun _ c => .ok (x, c)

def seq {α β γ : Type} (r1 : Reader α) (r2 : Reader β) (f : α → β → γ) : Reader γ :=
  Reader.bind r1 fun x => Reader.bind r2 fun y => .pure (f x y)

/-- the slice `buf[c:c+k]`, silently truncated -/
def takeBytes (k : Nat) : Reader Bytes := fun buf c => .ok (slice buf c (c + k), c + k)

section
variable {α β γ : Type} {r : Reader α} {k : α → Reader β} {buf : Bytes} {c c1 e : Nat} {x : α} {y : β}

theorem bind_error {err : PyExc} (h : r buf c = .error err) : Reader.bind r k buf c = .error err := by
  rw [Reader.bind, h]

theorem bind_of_ok (h : r buf c = .ok (x, c1)) : Reader.bind r k buf c = k x buf c1 := by
  rw [Reader.bind, h]

theorem bind_ok : Reader.bind r k buf c = .ok (y, e) ↔
    ∃ x c1, r buf c = .ok (x, c1) ∧ k x buf c1 = .ok (y, e) := by
  cases hr : r buf c with
  | error err => rw [bind_error hr]; exact ⟨nofun, fun ⟨_, _, h, _⟩ => nomatch h⟩
  | ok p =>
    rw [bind_of_ok hr]
    exact ⟨fun h => ⟨p.1, p.2, rfl, h⟩, fun ⟨_, _, h, hk⟩ => by cases h; exact hk⟩

theorem seq_ok {r2 : Reader β} {f : α → β → γ} {z : γ} : seq r r2 f buf c = .ok (z, e) ↔
    ∃ x c1 y, r buf c = .ok (x, c1) ∧ r2 buf c1 = .ok (y, e) ∧ z = f x y := by
  simp only [seq, bind_ok, Reader.pure, Except.ok.injEq, Prod.mk.injEq]
  exact ⟨fun ⟨x, c1, h1, y, _, h2, h3, h4⟩ => ⟨x, c1, y, h1, h4 ▸ h2, h3.symm⟩,
    fun ⟨x, c1, y, h1, h2, h3⟩ => ⟨x, c1, h1, y, e, h2, h3.symm, rfl⟩⟩
end

/-- `buf[c]`, `IndexError` behind the end -/
def readByte : Reader Nat := fun buf c =>
  match buf[c]? with
  | none => .error .indexError
  | some m => .ok (m, c + 1)

theorem readByte_ok {buf : Bytes} {c m e : Nat} : readByte buf c = .ok (m, e) ↔ buf[c]? = some m ∧ e = c + 1 := by
  unfold readByte
  cases buf[c]? with
  | none => exact ⟨nofun, nofun⟩
  | some x => exact ⟨fun h => by cases h; exact ⟨rfl, rfl⟩, fun ⟨h1, h2⟩ => by cases h1; rw [h2]⟩

theorem readVarint_eq : readVarint = Reader.bind readByte fun m =>
    if m < 253 then .pure m else readLeU (varintWidth m) := by
  funext buf c
  unfold readVarint Reader.bind readByte
  cases buf[c]? with
  | none => rfl
  | some m =>
    show (if m < 253 then _ else if m = 253 then _ else if m = 254 then _ else _) =
      (if m < 253 then Reader.pure m else readLeU (varintWidth m)) buf (c + 1)
    by_cases h1 : m < 253
    · rw [if_pos h1, if_pos h1]; rfl
    · rw [if_neg h1, if_neg h1]
      unfold varintWidth
      by_cases h2 : m = 253
      · rw [if_pos h2, if_pos h2]
      · rw [if_neg h2, if_neg h2]
        by_cases h3 : m = 254
        · rw [if_pos h3, if_pos h3]
        · rw [if_neg h3, if_neg h3]

theorem readVarbytes_eq : readVarbytes = Reader.bind readVarint takeBytes := by
  funext buf c
  simp only [readVarbytes, Reader.bind, takeBytes]
  split <;> simp only [*]

theorem readInput_eq : readInput = seq (takeBytes 32)
    (seq (readLeU 4) (seq readVarbytes (readLeU 4) Prod.mk) Prod.mk)
    fun h p => ⟨h, p.1, p.2.1, p.2.2⟩ := by
  funext buf c
  simp only [readInput, seq, Reader.bind, Reader.pure, takeBytes]
  split <;> simp only [*]
  split <;> simp only [*]
  split <;> simp only [*]

theorem readOutput_eq : readOutput = seq readLeI64 readVarbytes TxOut.mk := by
  funext buf c
  simp only [readOutput, seq, Reader.bind, Reader.pure]
  split <;> simp only [*]
  split <;> simp only [*]

theorem readItems_succ {α : Type} (r : Reader α) (n : Nat) (buf : Bytes) :
    readItems r buf (n + 1) = seq r (fun buf => readItems r buf n) List.cons buf := by
  funext c
  simp only [readItems, seq, Reader.bind, Reader.pure]
  split <;> simp only [*]
  split <;> simp only [*]

theorem readMany_eq {α : Type} (r : Reader α) :
    readMany r = Reader.bind readVarint fun n buf => readItems r buf n := by
  funext buf c
  simp only [readMany, Reader.bind]
  split <;> simp only [*]

theorem readTx_eq : readTx = seq readLeI32
    (seq (readMany readInput) (seq (readMany readOutput) (readLeU 4) Prod.mk) Prod.mk)
    fun v p => ⟨v, p.1, p.2.1, p.2.2⟩ := by
  funext buf c
  simp only [readTx, seq, Reader.bind, Reader.pure]
  split <;> simp only [*]
  split <;> simp only [*]
  split <;> simp only [*]
  split <;> simp only [*]

theorem readFixed_inv {α : Type} {w : Nat} {f : Nat → α} {buf : Bytes} {c : Nat} {x : α} {e : Nat}
    (h : readFixed w f buf c = .ok (x, e)) :
    e = c + w ∧ c + w ≤ buf.length ∧ x = f (leNat (slice buf c (c + w))) := by
  unfold readFixed at h
  by_cases hl : c + w ≤ buf.length
  · rw [if_pos hl] at h
    obtain ⟨rfl, rfl⟩ := Prod.mk.inj (Except.ok.inj h)
    exact ⟨rfl, hl, rfl⟩
  · rw [if_neg hl] at h; cases h

theorem readVarint_inv {buf : Bytes} {c n e : Nat} (h : readVarint buf c = .ok (n, e)) :
    ∃ m, buf[c]? = some m ∧
      ((m < 253 ∧ n = m ∧ e = c + 1) ∨
       (253 ≤ m ∧ readLeU (varintWidth m) buf (c + 1) = .ok (n, e))) := by
  obtain ⟨m, _, hb, hk⟩ := bind_ok.mp (readVarint_eq ▸ h)
  obtain ⟨hm, rfl⟩ := readByte_ok.mp hb
  refine ⟨m, hm, ?_⟩
  by_cases h1 : m < 253
  · rw [if_pos h1] at hk; cases hk; exact .inl ⟨h1, rfl, rfl⟩
  · rw [if_neg h1] at hk; exact .inr ⟨by omega, hk⟩

theorem slice_take {buf : Bytes} {a b n : Nat} (h : b ≤ n) : slice (buf.take n) a b = slice buf a b := by
  rw [slice, slice, List.drop_take, List.take_take, Nat.min_eq_left (Nat.sub_le_sub_right h a)]

/-- the two classes a reader raises on a buffer that ends too early; the refill loops catch both
    (`Gen.iterTxsCaught`, `Gen.chunkOffsetsCaught`) -/
def Soft (e : PyExc) : Prop := e = .indexError ∨ e = .structError

/-- `2^63`: offsets from here on make `unpack_from` raise `OverflowError` -/
def B63 : Nat := 9223372036854775808

theorem unpackErr_soft {c : Nat} (h : c < B63) : Soft (unpackErr c) := by
  unfold unpackErr B63 at *; right; rw [if_neg (by omega)]

theorem unpackErr_ne (c : Nat) : unpackErr c ≠ .outOfFuel := by
  unfold unpackErr; split <;> exact nofun

/-- What sequencing preserves.  The reader never reports `outOfFuel`; a successful read moves the
    cursor forward by at least `w`; on a truncated buffer it gives the same answer if the read ended inside it,
    otherwise an error, or – for readers that end in a silently truncating slice – some answer with
    the *same* cursor. -/
structure Regular {α : Type} (w : Nat) (r : Reader α) : Prop where
  noOof : ∀ buf c, r buf c ≠ .error .outOfFuel
  mono : ∀ {buf c x e}, r buf c = .ok (x, e) → c + w ≤ e
  take : ∀ {buf c x e} (n : Nat), r buf c = .ok (x, e) → e ≤ n → r (buf.take n) c = .ok (x, e)
  cut : ∀ {buf c x e} (n : Nat), r buf c = .ok (x, e) → n < e →
    (∃ err, r (buf.take n) c = .error err ∧ (e ≤ B63 → Soft err)) ∨ ∃ x', r (buf.take n) c = .ok (x', e)

/-- holds of readers that end in a fixed-width read -/
def Strict {α : Type} (r : Reader α) : Prop := ∀ {buf c x e}, r buf c = .ok (x, e) → e ≤ buf.length

section
variable {α β γ : Type} {r : Reader α} {k : α → Reader β} {w w1 w2 : Nat}

theorem Regular.fails (h : Regular w r) (hs : Strict r) {buf : Bytes} {c e n : Nat} {x : α}
    (hr : r buf c = .ok (x, e)) (hn : n < e) :
    ∃ err, r (buf.take n) c = .error err ∧ (e ≤ B63 → Soft err) := by
  rcases h.cut n hr hn with h1 | ⟨x', h1⟩
  · exact h1
  · have := hs h1
    rw [List.length_take] at this; omega

/-- `hx`: the head may, on a buffer cut inside what it read, still answer (with the same cursor
    `c1` but another value `x'`); the continuation for `x'` must then behave like that for `x` -/
theorem Regular.bind (h : Regular w1 r) (hk : ∀ x, Regular w2 (k x))
    (hx : ∀ {buf c x c1 x' y e} (n : Nat), r buf c = .ok (x, c1) → r (buf.take n) c = .ok (x', c1) →
      n < c1 → k x buf c1 = .ok (y, e) →
      (∃ err, k x' (buf.take n) c1 = .error err ∧ (e ≤ B63 → Soft err)) ∨
        ∃ y', k x' (buf.take n) c1 = .ok (y', e)) :
    Regular (w1 + w2) (Reader.bind r k) where
  noOof buf c := by
    cases hr : r buf c with
    | error err => rw [bind_error hr]; exact fun he => h.noOof buf c (hr.trans (by rw [Except.error.inj he]))
    | ok p => rw [bind_of_ok hr]; exact (hk p.1).noOof buf p.2
  mono hy := by
    obtain ⟨x, c1, h1, h2⟩ := bind_ok.mp hy
    have := h.mono h1
    have := (hk x).mono h2
    omega
  take n hy hn := by
    obtain ⟨x, c1, h1, h2⟩ := bind_ok.mp hy
    have := (hk x).mono h2
    exact bind_ok.mpr ⟨x, c1, h.take n h1 (by omega), (hk x).take n h2 hn⟩
  cut n hy hn := by
    obtain ⟨x, c1, h1, h2⟩ := bind_ok.mp hy
    have := (hk x).mono h2
    rcases Nat.lt_or_ge n c1 with h5 | h5
    · rcases h.cut n h1 h5 with ⟨err, e1, s1⟩ | ⟨x', e1⟩
      · exact .inl ⟨err, bind_error e1, fun he => s1 (by omega)⟩
      · rw [bind_of_ok e1]; exact hx n h1 e1 h5 h2
    · rw [bind_of_ok (h.take n h1 h5)]; exact (hk x).cut n h2 hn

theorem Regular.bind_strict (h : Regular w1 r) (hs : Strict r) (hk : ∀ x, Regular w2 (k x)) :
    Regular (w1 + w2) (Reader.bind r k) :=
  h.bind hk fun n _ e1 h5 _ => absurd (hs e1) (by rw [List.length_take]; omega)

theorem regular_pure (x : α) : Regular 0 (Reader.pure x) where
  noOof _ _ := nofun
  mono h := by cases h; exact Nat.le_refl _
  take _ h _ := h
  cut _ h _ := .inr ⟨_, h⟩

theorem Regular.seq {r2 : Reader β} (h1 : Regular w1 r) (h2 : Regular w2 r2) (f : α → β → γ) :
    Regular (w1 + w2) (seq r r2 f) :=
  h1.bind (fun x => h2.bind (fun y => regular_pure (f x y)) fun _ _ _ _ hz => by cases hz; exact .inr ⟨_, rfl⟩)
    fun n _ _ h5 hz => by
      -- the head still answered, with its cursor `c1 > n`: `r2` starts behind the cut, so `h2.cut` applies
      obtain ⟨y, e', hy, hp⟩ := bind_ok.mp hz
      cases hp
      rcases h2.cut n hy (Nat.lt_of_lt_of_le h5 (Nat.le_trans (Nat.le_add_right _ _) (h2.mono hy))) with ⟨err, e1, s1⟩ | ⟨y', e1⟩
      · exact .inl ⟨err, bind_error e1, s1⟩
      · exact .inr ⟨_, bind_of_ok e1⟩

theorem Regular.weaken (h : Regular w r) {w' : Nat} (hw : w' ≤ w) : Regular w' r :=
  { h with mono := fun hr => Nat.le_trans (Nat.add_le_add_left hw _) (h.mono hr) }

theorem Strict.seq {r2 : Reader β} (h2 : Strict r2) (f : α → β → γ) : Strict (seq r r2 f) := fun h => by
  obtain ⟨_, _, _, _, hy, _⟩ := seq_ok.mp h
  exact h2 hy
end

theorem regular_takeBytes (k : Nat) : Regular k (takeBytes k) where
  noOof _ _ := nofun
  mono h := by cases h; exact Nat.le_refl _
  take n h hn := by cases h; rw [takeBytes, slice_take hn]
  cut _ h _ := by cases h; exact .inr ⟨_, rfl⟩

theorem readFixed_take {α : Type} {w : Nat} {f : Nat → α} {buf : Bytes} {c : Nat} {x : α} {e : Nat}
    (n : Nat) (h : readFixed w f buf c = .ok (x, e)) :
    (e ≤ n → readFixed w f (buf.take n) c = .ok (x, e)) ∧
    (n < e → readFixed w f (buf.take n) c = .error (unpackErr c)) := by
  obtain ⟨rfl, h2, rfl⟩ := readFixed_inv h
  have hl : (buf.take n).length = min n buf.length := List.length_take
  exact ⟨fun hn => by rw [readFixed, if_pos (by omega), slice_take hn],
    fun hn => by rw [readFixed, if_neg (by omega)]⟩

theorem strict_readFixed {α : Type} (w : Nat) (f : Nat → α) : Strict (readFixed w f) :=
  fun h => by obtain ⟨rfl, h2, _⟩ := readFixed_inv h; exact h2

theorem regular_readFixed {α : Type} (w : Nat) (hw : 0 < w) (f : Nat → α) : Regular w (readFixed w f) where
  noOof buf c := by
    unfold readFixed; split
    · exact nofun
    · exact fun h => unpackErr_ne c (Except.error.inj h)
  mono h := by obtain ⟨rfl, _⟩ := readFixed_inv h; exact Nat.le_refl _
  take n h := (readFixed_take n h).1
  cut n h hn := .inl ⟨_, (readFixed_take n h).2 hn, fun he =>
    unpackErr_soft (by obtain ⟨rfl, _⟩ := readFixed_inv h; omega)⟩

theorem regular_readByte : Regular 1 readByte where
  noOof buf c := by unfold readByte; cases buf[c]? <;> exact nofun
  mono h := by obtain ⟨_, rfl⟩ := readByte_ok.mp h; exact Nat.le_refl _
  take n h hn := by
    obtain ⟨hm, rfl⟩ := readByte_ok.mp h
    exact readByte_ok.mpr ⟨by rw [List.getElem?_take, if_pos (by omega), hm], rfl⟩
  cut n h hn := by
    obtain ⟨_, rfl⟩ := readByte_ok.mp h
    exact .inl ⟨.indexError, by rw [readByte, List.getElem?_take, if_neg (by omega)], fun _ => .inl rfl⟩

theorem strict_readByte : Strict readByte := fun h => by
  obtain ⟨hm, rfl⟩ := readByte_ok.mp h
  exact (List.getElem?_eq_some_iff.mp hm).1

theorem regular_readVarint : Regular 1 readVarint :=
  readVarint_eq ▸ regular_readByte.bind_strict (w2 := 0) strict_readByte fun m => by
    split
    · exact regular_pure m
    · exact (regular_readFixed _ (Nat.lt_of_lt_of_le (by decide) (varintWidth_bounds m).1) id).weaken
        (Nat.zero_le _)

theorem strict_readVarint : Strict readVarint := fun h => by
  obtain ⟨m, hm, h1⟩ := readVarint_inv h
  rcases h1 with ⟨_, _, rfl⟩ | ⟨_, h2⟩
  · exact (List.getElem?_eq_some_iff.mp hm).1
  · exact strict_readFixed _ id h2

theorem regular_readVarbytes : Regular 1 readVarbytes :=
  readVarbytes_eq ▸ regular_readVarint.bind_strict strict_readVarint fun n =>
    (regular_takeBytes n).weaken (Nat.zero_le n)

theorem regular_readInput : Regular 41 readInput :=
  readInput_eq ▸ (regular_takeBytes 32).seq ((regular_readFixed 4 (by decide) id).seq
    (regular_readVarbytes.seq (regular_readFixed 4 (by decide) id) _) _) _

theorem regular_readOutput : Regular 9 readOutput :=
  readOutput_eq ▸ (regular_readFixed 8 (by decide) natToI64).seq regular_readVarbytes _

theorem regular_readItems {α : Type} {r : Reader α} {w : Nat} (h : Regular w r) :
    ∀ n, Regular 0 fun buf => readItems r buf n
  | 0 => regular_pure []
  | n + 1 => funext (readItems_succ r n) ▸ (h.seq (regular_readItems h n) _).weaken (Nat.zero_le _)

theorem regular_readMany {α : Type} {r : Reader α} {w : Nat} (h : Regular w r) : Regular 1 (readMany r) :=
  readMany_eq r ▸ regular_readVarint.bind_strict strict_readVarint (regular_readItems h)

theorem regular_readTx : Regular 10 readTx :=
  readTx_eq ▸ (regular_readFixed 4 (by decide) natToI32).seq ((regular_readMany regular_readInput).seq
    ((regular_readMany regular_readOutput).seq (regular_readFixed 4 (by decide) id) _) _) _

theorem strict_readTx : Strict readTx :=
  readTx_eq ▸ Strict.seq (Strict.seq (Strict.seq (strict_readFixed 4 id) _) _) _

theorem readTx_bounds {buf : Bytes} {c : Nat} {t : Tx} {e : Nat} (h : readTx buf c = .ok (t, e)) :
    c + 10 ≤ e ∧ e ≤ buf.length := ⟨regular_readTx.mono h, strict_readTx h⟩

theorem readTx_truncated {buf : Bytes} {c : Nat} {t : Tx} {e : Nat} (h : readTx buf c = .ok (t, e))
    {n : Nat} (hn : n < e) :
    ∃ err, readTx (buf.take n) c = .error err ∧ (e ≤ B63 → Soft err) :=
  regular_readTx.fails strict_readTx h hn

end EV.TxCodec
