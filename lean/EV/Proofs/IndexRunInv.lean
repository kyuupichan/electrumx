import EV.Proofs.IndexRun
import EV.Proofs.IndexOpen

/-!
The whole-run invariant extended by what back-outs and re-opens need (`FullInv'`):

  * `valid`    the chain indexed so far is valid — `backup_block` undoes a block only correctly if the
               block had been a valid one;
  * `undo`     for every height `h` of the ghost set `K` ("heights whose undo information is
               retained"), the undo information a back-out at `h` would find once everything pending
               is flushed (`undoLookup`) is exactly `blockUndo` of block `h` w.r.t. the specification
               state before it; every `h ∈ K` is below the chain length, so `U` rows at or above the
               tip — the rows orphaned blocks leave behind (finding N2 of DESIGN.md §8) — are unconstrained;
  * `dbEq`, `hstate`, `fcLe`, `histIds`   the flush-count bookkeeping a restart depends on;
  * `db`, `undoUAbove`   what is COMMITTED: the `h`/`u` rows, the history rows with ids up to the
               UTXO flush count, and the persisted state record describe exactly the chain as of the
               last UTXO flush (`chain.take (DB.state.height + 1)`) — what a restart that loses all
               unflushed work falls back to.

`K` evolves with the operations: an advance at height `n` adds `n` iff `undoKept cfg daemonH n`
(the model's retention rule `n ≥ daemonH − reorgLimit + 1`), so holes left by falling daemon heights
(finding F10 there) are simply heights not in `K`.
-/
namespace EV.Index
open EV.Spec

def ValidChain (cfg : Cfg) (chain : List Block) : Prop :=
  ∀ pre b suf, chain = pre ++ b :: suf → ValidNext cfg pre b

theorem validChain_nil (cfg : Cfg) : ValidChain cfg [] := by
  intro pre b suf h
  simp at h

theorem validChain_snoc {cfg : Cfg} {chain : List Block} {b : Block} (h : ValidChain cfg chain)
    (hb : ValidNext cfg chain b) : ValidChain cfg (chain ++ [b]) := by
  intro pre x suf heq
  rcases append_cons_eq_snoc heq with ⟨-, rfl, rfl⟩ | ⟨suf', -, hc⟩
  · exact hb
  · exact h pre x suf' hc

theorem validChain_prefix {cfg : Cfg} {pre suf : List Block} (h : ValidChain cfg (pre ++ suf)) :
    ValidChain cfg pre := by
  intro p x q heq
  exact h p x (q ++ suf) (by rw [heq]; simp)

theorem validChain_last {cfg : Cfg} {pre : List Block} {b : Block} (h : ValidChain cfg (pre ++ [b])) :
    ValidNext cfg pre b :=
  h pre b [] rfl

/-- the specification's UTXO set of a valid chain has distinct outpoints -/
theorem specChain_nodup {cfg : Cfg} (chain : List Block) (h : ValidChain cfg chain) :
    ((specChain cfg.act chain).utxos.map opOf).Nodup := by
  induction chain using List.snoc_induction with
  | nil => simp [specChain, specFrom]
  | snoc l b ih =>
    rw [specChain_snoc]
    exact foldl_applyTx_nodup b.txs (ih (validChain_prefix h)) (validChain_last h).2

def advOnly (chain : List Block) : List IOp := chain.map (fun b => IOp.adv b 0)

theorem chainOf_advOnly (chain : List Block) : chainOf (advOnly chain) = chain := by
  induction chain with
  | nil => rfl
  | cons b r ih => simp only [advOnly, List.map_cons, chainOf] at ih ⊢; rw [ih]

theorem validOps_advOnly {cfg : Cfg} (pre suf : List Block) (h : ValidChain cfg (pre ++ suf)) :
    ValidOps cfg pre (advOnly suf) := by
  induction suf generalizing pre with
  | nil => trivial
  | cons b r ih =>
    refine ⟨h pre b r rfl, ih (pre ++ [b]) (by simpa using h)⟩

/-- the undo list `backup_block` at height `h` would read once everything pending is flushed:
    the last unflushed entry for `h` if there is one (the UTXO batch puts them in order, so a later
    one wins and overwrites the `U` row), else the `U` row on disk -/
def undoLookup (s : Sys) (h : Nat) : Option (List CacheVal) :=
  match alookup h ((s.m.undoU.map (fun (ui, h) => (h, ui))).reverse) with
  | some ui => some ui
  | none => alookup h s.p.undo

theorem undoLookup_of_nil {s : Sys} (h0 : s.m.undoU = []) (h : Nat) :
    undoLookup s h = alookup h s.p.undo := by
  simp [undoLookup, h0]

theorem undoLookup_congr {s s' : Sys} (h1 : s'.m.undoU = s.m.undoU) (h2 : s'.p.undo = s.p.undo)
    (h : Nat) : undoLookup s' h = undoLookup s h := by
  simp only [undoLookup, h1, h2]

def UndoInv (cfg : Cfg) (chain : List Block) (K : List Nat) (s : Sys) : Prop :=
  ∀ h ∈ K, ∀ pre b suf, chain = pre ++ b :: suf → pre.length = h →
    undoLookup s h = some (blockUndo cfg.act h (specChain cfg.act pre) b.txs)

theorem undoInv_congr {cfg : Cfg} {chain : List Block} {K : List Nat} {s s' : Sys}
    (u : UndoInv cfg chain K s) (h : ∀ k ∈ K, undoLookup s' k = undoLookup s k) :
    UndoInv cfg chain K s' := by
  intro k hk pre b suf hc hl
  rw [h k hk]
  exact u k hk pre b suf hc hl

/-- The committed part of the index describes the chain `dbc` (the blocks up to the last UTXO
flush): the `h`/`u` rows are the rows of its UTXO set, the history rows with ids up to the UTXO
flush count (those `clear_excess` keeps; `histUpTo`, `IndexOpen.lean`, filters them: rows written by later
history-only flushes belong to blocks that are not committed yet) are its histories, `DB.state`
carries its counters. -/
structure DbInv (cfg : Cfg) (dbc : List Block) (s : Sys) : Prop where
  rowsH : ∀ e, e ∈ s.p.h ↔ ∃ u ∈ (specChain cfg.act dbc).utxos, e = (hkey u, u.hx)
  rowsU : ∀ e, e ∈ s.p.u ↔ ∃ u ∈ (specChain cfg.act dbc).utxos, e = (ukey u, u.value)
  hist : ∀ hx, getTxnums { s.p with hist := histUpTo s.p.hist s.m.dbst.flushCount } hx none =
           historyOf (specChain cfg.act dbc) hx
  utxoCount : s.m.dbst.utxoCount = ((specChain cfg.act dbc).utxos.length : Int)
  chainSize : s.m.dbst.chainSize = (dbc.map (·.size)).sum

theorem dbInv_congr {cfg : Cfg} {dbc : List Block} {s s' : Sys} (d : DbInv cfg dbc s)
    (hh : s'.p.h = s.p.h) (hu : s'.p.u = s.p.u)
    (hhist : histUpTo s'.p.hist s'.m.dbst.flushCount = histUpTo s.p.hist s.m.dbst.flushCount)
    (hdb : s'.m.dbst = s.m.dbst) : DbInv cfg dbc s' where
  rowsH := by rw [hh]; exact d.rowsH
  rowsU := by rw [hu]; exact d.rowsU
  hist := fun hx => by
    rw [← d.hist hx]
    exact getTxnums_congr hhist hx none
  utxoCount := by rw [hdb]; exact d.utxoCount
  chainSize := by rw [hdb]; exact d.chainSize

/-- `K` is the (ghost) set of heights whose undo information is retained. -/
structure FullInv' (cfg : Cfg) (chain : List Block) (K : List Nat) (s : Sys) : Prop where
  base : FullInv cfg chain s
  valid : ValidChain cfg chain
  /-- retained heights lie below the tip: rows at or above it are unconstrained (N2) -/
  kBound : ∀ h ∈ K, h < chain.length
  undo : UndoInv cfg chain K s
  /-- when the UTXO DB is at the tip, `DB.state` is the processor's state -/
  dbEq : s.m.dbst.height = s.m.st.height → s.m.dbst = s.m.st
  /-- the persisted history flush count is `History.flush_count` -/
  hstate : (s.p.hstate.getD {}).flushCount = s.m.histFlush
  /-- the UTXO flush count is never ahead of the history one -/
  fcLe : s.m.dbst.flushCount ≤ s.m.histFlush
  /-- on a flushed store no history row carries an id above the UTXO flush count
      (`clear_excess` finds nothing to delete) -/
  histIds : s.m.dbst.height = s.m.st.height → ∀ e ∈ s.p.hist, e.1.2 ≤ s.m.dbst.flushCount
  chainSize : s.m.st.chainSize = (chain.map (·.size)).sum
  db : DbInv cfg (chain.take (s.m.dbst.height + 1).toNat) s
  /-- unflushed undo lists belong to blocks above the last UTXO flush -/
  undoUAbove : ∀ e ∈ s.m.undoU, s.m.dbst.height < (e.2 : Int)

/-- **A fully flushed invariant state**: `DB.state` is the processor's state, nothing is cached, queued
or unflushed, so the rows alone hold the specification's UTXOs (`RepSys.flushed`) and the history rows
its histories; what is said of the committed part (`dbTip`, `db`) and the clauses guarded by "at the
tip" then follow.  What a UTXO flush, a back-out, a restart and the empty index all produce. -/
theorem fullInv'_of_flushed {cfg : Cfg} {c : List Block} {K : List Nat} {s : Sys}
    (valid : ValidChain cfg c) (kBound : ∀ h ∈ K, h < c.length)
    (rep : RepSys s (specChain cfg.act c).utxos)
    (hist : HistInv (specChain cfg.act c) s.p [] s.m.histFlush)
    (files : FilesInv c s) (hdb : s.m.dbst = s.m.st)
    (hc : s.m.cache = []) (hd : s.m.deletes = []) (hu : s.m.undoU = []) (hunf : s.m.unflushed = [])
    (tip : s.m.st.tip = (c.getLast?.map (·.hash)).getD 0)
    (utxoCount : s.m.st.utxoCount = ((specChain cfg.act c).utxos.length : Int))
    (chainSize : s.m.st.chainSize = (c.map (·.size)).sum)
    (ustate : (s.p.ustate = none ∧ s.m.dbst = {}) ∨ s.p.ustate = some s.m.dbst)
    (hstate : (s.p.hstate.getD {}).flushCount = s.m.histFlush)
    (fcLe : s.m.dbst.flushCount ≤ s.m.histFlush)
    (hids : ∀ e ∈ s.p.hist, e.1.2 ≤ s.m.dbst.flushCount)
    (undo : ∀ h ∈ K, ∀ pre b suf, c = pre ++ b :: suf → pre.length = h →
      alookup h s.p.undo = some (blockUndo cfg.act h (specChain cfg.act pre) b.txs)) :
    FullInv' cfg c K s := by
  have hK : (s.m.dbst.height + 1).toNat = c.length := by rw [hdb]; exact files.stK
  exact {
    base := {
      rep := rep
      hist := hunf ▸ hist
      files := files
      tip := tip
      dbTip := by rw [hK, List.take_length, hdb]; exact tip
      utxoCount := utxoCount
      flushedU := fun _ => ⟨hc, hd, hu⟩
      flushedH := fun _ => hunf
      ustate := ustate }
    valid := valid
    kBound := kBound
    undo := fun h hk pre b suf hcs hl => by
      rw [undoLookup_of_nil hu]; exact undo h hk pre b suf hcs hl
    dbEq := fun _ => hdb
    hstate := hstate
    fcLe := fcLe
    histIds := fun _ => hids
    chainSize := chainSize
    db := by
      rw [hK, List.take_length]
      have w := rep.flushed hc hd
      exact {
        rowsH := w.hRows
        rowsU := w.uRows
        hist := fun hx =>
          (getTxnums_congr (histUpTo_self hids) hx none).trans (getTxnums_flushed hist hx none)
        utxoCount := hdb ▸ utxoCount
        chainSize := hdb ▸ chainSize }
    undoUAbove := fun e he => absurd (hu ▸ he) List.not_mem_nil }

theorem fullInv'_init (cfg : Cfg) : FullInv' cfg [] [] {} :=
  fullInv'_of_flushed (validChain_nil cfg) nofun
    repSys_init histInv_init filesInv_init rfl rfl rfl rfl rfl rfl rfl rfl (Or.inl ⟨rfl, rfl⟩) rfl (Nat.le_refl _)
    nofun nofun

theorem fullInv'_subset {cfg : Cfg} {chain : List Block} {K K' : List Nat} {s : Sys}
    (inv : FullInv' cfg chain K s) (h : ∀ k ∈ K', k ∈ K) : FullInv' cfg chain K' s :=
  { inv with
    kBound := fun k hk => inv.kBound k (h k hk)
    undo := fun k hk => inv.undo k (h k hk) }

/-- The COMMITTED chain is the blocks up to the last UTXO flush: outputs spent since are still
resident, outputs created since are not. -/
theorem rowsOf_committed {cfg : Cfg} {chain : List Block} {K : List Nat} {s : Sys}
    (inv : FullInv' cfg chain K s) :
    RowsOf s (specChain cfg.act (chain.take (s.m.dbst.height + 1).toNat)).utxos := by
  obtain ⟨D, Del, w⟩ := inv.base.rep
  have hvalid : ValidChain cfg (chain.take (s.m.dbst.height + 1).toNat) := by
    apply validChain_prefix (suf := chain.drop (s.m.dbst.height + 1).toNat)
    rw [List.take_append_drop]
    exact inv.valid
  exact {
    nodup := specChain_nodup _ hvalid
    hRows := inv.db.rowsH
    uRows := inv.db.rowsU
    uKeys := w.uKeys
    res := fun u hu => resolve_committed inv.base.files hu }

def keptAfterAdv (cfg : Cfg) (daemonH : Int) (n : Nat) (K : List Nat) : List Nat :=
  if undoKept cfg daemonH n then n :: K else K

theorem mem_keptAfterAdv {cfg : Cfg} {daemonH : Int} {n : Nat} {K : List Nat} {h : Nat} :
    h ∈ keptAfterAdv cfg daemonH n K ↔ (undoKept cfg daemonH n = true ∧ h = n) ∨ h ∈ K := by
  unfold keptAfterAdv
  split <;> simp [*]

theorem undoLookup_snoc (s s' : Sys) (u : List CacheVal) (n : Nat)
    (h1 : s'.m.undoU = s.m.undoU ++ [(u, n)]) (h2 : s'.p.undo = s.p.undo) (h : Nat) :
    undoLookup s' h = if n = h then some u else undoLookup s h := by
  simp only [undoLookup, h1, h2, List.map_append, List.map_cons, List.map_nil, List.reverse_append,
    List.reverse_cons, List.reverse_nil, List.nil_append, List.singleton_append, alookup_cons]
  by_cases hn : n = h <;> simp [hn]

theorem fullInv'_advance {cfg : Cfg} {daemonH : Int} {chain : List Block} {K : List Nat} {s : Sys}
    {b : Block} (inv : FullInv' cfg chain K s) (hv : ValidNext cfg chain b) :
    ∃ s', advance cfg daemonH s b = .ok s' ∧
      FullInv' cfg (chain ++ [b]) (keptAfterAdv cfg daemonH chain.length K) s' ∧
      s'.m.dbst = s.m.dbst := by
  have f := inv.base.files
  obtain ⟨a, s', hadv, o, base', hU, hsize⟩ := advance_of_inv (daemonH := daemonH) inv.base hv
  have hdb : s.m.dbst.height < (chain.length : Int) := by
    have := f.order
    have := f.height
    omega
  have hlt : s'.m.dbst.height < s'.m.st.height := by
    rw [o.dbst, o.height, f.stK]; exact hdb
  refine ⟨s', hadv, ?_, o.dbst⟩
  exact {
    base := base'
    valid := validChain_snoc inv.valid hv
    kBound := by
      intro h hk
      rw [List.length_append, List.length_singleton]
      rcases mem_keptAfterAdv.mp hk with ⟨-, rfl⟩ | hk
      · exact Nat.lt_succ_self _
      · exact Nat.lt_succ_of_lt (inv.kBound h hk)
    undo := by
      intro h hk pre x suf hc hl
      -- `x` is the new block, or an old one whose lookup the new entry (for the tip) does not hide
      rcases append_cons_eq_snoc hc with ⟨-, rfl, rfl⟩ | ⟨suf', -, hc'⟩
      · rcases mem_keptAfterAdv.mp hk with ⟨hkept, -⟩ | hk
        · rw [if_pos hkept] at hU
          rw [undoLookup_snoc s s' _ _ hU (congrArg Store.undo o.p) h, if_pos hl, ← hl]
        · exact absurd (inv.kBound h hk) (by rw [hl]; exact Nat.lt_irrefl _)
      · have hlt' : h < chain.length := by
          rw [hc', ← hl, List.length_append, List.length_cons]; omega
        have hold : h ∈ K :=
          (mem_keptAfterAdv.mp hk).resolve_left fun e => Nat.ne_of_lt hlt' e.2
        rw [← inv.undo h hold pre x suf' hc' hl]
        split at hU
        · rw [undoLookup_snoc s s' _ _ hU (congrArg Store.undo o.p) h,
            if_neg (Nat.ne_of_gt hlt')]
        · exact undoLookup_congr hU (congrArg Store.undo o.p) h
    dbEq := fun h => absurd h (Int.ne_of_lt hlt)
    hstate := by rw [o.p, o.histFlush]; exact inv.hstate
    fcLe := by rw [o.dbst, o.histFlush]; exact inv.fcLe
    histIds := fun h => absurd h (Int.ne_of_lt hlt)
    chainSize := by
      rw [hsize, inv.chainSize, List.map_append, List.sum_append_nat]; rfl
    db := by
      rw [o.dbst, List.take_append_of_le_length f.dbK]
      exact dbInv_congr inv.db (by rw [o.p]) (by rw [o.p]) (by rw [o.p, o.dbst]) o.dbst
    undoUAbove := by
      intro e he
      rw [o.dbst]
      split at hU <;> rw [hU] at he
      · rcases List.mem_append.mp he with he | he
        · exact inv.undoUAbove e he
        · rw [List.mem_singleton.mp he]
          exact hdb
      · exact inv.undoUAbove e he }

theorem fullInv'_histStep {cfg : Cfg} {chain : List Block} {K : List Nat} {s : Sys}
    (inv : FullInv' cfg chain K s) (hne : s.m.st.height ≠ s.m.dbst.height) :
    FullInv' cfg chain K (flushHistStep s) where
  base := fullInv_histStep inv.base hne
  valid := inv.valid
  kBound := inv.kBound
  undo := undoInv_congr inv.undo fun k _ =>
    undoLookup_congr (s := s) (s' := flushHistStep s) rfl (by rw [flushHistStep_p]) k
  dbEq := fun h => absurd (show s.m.dbst.height = s.m.st.height from h).symm hne
  hstate := by
    rw [flushHistStep_p]
    show ((applyEffect s.p (histFlushEffect s)).hstate.getD {}).flushCount = s.m.histFlush + 1
    rw [hstate_histFlush]
    rfl
  fcLe := Nat.le_succ_of_le inv.fcLe
  histIds := fun h => absurd (show s.m.dbst.height = s.m.st.height from h).symm hne
  chainSize := inv.chainSize
  db := by
    refine dbInv_congr (s := s) inv.db (by rw [flushHistStep_p]) (by rw [flushHistStep_p]) ?_ rfl
    rw [flushHistStep_p]
    show histUpTo (applyEffect s.p (histFlushEffect s)).hist s.m.dbst.flushCount = _
    rw [hist_histFlush]
    apply histUpTo_foldl_ainsert_above
    intro e he
    obtain ⟨x, -, rfl⟩ := List.mem_map.mp he
    have := inv.fcLe
    show s.m.dbst.flushCount < s.m.histFlush + 1
    omega
  undoUAbove := inv.undoUAbove

/-- `hfc`: the state record this step commits must carry the history's flush count; `flushHistStep` has just set
    it, `flush_backup` does not (the NB in the model's `backupFull`) -/
theorem fullInv'_utxoStep {cfg : Cfg} {chain : List Block} {K : List Nat} {s : Sys}
    (inv : FullInv' cfg chain K s) (hfs : s.m.fsHeight = s.m.st.height)
    (hfc : s.m.st.flushCount = s.m.histFlush) :
    FullInv' cfg chain K (flushUtxoStep s) := by
  have base' := fullInv_utxoStep inv.base hfs
  have hunf : (flushUtxoStep s).m.unflushed = [] := inv.base.flushedH hfs
  refine fullInv'_of_flushed inv.valid inv.kBound base'.rep (hunf ▸ base'.hist) base'.files rfl rfl rfl
    rfl hunf base'.tip base'.utxoCount inv.chainSize base'.ustate
    (by rw [flushUtxoStep_hstate]; exact inv.hstate) (Nat.le_of_eq hfc)
    (by rw [flushUtxoStep_hist]; exact hfc ▸ inv.base.hist.wf.ids) ?_
  intro h hk pre b suf hc hl
  rw [← inv.undo h hk pre b suf hc hl, flushUtxoStep_p]
  exact flushUtxo_undo s s.m.st h

theorem fullInv'_flush {cfg : Cfg} {chain : List Block} {K : List Nat} {s : Sys}
    (inv : FullInv' cfg chain K s) (fu : Bool) :
    ∃ s', flush s fu = .ok s' ∧ FullInv' cfg chain K s' ∧
      s'.m.dbst.height = (if fu then s.m.st.height else s.m.dbst.height) := by
  by_cases heq : s.m.st.height = s.m.dbst.height
  · refine ⟨s, flush_noop heq (assertFlushed_of_inv inv.base heq) fu, inv, ?_⟩
    cases fu
    · rfl
    · exact heq.symm
  · have ha := flushFsAsserts_of_files inv.base.files
    cases fu with
    | false => exact ⟨_, flush_hist heq ha, fullInv'_histStep inv heq, rfl⟩
    | true =>
      exact ⟨_, flush_full heq ha, fullInv'_utxoStep (fullInv'_histStep inv heq) rfl rfl, rfl⟩

end EV.Index
