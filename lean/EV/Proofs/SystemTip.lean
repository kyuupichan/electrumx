import EV.Proofs.SystemStep

/-!
The tip part of the coherence model: `hsub_results`, `notified_height`, the header reads of
`_refresh_hsub_results`, header subscriptions.  Independent of the status part
(`EV/Proofs/System.lean`): the loops of `_notify_inner` do not touch these fields — they write
`held`, `ms`, `suppressed` and `tasks` only, none of which is among the fields the tip invariant reads
(`tipViewH`).
-/
namespace EV.System

/-- the fields the tip invariant reads, the contents of `heldHdr` apart -/
def tipView (st : St) :=
  (st.chain, st.seen, st.hsub, st.notifiedHeight, st.tipDone, st.hreads, st.hdrSub, st.alive,
    st.subs.length, st.heldHdr.length)

/-- ... and with those contents: what `address_status` and the loops of `_notify_inner` leave alone
    altogether -/
def tipViewH (st : St) := (tipView st, st.heldHdr)

theorem tipViewH_flush (st : St) (s : Nat) (ch : List (Nat × Status)) :
    tipViewH (flushChanged st s ch) = tipViewH st := by
  unfold flushChanged
  induction ch generalizing st with
  | nil => rfl
  | cons e r ih => exact ih _

theorem tipViewH_visit1 (f : Flags) (st : St) (s hx c : Nat) (ch : List (Nat × Status)) :
    tipViewH (visit1 f st s hx c ch).1 = tipViewH st := by
  unfold visit1
  split <;> rfl

theorem tipViewH_visit2 (f : Flags) (st : St) (s hx c : Nat) (old : Status) (ch : List (Nat × Status)) :
    tipViewH (visit2 f st s hx c old ch).1 = tipViewH st := by
  unfold visit2
  split
  · exact tipViewH_visit1 f st s hx c ch
  · rfl

theorem tipViewH_notifyGo2 (f : Flags) (s : Nat) (todo : List (Nat × Status)) (st : St)
    (ch : List (Nat × Status)) : tipViewH (notifyGo2 f st s todo ch) = tipViewH st := by
  induction todo generalizing st ch with
  | nil => exact tipViewH_flush st s ch
  | cons e rest ih =>
    obtain ⟨x, old⟩ := e
    rw [notifyGo2]
    split
    · exact ih st ch
    · split
      · exact (ih _ _).trans (tipViewH_visit2 f st s x _ old ch)
      · rfl

theorem tipViewH_notifyGo (f : Flags) (s : Nat) (todo : List Nat) (st : St) (ch : List (Nat × Status)) :
    tipViewH (notifyGo f st s todo ch) = tipViewH st := by
  induction todo generalizing st ch with
  | nil =>
    rw [notifyGo]
    split
    · exact tipViewH_notifyGo2 f s _ st ch
    · exact tipViewH_flush st s ch
  | cons x rest ih =>
    rw [notifyGo]
    split
    · exact ih st ch
    · split
      · exact (ih _ _).trans (tipViewH_visit1 f st s x _ ch)
      · rfl

theorem tipViewH_resume (f : Flags) (st : St) (hx c : Nat) (k : Cont) :
    tipViewH (resume f st hx c k) = tipViewH st := by
  cases k with
  | sub s x =>
    -- the subscription is added to `subs`, whose length is all the view reads
    simp only [tipViewH, tipView, resume, length_modifyAt]
    rfl
  | query => rfl
  | notify s rest ch =>
    exact (tipViewH_notifyGo f s rest _ _).trans (tipViewH_visit1 f st s hx c ch)
  | notify2 s old rest ch =>
    exact (tipViewH_notifyGo2 f s rest _ _).trans (tipViewH_visit2 f st s hx c old ch)

/-- `TipInv` without `heldCur`: what holds of the state handed to `finishNotify` after a header has
    arrived, where `hsub_results` is new and the subscribers have not been sent it yet
    (`tipInv_finishNotify`) -/
structure TipBase (st : St) : Prop where
  chainNe : st.chain ≠ []
  lenSub : st.hdrSub.length = st.subs.length
  lenHeld : st.heldHdr.length = st.subs.length
  seenChain : ∀ h d, st.chain[h]? = some d → (h, d) ∈ st.seen
  hsubSeen : st.hsub ∈ st.seen
  readsSeen : ∀ r ∈ st.hreads, ∀ d, r.value = some (some d) → (r.h, d) ∈ st.seen
  heldSeen : ∀ s v, heldHdrOf st s = some v → v ∈ st.seen
  /-- what the ghost flag `tipDone` promises: every header read in flight aims at the current tip, and
      once none is in flight `hsub_results` is the tip and `notified_height` the DB height -/
  done : st.tipDone = true → (∀ r ∈ st.hreads, goodRead st r = true) ∧
    (st.hreads = [] → st.hsub = tipOf st ∧ st.notifiedHeight = dbHeight st)

structure TipInv (st : St) : Prop extends TipBase st where
  /-- a connected headers-subscriber's last header is `hsub_results` -/
  heldCur : ∀ s, aliveOf st s = true → hdrSubOf st s = true → heldHdrOf st s = some st.hsub

theorem tipInv_init (n m : Nat) : TipInv (init n m) := by
  refine ⟨⟨by simp [init], by simp [init], by simp [init], ?_, by simp [init], ?_, ?_, ?_⟩, ?_⟩
  · intro h d hh
    have : (init n m).chain = [0] := rfl
    rw [this] at hh
    cases h with
    | zero => simp at hh; subst hh; simp [init]
    | succ k => simp at hh
  · intro r hr; simp [init] at hr
  · intro s v hv
    simp only [heldHdrOf, init, List.getD_eq_getElem?_getD, List.getElem?_replicate] at hv
    split at hv <;> simp at hv
  · intro _
    refine ⟨fun r hr => by simp [init] at hr, fun _ => ?_⟩
    simp [init, tipOf, dbHeight]
  · intro s _ hs
    simp only [hdrSubOf, init, List.getD_eq_getElem?_getD, List.getElem?_replicate] at hs
    split at hs <;> simp at hs

theorem TipBase.of_view {st st' : St} (h : TipBase st) (e : tipView st' = tipView st)
    (hheld : ∀ s, heldHdrOf st' s = heldHdrOf st s ∨ heldHdrOf st' s = some st.hsub)
    (hcur : ∀ s, aliveOf st s = true → hdrSubOf st s = true → heldHdrOf st' s = some st.hsub) : TipInv st' := by
  simp only [tipView, Prod.mk.injEq] at e
  obtain ⟨e_chain, e_seen, e_hsub, e_nh, e_done, e_hreads, e_hdrSub, e_alive, e_subs, e_held⟩ := e
  refine ⟨⟨by rw [e_chain]; exact h.chainNe, by rw [e_hdrSub, e_subs]; exact h.lenSub,
    by rw [e_held, e_subs]; exact h.lenHeld, ?_, by rw [e_hsub, e_seen]; exact h.hsubSeen, ?_, ?_, ?_⟩, ?_⟩
  · intro hh d hd; rw [e_chain] at hd; rw [e_seen]; exact h.seenChain hh d hd
  · intro r hr d hv; rw [e_hreads] at hr; rw [e_seen]; exact h.readsSeen r hr d hv
  · intro s v hv
    rw [e_seen]
    rcases hheld s with hs | hs
    · rw [hs] at hv; exact h.heldSeen s v hv
    · rw [hs] at hv; cases hv; exact h.hsubSeen
  · intro hd
    rw [e_done] at hd
    simp only [e_hreads, e_hsub, e_nh, tipOf, dbHeight, goodRead, e_chain]
    exact h.done hd
  · intro s ha hs
    simp only [aliveOf, e_alive] at ha
    simp only [hdrSubOf, e_hdrSub] at hs
    rw [e_hsub]
    exact hcur s ha hs

theorem TipInv.of_view {st st' : St} (h : TipInv st) (e : tipViewH st' = tipViewH st) : TipInv st' := by
  obtain ⟨e, e'⟩ := Prod.mk.inj e
  exact h.toTipBase.of_view e (fun s => Or.inl (by simp only [heldHdrOf, e']))
    (fun s ha hs => by simp only [heldHdrOf, e']; exact h.heldCur s ha hs)

/-- what `session.notify` of the sessions `ss` does to the tip fields -/
structure TipStep (ss : List Nat) (hc : Bool) (st st' : St) : Prop where
  view : tipView st' = tipView st
  held : ∀ s, heldHdrOf st' s = heldHdrOf st s ∨ heldHdrOf st' s = some st.hsub
  sent : ∀ s ∈ ss, hc = true → aliveOf st s = true → hdrSubOf st s = true → s < st.heldHdr.length →
    heldHdrOf st' s = some st.hsub

theorem TipStep.of_viewH {ss : List Nat} {hc : Bool} {st st' : St} (e : tipViewH st' = tipViewH st)
    (hss : ∀ s ∈ ss, hc = true → aliveOf st s = true → hdrSubOf st s = true → s < st.heldHdr.length →
      heldHdrOf st s = some st.hsub) : TipStep ss hc st st' := by
  obtain ⟨e, e'⟩ := Prod.mk.inj e
  have hh : ∀ s, heldHdrOf st' s = heldHdrOf st s := fun s => by simp only [heldHdrOf, e']
  exact ⟨e, fun s => Or.inl (hh s), fun s hs h1 h2 h3 h4 => (hh s).trans (hss s hs h1 h2 h3 h4)⟩

theorem TipStep.trans {ss1 ss2 : List Nat} {hc : Bool} {a b c : St} (h1 : TipStep ss1 hc a b)
    (h2 : TipStep ss2 hc b c) : TipStep (ss1 ++ ss2) hc a c := by
  have e := h1.view
  simp only [tipView, Prod.mk.injEq] at e
  obtain ⟨_, _, e_hsub, _, _, _, e_hdrSub, e_alive, _, e_len⟩ := e
  have held : ∀ s, heldHdrOf c s = heldHdrOf b s ∨ heldHdrOf c s = some a.hsub := fun s => e_hsub ▸ h2.held s
  refine ⟨h2.view.trans h1.view, fun s => ?_, fun s hs hhc ha hsub hlen => ?_⟩
  · rcases held s with h | h
    · exact (h1.held s).imp h.trans h.trans
    · exact Or.inr h
  · rcases List.mem_append.mp hs with hs | hs
    · exact (held s).elim (fun h => h.trans (h1.sent s hs hhc ha hsub hlen)) id
    · rw [← e_hsub]
      exact h2.sent s hs hhc (by simpa only [aliveOf, e_alive] using ha)
        (by simpa only [hdrSubOf, e_hdrSub] using hsub) (e_len ▸ hlen)

/-- session `s` is sent `hsub_results` (header notification, or the reply to `headers_subscribe`) -/
theorem heldHdrOf_sent (st : St) (H : List Bool) (s s' : Nat) :
    heldHdrOf { st with hdrSub := H, heldHdr := modifyAt st.heldHdr s (fun _ => some st.hsub) } s' =
      if s' = s ∧ s < st.heldHdr.length then some st.hsub else heldHdrOf st s' := by
  simp only [heldHdrOf, getD_modifyAt]

theorem tip_hdrNotify (st : St) (s : Nat) (hc : Bool) : TipStep [s] hc st (hdrNotify st s hc) := by
  unfold hdrNotify
  split
  · next hcond =>
    have hH := heldHdrOf_sent st st.hdrSub s
    refine ⟨by simp only [tipView, length_modifyAt], fun s' => ?_, fun s' hs' _ _ _ hlen => ?_⟩
    · rw [hH]; split
      · exact Or.inr rfl
      · exact Or.inl rfl
    · obtain rfl := List.mem_singleton.mp hs'
      rw [hH, if_pos ⟨rfl, hlen⟩]
  · next hcond =>
    refine TipStep.of_viewH rfl fun s' hs' hhc _ hsub _ => absurd ?_ hcond
    rw [hhc, ← List.mem_singleton.mp hs', hsub]; rfl

theorem tip_sessionNotify (f : Flags) (st : St) (s : Nat) (xs : List Nat) (hc : Bool) :
    TipStep [s] hc st (sessionNotify f st s xs hc) := by
  unfold sessionNotify
  cases ha : aliveOf st s with
  | false =>
    exact TipStep.of_viewH rfl fun s' hs' _ ha' _ _ =>
      absurd ((List.mem_singleton.mp hs' ▸ ha').symm.trans ha) (by decide)
  | true =>
    simp only [Bool.not_true, Bool.false_eq_true, if_false]
    split
    · exact (tip_hdrNotify st s hc).trans (ss2 := [])
        (TipStep.of_viewH (tipViewH_notifyGo f s _ _ _) fun _ h => absurd h List.not_mem_nil)
    · exact tip_hdrNotify st s hc

theorem tip_fold (f : Flags) (xs : List Nat) (hc : Bool) (ss : List Nat) (st : St) :
    TipStep ss hc st (ss.foldl (fun acc s => sessionNotify f acc s xs hc) st) := by
  induction ss generalizing st with
  | nil => exact TipStep.of_viewH rfl fun _ h => absurd h List.not_mem_nil
  | cons s0 ss ih => exact (tip_sessionNotify f st s0 xs hc).trans (ih _)

theorem tipInv_finishNotify (f : Flags) (st : St) (xs : List Nat) (hc : Bool) (h : TipBase st)
    (hcur : hc = true ∨ ∀ s, aliveOf st s = true → hdrSubOf st s = true → heldHdrOf st s = some st.hsub) :
    TipInv (finishNotify f st xs hc) := by
  unfold finishNotify
  have T := tip_fold f xs hc (List.range st.subs.length)
    { st with cache := st.cache.filter (fun e => !xs.contains e.1) }
  refine h.of_view T.view T.held fun s ha hs => ?_
  rcases hcur with hcur | hcur
  · -- a headers-subscriber is one of the sessions of the loop
    have hlt : s < st.hdrSub.length := by
      apply Classical.byContradiction
      intro hn
      have : st.hdrSub[s]? = none := List.getElem?_eq_none (by omega)
      have hs' : hdrSubOf st s = true := hs
      simp [hdrSubOf, List.getD_eq_getElem?_getD, this] at hs'
    rw [h.lenSub] at hlt
    exact T.sent s (List.mem_range.mpr hlt) hcur ha hs (h.lenHeld ▸ hlt)
  · exact (T.held s).elim (fun e => e.trans (hcur s ha hs)) id

theorem goodRead_congr {st st' : St} (e : st'.chain = st.chain) (r : HRead) : goodRead st' r = goodRead st r := by
  simp only [goodRead, dbHeight, tipOf, e]

theorem chain_tip {st : St} (h : st.chain ≠ []) : st.chain[dbHeight st]? = some (tipOf st).2 := by
  have hl : dbHeight st < st.chain.length := by
    unfold dbHeight
    exact Nat.sub_lt (List.length_pos_iff.mpr h) Nat.one_pos
  rw [List.getElem?_eq_getElem hl]
  simp only [tipOf, List.getD_eq_getElem?_getD, List.getElem?_eq_getElem hl, Option.getD_some]

theorem Step.tipInv {f : Flags} {st st' : St} {ev : Ev} (hs : Step f st ev st') (h : TipInv st) : TipInv st' := by
  have herase : ∀ j, ∀ r' ∈ st.hreads.eraseIdx j, ∀ d, r'.value = some (some d) → (r'.h, d) ∈ st.seen :=
    fun j r' hr' => h.readsSeen r' (List.mem_of_mem_eraseIdx hr')
  -- an IndexError means that the read did not aim at the tip: `tipDone` is off
  have hnd : ∀ (j : Nat) (r : HRead), st.hreads[j]? = some r → r.value = some none → st.tipDone = false := by
    intro j r hj hval
    cases hd : st.tipDone
    · rfl
    · have hg := (h.done hd).1 r (List.mem_iff_getElem?.mpr ⟨j, hj⟩)
      simp [goodRead, hval] at hg
  cases hs with
  | idle | change | mpChange | flip | reorgSignal | evict | readDo | again | subMiss | getMiss =>
    exact h.of_view rfl
  | subHit | accept => exact h.of_view (tipViewH_resume f _ _ _ _)
  | unsubscribe s x =>
    -- `subs` changes, but not its length
    refine h.of_view ?_
    simp only [tipViewH, tipView, length_modifyAt]
  | advance d =>
    refine ⟨⟨List.append_ne_nil_of_right_ne_nil _ (List.cons_ne_nil _ _), h.lenSub, h.lenHeld, ?_,
      List.mem_append_left _ h.hsubSeen, ?_, ?_, ?_⟩, h.heldCur⟩
    · intro hh d' hd
      by_cases hlt : hh < st.chain.length
      · exact List.mem_append_left _ (h.seenChain hh d' ((List.getElem?_append_left hlt).symm.trans hd))
      · -- the new block, at the old length
        have hd' : [d][hh - st.chain.length]? = some d' :=
          (List.getElem?_append_right (Nat.le_of_not_lt hlt)).symm.trans hd
        cases hk : hh - st.chain.length with
        | zero =>
          rw [hk] at hd'
          cases hd'
          have : hh = st.chain.length := by omega
          subst this
          exact List.mem_append_right _ (List.mem_singleton.mpr rfl)
        | succ k => rw [hk] at hd'; cases hd'
    · intro r hr d' hv; exact List.mem_append_left _ (h.readsSeen r hr d' hv)
    · intro s v hv; exact List.mem_append_left _ (h.heldSeen s v hv)
    · intro hd; cases hd
  | backup hlen =>
    refine ⟨⟨?_, h.lenSub, h.lenHeld, ?_, h.hsubSeen, h.readsSeen, h.heldSeen, ?_⟩, h.heldCur⟩
    · intro he
      have := congrArg List.length he
      simp only [List.length_dropLast, List.length_nil] at this
      omega
    · intro hh d' hd
      simp only [List.getElem?_dropLast] at hd
      split at hd
      · exact h.seenChain hh d' hd
      · cases hd
    · intro hd; cases hd
  | suspended ht xs =>
    refine ⟨⟨h.chainNe, h.lenSub, h.lenHeld, h.seenChain, h.hsubSeen, ?_, h.heldSeen, ?_⟩, h.heldCur⟩
    · intro r hr d' hv
      rcases List.mem_append.mp hr with hr | hr
      · exact h.readsSeen r hr d' hv
      · rw [List.mem_singleton] at hr; subst hr; cases hv
    · intro hd
      simp only [Bool.and_eq_true, decide_eq_true_eq, List.all_eq_true] at hd
      refine ⟨?_, fun he => absurd he (List.append_ne_nil_of_right_ne_nil _ (List.cons_ne_nil _ _))⟩
      intro r hr
      show goodRead st r = true
      rcases List.mem_append.mp hr with hr | hr
      · exact hd.2 r hr
      · -- the new read aims at `min ht (dbHeight st)`, the DB height as `dbHeight st ≤ ht`
        rw [List.mem_singleton] at hr; subst hr
        simp [goodRead, Nat.min_eq_right hd.1]
  | direct ht xs =>
    exact tipInv_finishNotify f _ xs false (TipInv.toTipBase (h.of_view rfl)) (Or.inr h.heldCur)
  | closeSession s =>
    refine ⟨⟨h.chainNe, h.lenSub, h.lenHeld, h.seenChain, h.hsubSeen, h.readsSeen, h.heldSeen, h.done⟩, ?_⟩
    intro s' ha hs
    apply h.heldCur s' _ hs
    simp only [aliveOf, getD_modifyAt] at ha
    split at ha
    · cases ha
    · exact ha
  | subscribeHeaders s =>
    have hH := heldHdrOf_sent st (modifyAt st.hdrSub s (fun _ => true)) s
    refine ⟨⟨h.chainNe, by simp only [length_modifyAt]; exact h.lenSub,
      by simp only [length_modifyAt]; exact h.lenHeld, h.seenChain, h.hsubSeen, h.readsSeen, ?_, h.done⟩, ?_⟩
    · intro s' v hv
      rw [hH] at hv
      split at hv
      · cases hv; exact h.hsubSeen
      · exact h.heldSeen s' v hv
    · intro s' ha hs
      rw [hH]
      split
      · rfl
      · next hn =>
        have hs' : hdrSubOf st s' = true := by
          simp only [hdrSubOf, getD_modifyAt] at hs
          split at hs
          · next hc => exact absurd ⟨hc.1, by rw [h.lenHeld, ← h.lenSub]; exact hc.2⟩ hn
          · exact hs
        exact h.heldCur s' ha hs'
  | hdrDo i j =>
    refine ⟨⟨h.chainNe, h.lenSub, h.lenHeld, h.seenChain, h.hsubSeen, ?_, h.heldSeen, ?_⟩, h.heldCur⟩
    · intro r hr d' hv
      rcases mem_modifyAt (show r ∈ modifyAt st.hreads j (fun r => { r with value := some st.chain[r.h]? }) from hr) with hm | ⟨b, hb, rfl⟩
      · exact h.readsSeen r hm d' hv
      · exact h.seenChain b.h d' (Option.some.inj hv)
    · intro hd
      obtain ⟨h1, h2⟩ := h.done hd
      refine ⟨?_, ?_⟩
      · intro r hr
        show goodRead st r = true
        rcases mem_modifyAt (show r ∈ modifyAt st.hreads j (fun r => { r with value := some st.chain[r.h]? }) from hr) with hm | ⟨b, hb, rfl⟩
        · exact h1 r hm
        · -- a read aiming at the tip sees the tip
          have hg := h1 b hb
          simp only [goodRead, Bool.and_eq_true, beq_iff_eq] at hg ⊢
          refine ⟨hg.1, ?_⟩
          rw [hg.1, chain_tip h.chainNe]
          simp
      · intro he
        have hl := congrArg List.length he
        simp only [length_modifyAt, List.length_nil] at hl
        exact h2 (List.eq_nil_of_length_eq_zero hl)
  | @arrived i j r d hj hval =>
    have hrm : r ∈ st.hreads := List.mem_iff_getElem?.mpr ⟨j, hj⟩
    refine tipInv_finishNotify f _ r.xs true ?_ (Or.inl rfl)
    refine ⟨h.chainNe, h.lenSub, h.lenHeld, h.seenChain, h.readsSeen r hrm d hval, herase j, h.heldSeen, ?_⟩
    intro hd
    obtain ⟨h1, _⟩ := h.done hd
    refine ⟨fun r' hr' => ?_, fun _ => ?_⟩
    · show goodRead st r' = true
      exact h1 r' (List.mem_of_mem_eraseIdx hr')
    · -- the read aimed at the tip and saw it
      have hg := h1 r hrm
      simp only [goodRead, hval, Bool.and_eq_true, beq_iff_eq, Bool.or_eq_true] at hg
      obtain ⟨hg1, hg2⟩ := hg
      rcases hg2 with hg2 | hg2
      · cases hg2
      · simp only [Option.some.injEq] at hg2
        show (r.h, d) = tipOf st ∧ r.h = dbHeight st
        exact ⟨by rw [hg1, hg2]; rfl, hg1⟩
  | @raised i j r hj hval _ =>
    refine ⟨⟨h.chainNe, h.lenSub, h.lenHeld, h.seenChain, h.hsubSeen, herase j, h.heldSeen, ?_⟩, h.heldCur⟩
    intro hd; rw [hnd j r hj hval] at hd; cases hd
  | @retry i j r hj hval =>
    refine ⟨⟨h.chainNe, h.lenSub, h.lenHeld, h.seenChain, h.hsubSeen, ?_, h.heldSeen, ?_⟩, h.heldCur⟩
    · intro r' hr' d' hv
      rcases List.mem_append.mp hr' with hr' | hr'
      · exact herase j r' hr' d' hv
      · rw [List.mem_singleton] at hr'; subst hr'; cases hv
    · intro hd; rw [hnd j r hj hval] at hd; cases hd

theorem tipInv_step (f : Flags) (st : St) (ev : Ev) (h : TipInv st) : TipInv (step f st ev) :=
  (Step.of_step f st ev).tipInv h

theorem tipInv_run (f : Flags) (st : St) (evs : List Ev) (h : TipInv st) : TipInv (run f st evs) :=
  foldl_inv (tipInv_step f) evs h

theorem tipInv_reachable (f : Flags) (n m : Nat) (evs : List Ev) : TipInv (run f (init n m) evs) :=
  tipInv_run f _ evs (tipInv_init n m)

theorem quiescent_tip (st : St) (h : TipInv st) (hd : st.tipDone = true) (hr : st.hreads = []) :
    st.hsub = tipOf st ∧ st.notifiedHeight = dbHeight st ∧
    ∀ s, aliveOf st s = true → hdrSubOf st s = true → heldHdrOf st s = some (tipOf st) := by
  obtain ⟨h1, h2⟩ := (h.done hd).2 hr
  exact ⟨h1, h2, fun s ha hs => by rw [← h1]; exact h.heldCur s ha hs⟩

theorem seen_of_view {st st' : St} (e : tipView st' = tipView st) : st'.seen = st.seen :=
  congrArg (fun v => v.2.1) e

theorem seen_finishNotify (f : Flags) (st : St) (xs : List Nat) (hc : Bool) :
    (finishNotify f st xs hc).seen = st.seen :=
  seen_of_view (tip_fold f xs hc _ _).view

theorem Step.seen {f : Flags} {st st' : St} {ev : Ev} (hs : Step f st ev st') :
    st'.seen = st.seen ∨ ∃ d, ev = .advance d ∧ st'.seen = st.seen ++ [(st.chain.length, d)] := by
  cases hs with
  | advance d => exact Or.inr ⟨d, rfl, rfl⟩
  | direct h xs => exact Or.inl (seen_finishNotify f _ xs false)
  | arrived i hj hv => exact Or.inl (seen_finishNotify f _ _ true)
  | subHit | accept => exact Or.inl (seen_of_view (Prod.mk.inj (tipViewH_resume f _ _ _ _)).1)
  | _ => exact Or.inl rfl

theorem seen_sound_from (f : Flags) (st : St) (evs : List Ev) (p : Nat × Nat)
    (hp : p ∈ (run f st evs).seen) :
    p ∈ st.seen ∨ ∃ pre post, evs = pre ++ .advance p.2 :: post ∧ (run f st pre).chain.length = p.1 := by
  induction evs generalizing st with
  | nil => exact Or.inl hp
  | cons ev evs ih =>
    have hrun : run f st (ev :: evs) = run f (step f st ev) evs := rfl
    rw [hrun] at hp
    rcases ih (step f st ev) hp with h | ⟨pre, post, h1, h2⟩
    · rcases (Step.of_step f st ev).seen with he | ⟨d, rfl, he⟩
      · rw [he] at h; exact Or.inl h
      · rw [he] at h
        rcases List.mem_append.mp h with h | h
        · exact Or.inl h
        · rw [List.mem_singleton] at h
          subst h
          exact Or.inr ⟨[], evs, rfl, rfl⟩
    · exact Or.inr ⟨ev :: pre, post, by rw [h1]; rfl, h2⟩

/-- every pair in `seen` is the genesis block or (height, header) of a block at the moment an
    `advance` made it readable -/
theorem seen_sound (f : Flags) (n m : Nat) (evs : List Ev) (p : Nat × Nat)
    (hp : p ∈ (run f (init n m) evs).seen) :
    p = (0, 0) ∨ ∃ pre post, evs = pre ++ .advance p.2 :: post ∧
      (run f (init n m) pre).chain.length = p.1 := by
  rcases seen_sound_from f (init n m) evs p hp with h | h
  · exact Or.inl (List.mem_singleton.mp h)
  · exact Or.inr h

end EV.System
