import EV.Proofs.SpecFacts
import EV.Proofs.IndexBackup

/-!
The tables a chain determines, and the pointer arithmetic over them.  `allTxids chain` lists the tx ids
in tx-number order, `cumCounts chain` is `DB.tx_counts` (entry `h` = number of txs in blocks `0..h`).
Everything is said through one quantity, the number of txs in the first `k` blocks,
`(allTxids (chain.take k)).length`: it is entry `k - 1` of `cumCounts` (`cumCounts_getD`), the ids of
block `h` are the segment between its values at `h` and `h + 1` (`allTxids_block`), and
`bisect_right(tx_counts, n)` is below `K` exactly when `n` is below its value at `K` (`bisect_lt_iff`;
the other bisect facts are read off it).  The specification's tx table `(specChain act chain).txs` is
the two tables side by side (`spec_txs_get`).
-/
namespace EV.Index
open EV.Spec

theorem bisectRight_le (cs : List Nat) (n : Nat) : bisectRight cs n ≤ cs.length := by
  induction cs with
  | nil => simp [bisectRight]
  | cons c cs ih =>
    simp only [bisectRight, List.length_cons]
    split <;> omega

theorem bisectRight_append_of_lt {cs : List Nat} {n : Nat} (h : bisectRight cs n < cs.length)
    (ds : List Nat) : bisectRight (cs ++ ds) n = bisectRight cs n := by
  induction cs with
  | nil => exact absurd h (Nat.lt_irrefl 0)
  | cons c cs ih =>
    simp only [List.cons_append, bisectRight, List.length_cons] at h ⊢
    split
    · next hc => rw [if_pos hc] at h; rw [ih (by omega)]
    · rfl

def cumFrom (acc : Nat) : List Block → List Nat
  | [] => []
  | b :: r => (acc + b.txs.length) :: cumFrom (acc + b.txs.length) r

/-- `DB.tx_counts` of a chain: entry `h` = number of txs in blocks `0..h` -/
def cumCounts (chain : List Block) : List Nat := cumFrom 0 chain

def allTxids (chain : List Block) : List Hash := chain.flatMap (fun b => b.txs.map (·.id))

@[simp] theorem allTxids_nil : allTxids [] = [] := rfl

theorem allTxids_cons (b : Block) (r : List Block) :
    allTxids (b :: r) = b.txs.map (·.id) ++ allTxids r := by
  simp [allTxids]

theorem allTxids_singleton (b : Block) : allTxids [b] = b.txs.map (·.id) := by
  simp [allTxids]

theorem allTxids_append (a b : List Block) : allTxids (a ++ b) = allTxids a ++ allTxids b := by
  simp [allTxids]

theorem allTxids_split (chain : List Block) (k : Nat) :
    allTxids chain = allTxids (chain.take k) ++ allTxids (chain.drop k) := by
  rw [← allTxids_append, List.take_append_drop]

theorem allTxids_prefix_getD {c' c : List Block} (hp : c' <+: c) {n : Nat}
    (hn : n < (allTxids c').length) : (allTxids c').getD n 0 = (allTxids c).getD n 0 := by
  obtain ⟨suf, rfl⟩ := hp
  rw [allTxids_append, List.getD_eq_getElem?_getD, List.getD_eq_getElem?_getD,
    List.getElem?_append_left hn]

theorem allTxids_take (chain : List Block) (k : Nat) :
    (allTxids chain).take (allTxids (chain.take k)).length = allTxids (chain.take k) := by
  conv => lhs; rw [allTxids_split chain k]
  exact List.take_left' rfl

theorem allTxids_drop (chain : List Block) (k : Nat) :
    (allTxids chain).drop (allTxids (chain.take k)).length = allTxids (chain.drop k) := by
  conv => lhs; rw [allTxids_split chain k]
  exact List.drop_left' rfl

theorem allTxids_block {chain : List Block} {h : Nat} {b : Block} (hb : chain[h]? = some b) :
    ((allTxids chain).drop (allTxids (chain.take h)).length).take b.txs.length =
      b.txs.map (·.id) := by
  have := allTxids_take chain (h + 1)
  rw [take_succ_of_getElem? hb, allTxids_append, allTxids_singleton, List.length_append,
    List.length_map] at this
  rw [List.take_drop, this, List.drop_left' rfl]

theorem allTxids_flatten (l : List Block) :
    (l.map (fun b => b.txs.map (·.id))).flatten = allTxids l := by
  simp [allTxids, List.flatMap_def]

theorem allTxids_take_le (l : List Block) (k : Nat) :
    (allTxids (l.take k)).length ≤ (allTxids l).length := by
  have := congrArg List.length (allTxids_append (l.take k) (l.drop k))
  rw [List.take_append_drop, List.length_append] at this
  omega

theorem allTxids_take_mono (l : List Block) {j k : Nat} (h : j ≤ k) :
    (allTxids (l.take j)).length ≤ (allTxids (l.take k)).length := by
  have : l.take j = (l.take k).take j := by rw [List.take_take, Nat.min_eq_left h]
  rw [this]; exact allTxids_take_le _ _

theorem cumFrom_length (acc : Nat) (l : List Block) : (cumFrom acc l).length = l.length := by
  induction l generalizing acc with
  | nil => rfl
  | cons b r ih => simp [cumFrom, ih]

theorem cumCounts_length (l : List Block) : (cumCounts l).length = l.length := cumFrom_length 0 l

theorem cumFrom_append (acc : Nat) (a b : List Block) :
    cumFrom acc (a ++ b) = cumFrom acc a ++ cumFrom (acc + (allTxids a).length) b := by
  induction a generalizing acc with
  | nil => simp [cumFrom]
  | cons x a ih =>
    simp only [List.cons_append, cumFrom, ih, allTxids_cons, List.length_append, List.length_map,
      Nat.add_assoc]

theorem cumCounts_snoc (chain : List Block) (b : Block) :
    cumCounts (chain ++ [b]) = cumCounts chain ++ [(allTxids chain).length + b.txs.length] := by
  simp [cumCounts, cumFrom_append, cumFrom]

theorem cumFrom_pairwise (acc : Nat) (l : List Block) :
    (cumFrom acc l).Pairwise (· ≤ ·) ∧ ∀ c ∈ cumFrom acc l, acc ≤ c := by
  induction l generalizing acc with
  | nil => simp [cumFrom]
  | cons b r ih =>
    obtain ⟨h1, h2⟩ := ih (acc + b.txs.length)
    refine ⟨?_, ?_⟩
    · simp only [cumFrom, List.pairwise_cons]
      exact ⟨fun c hc => h2 c hc, h1⟩
    · intro c hc
      simp only [cumFrom, List.mem_cons] at hc
      rcases hc with rfl | hc
      · omega
      · have := h2 c hc; omega

theorem cumFrom_getElem? (acc : Nat) (l : List Block) {k : Nat} (hk : k < l.length) :
    (cumFrom acc l)[k]? = some (acc + (allTxids (l.take (k + 1))).length) := by
  induction l generalizing acc k with
  | nil => simp at hk
  | cons b r ih =>
    cases k with
    | zero => simp [cumFrom, allTxids_cons]
    | succ k =>
      simp only [List.length_cons] at hk
      simp only [cumFrom, List.getElem?_cons_succ, List.take_succ_cons, allTxids_cons,
        List.length_append, List.length_map]
      rw [ih _ (by omega)]
      simp [Nat.add_assoc]

theorem cumCounts_getElem? (l : List Block) {k : Nat} (hk : k < l.length) :
    (cumCounts l)[k]? = some (allTxids (l.take (k + 1))).length := by
  rw [cumCounts, cumFrom_getElem? 0 l hk, Nat.zero_add]

theorem cumCounts_getD (l : List Block) {k : Nat} (hk : k < l.length) :
    (cumCounts l).getD k 0 = (allTxids (l.take (k + 1))).length := by
  rw [List.getD_eq_getElem?_getD, cumCounts_getElem? l hk]
  rfl

theorem cumCounts_getLast (l : List Block) :
    (cumCounts l).getLast?.getD 0 = (allTxids l).length := by
  induction l using List.snoc_induction with
  | nil => rfl
  | snoc l b _ =>
    rw [cumCounts_snoc, List.getLast?_concat, allTxids_append, allTxids_singleton,
      List.length_append, List.length_map]
    rfl

theorem cumCounts_take (chain : List Block) (k : Nat) :
    cumCounts chain = cumCounts (chain.take k) ++
      cumFrom ((allTxids (chain.take k)).length) (chain.drop k) := by
  have := cumFrom_append 0 (chain.take k) (chain.drop k)
  rw [List.take_append_drop, Nat.zero_add] at this
  exact this

theorem cumCounts_take_eq (chain : List Block) {k : Nat} (hk : k ≤ chain.length) :
    (cumCounts chain).take k = cumCounts (chain.take k) := by
  rw [cumCounts_take chain k]
  exact List.take_left' (by rw [cumCounts_length, List.length_take, Nat.min_eq_left hk])

/-- **bisect lemma**: `bisect_right(tx_counts, n)` is the height of the block holding tx number `n`.
    Over `cumFrom acc`, for the induction on the chain. -/
theorem bisect_cumFrom_lt_iff {acc n : Nat} (h0 : acc ≤ n) (l : List Block) {K : Nat}
    (hK : K ≤ l.length) :
    bisectRight (cumFrom acc l) n < K ↔ n < acc + (allTxids (l.take K)).length := by
  induction l generalizing acc K with
  | nil => rw [Nat.le_zero.mp hK]; simpa using h0
  | cons b r ih =>
    cases K with
    | zero => simpa using h0
    | succ k =>
      simp only [cumFrom, bisectRight, List.take_succ_cons, allTxids_cons, List.length_append,
        List.length_map]
      split
      · next hb =>
        rw [Nat.add_comm 1, Nat.add_lt_add_iff_right, ih hb (Nat.le_of_succ_le_succ hK),
          Nat.add_assoc]
      · omega

theorem bisect_lt_iff (chain : List Block) {K n : Nat} (hK : K ≤ chain.length) :
    bisectRight (cumCounts chain) n < K ↔ n < (allTxids (chain.take K)).length := by
  rw [cumCounts, bisect_cumFrom_lt_iff (Nat.zero_le n) chain hK, Nat.zero_add]

theorem bisect_lt_length (chain : List Block) {n : Nat} (hn : n < (allTxids chain).length) :
    bisectRight (cumCounts chain) n < chain.length :=
  (bisect_lt_iff chain (Nat.le_refl _)).mpr (by rw [List.take_length]; exact hn)

theorem bisect_take (chain : List Block) (k : Nat) {n : Nat}
    (hn : n < (allTxids (chain.take k)).length) :
    bisectRight (cumCounts chain) n = bisectRight (cumCounts (chain.take k)) n := by
  rw [cumCounts_take chain k]
  exact bisectRight_append_of_lt (by rw [cumCounts_length]; exact bisect_lt_length _ hn) _

theorem bisect_spec (chain : List Block) {n : Nat} (hn : n < (allTxids chain).length) (h : Nat) :
    bisectRight (cumCounts chain) n = h ↔
      (allTxids (chain.take h)).length ≤ n ∧ n < (allTxids (chain.take (h + 1))).length := by
  have hj := bisect_lt_length chain hn
  by_cases hh : h < chain.length
  · rw [← bisect_lt_iff chain hh, ← Nat.not_lt, ← bisect_lt_iff chain (Nat.le_of_lt hh)]
    omega
  · rw [List.take_of_length_le (Nat.le_of_not_lt hh)]
    omega

theorem specFrom_snoc (act : Nat) (S : St) (h : Nat) (l : List Block) (b : Block) :
    specFrom act S h (l ++ [b]) = applyBlock act (specFrom act S h l) (h + l.length) b := by
  induction l generalizing S h with
  | nil => simp [specFrom]
  | cons x l ih =>
    simp only [List.cons_append, specFrom, ih, List.length_cons]
    congr 1; omega

theorem specChain_snoc (act : Nat) (chain : List Block) (b : Block) :
    specChain act (chain ++ [b]) = applyBlock act (specChain act chain) chain.length b := by
  simp [specChain, specFrom_snoc]

theorem specChain_snoc_foldl (act : Nat) (chain : List Block) (b : Block) :
    specChain act (chain ++ [b]) = b.txs.foldl (applyTx act chain.length) (specChain act chain) := by
  rw [specChain_snoc]; rfl

theorem utxos_length_foldl (act height : Nat) (S : St) (txs : List Tx) :
    ((txs.foldl (applyTx act height) S).utxos.length : Int) =
      (S.utxos.length : Int) + blockDelta act height S txs := by
  induction txs generalizing S with
  | nil => simp [blockDelta]
  | cons tx r ih =>
    rw [List.foldl_cons, ih, blockDelta, applyTx_eq]
    have hp := (spendAll_perm S.utxos tx.ins).length_eq
    simp only [List.length_append] at hp ⊢
    omega

theorem specFrom_txs (act : Nat) (S : St) (h : Nat) (chain : List Block) :
    (specFrom act S h chain).txs =
      S.txs ++ (chain.zipIdx h).flatMap (fun (b, h) => b.txs.map (fun t => (t.id, h))) := by
  induction chain generalizing S h with
  | nil => simp [specFrom]
  | cons b r ih =>
    simp only [specFrom, ih, applyBlock, foldl_txs, List.zipIdx_cons, List.flatMap_cons,
      List.append_assoc]

theorem specChain_txs (act : Nat) (chain : List Block) :
    (specChain act chain).txs =
      chain.zipIdx.flatMap (fun (b, h) => b.txs.map (fun t => (t.id, h))) := by
  rw [specChain, specFrom_txs]; rfl

theorem specChain_txs_snoc (act : Nat) (chain : List Block) (b : Block) :
    (specChain act (chain ++ [b])).txs =
      (specChain act chain).txs ++ b.txs.map (fun t => (t.id, chain.length)) := by
  rw [specChain_snoc, applyBlock, foldl_txs]

theorem specChain_txids (act : Nat) (chain : List Block) :
    (specChain act chain).txs.map (·.1) = allTxids chain := by
  induction chain using List.snoc_induction with
  | nil => rfl
  | snoc l b ih =>
    rw [specChain_txs_snoc, List.map_append, ih, allTxids_append]
    simp [allTxids]

theorem specChain_txs_length (act : Nat) (chain : List Block) :
    (specChain act chain).txs.length = (allTxids chain).length := by
  rw [← specChain_txids act chain, List.length_map]

theorem spec_txs_get (act : Nat) (chain : List Block) :
    ∀ n, n < (allTxids chain).length →
      (specChain act chain).txs[n]? =
        some ((allTxids chain).getD n 0, bisectRight (cumCounts chain) n) := by
  induction chain using List.snoc_induction with
  | nil => intro n hn; simp at hn
  | snoc l b ih =>
    intro n hn
    rw [specChain_txs_snoc, allTxids_append]
    by_cases hlt : n < (allTxids l).length
    · rw [List.getElem?_append_left (by rw [specChain_txs_length]; exact hlt), ih n hlt, cumCounts_snoc,
        bisectRight_append_of_lt (by rw [cumCounts_length]; exact bisect_lt_length l hlt),
        List.getD_eq_getElem?_getD, List.getD_eq_getElem?_getD, List.getElem?_append_left hlt]
    · have hge : (allTxids l).length ≤ n := Nat.le_of_not_lt hlt
      -- `n` lies in the last block: at or above the total before it, below the total with it
      have hb : bisectRight (cumCounts (l ++ [b])) n = l.length :=
        (bisect_spec (l ++ [b]) hn l.length).mpr
          ⟨by rw [List.take_left' rfl]; exact hge,
           by rw [List.take_of_length_le (by simp)]; exact hn⟩
      rw [allTxids_append, List.length_append, allTxids_singleton, List.length_map] at hn
      rw [hb, List.getElem?_append_right (by rw [specChain_txs_length]; exact hge),
        specChain_txs_length, List.getD_eq_getElem?_getD, List.getElem?_append_right hge,
        allTxids_singleton, List.getElem?_map, List.getElem?_map,
        List.getElem?_eq_getElem (Nat.sub_lt_left_of_lt_add hge hn)]
      rfl

theorem spec_height_eq_bisect (act : Nat) (chain : List Block) {n : Nat} {id : Hash} {h : Nat}
    (hs : (specChain act chain).txs[n]? = some (id, h)) :
    id = (allTxids chain).getD n 0 ∧ h = bisectRight (cumCounts chain) n := by
  have hlt : n < (allTxids chain).length := by
    rw [← specChain_txs_length act]
    exact (List.getElem?_eq_some_iff.mp hs).1
  rw [spec_txs_get act chain n hlt] at hs
  simp only [Option.some.injEq, Prod.mk.injEq] at hs
  exact ⟨hs.1.symm, hs.2.symm⟩

theorem spec_txid (act : Nat) (c : List Block) {u : Utxo} (hu : u ∈ (specChain act c).utxos) :
    u.txnum < (allTxids c).length ∧ u.txid = (allTxids c).getD u.txnum 0 ∧
      u.height = bisectRight (cumCounts c) u.txnum := by
  have hu' := (specOK_chain act c).utxoTx u hu
  refine ⟨?_, spec_height_eq_bisect act c hu'⟩
  rw [← specChain_txs_length act]
  exact (List.getElem?_eq_some_iff.mp hu').1

end EV.Index
