import EV.Proofs.IndexRunInv

/-!
`backup_block` + `flush_backup` as a step of the whole-run invariant: from a fully flushed invariant
state for the chain `pre ++ [b]` whose tip height is among the retained heights, `backupFull`
succeeds and leaves an invariant state for `pre`: the history by `histInv_backup`, the UTXO
representation by `backupTxs_inverts` over `sysIface` followed by the UTXO batch (`flushUtxo_rep`).
Without the undo row the back-out is refused (`ChainError`).
-/
namespace EV.Index
open EV.Spec

/-- what `backup_block` + `flush_backup` leave behind when the loops ended with accumulator `a` (of `a.s`
    only the cache and the queued deletes are read); the store has seen `History.backup`'s batch and then the
    UTXO batch -/
structure BackupOut (s : Sys) (b : Block) (a : Acc Sys) (s' : Sys) : Prop where
  p : s'.p = applyEffect
        (applyEffect s.p (histBackupEffect s (s.m.touched ++ a.touched) (bkSt s.m.st a b).txCount))
        (utxoBatchEffect (setCD s a.s.m.cache a.s.m.deletes) (bkSt s.m.st a b))
  st : s'.m.st = bkSt s.m.st a b
  dbst : s'.m.dbst = bkSt s.m.st a b
  cache : s'.m.cache = []
  deletes : s'.m.deletes = []
  undoU : s'.m.undoU = []
  unflushed : s'.m.unflushed = s.m.unflushed
  txCounts : s'.m.txCounts = s.m.txCounts.dropLast
  fsHeight : s'.m.fsHeight = (bkSt s.m.st a b).height
  fsTxCount : s'.m.fsTxCount = (bkSt s.m.st a b).txCount
  histFlush : s'.m.histFlush = s.m.histFlush + 1
  txHashesU : s'.m.txHashesU = s.m.txHashesU
  headersU : s'.m.headersU = s.m.headersU

theorem bkResult_out (a : Acc Sys) (s : Sys) (b : Block) : BackupOut s b a (bkResult a s b).2 := by
  constructor <;> rfl

theorem BackupOut.rest {s s' : Sys} {b : Block} {a : Acc Sys} (o : BackupOut s b a s') :
    s'.p.hist = (applyEffect s.p
      (histBackupEffect s (s.m.touched ++ a.touched) (bkSt s.m.st a b).txCount)).hist ∧
    s'.p.hstate = (applyEffect s.p
      (histBackupEffect s (s.m.touched ++ a.touched) (bkSt s.m.st a b).txCount)).hstate ∧
    s'.p.headers = s.p.headers ∧ s'.p.txcounts = s.p.txcounts ∧ s'.p.hashes = s.p.hashes := by
  rw [o.p, applyEffect_eq _ (utxoBatchEffect _ _)]
  exact ⟨rfl, rfl, rfl, rfl, rfl⟩

theorem filesInv_backup {pre : List Block} {b : Block} {s s' : Sys} {a : Acc Sys}
    (f : FilesInv (pre ++ [b]) s) (hfs : s.m.fsHeight = s.m.st.height) (o : BackupOut s b a s')
    (htxn : a.txNum = b.txs.length) : FilesInv pre s' := by
  have hlen : (pre ++ [b]).length = pre.length + 1 := by
    rw [List.length_append, List.length_singleton]
  obtain ⟨hK, -, hhU, hdU⟩ := f.at_tip hfs
  refine filesInv_flushed_prefix f (List.prefix_append pre [b])
    (by rw [hK, hlen]; exact Nat.le_succ _) o.rest.2.2.1 o.rest.2.2.2.1 o.rest.2.2.2.2
    ?_ ?_ (by rw [o.fsHeight, o.st]) (by rw [o.fsTxCount, o.st]) (by rw [o.dbst, o.st])
    (by rw [o.dbst, o.st]) (by rw [o.txCounts, f.txCounts, cumCounts_snoc, List.dropLast_concat])
    (o.txHashesU.trans hhU) (o.headersU.trans hdU)
  · rw [o.st]
    show s.m.st.height - 1 = _
    rw [f.height, hlen, Int.natCast_succ, Int.add_sub_cancel]
  · rw [o.st]
    show s.m.st.txCount - a.txNum = _
    rw [htxn, f.stTx, allTxids_append, allTxids_singleton, List.length_append, List.length_map,
      Nat.add_sub_cancel]

def keptAfterBackup (n : Nat) (K : List Nat) : List Nat := K.filter (fun h => decide (h < n))

theorem mem_keptAfterBackup {n : Nat} {K : List Nat} {h : Nat} :
    h ∈ keptAfterBackup n K ↔ h ∈ K ∧ h < n := by
  simp only [keptAfterBackup, List.mem_filter, decide_eq_true_eq]

theorem fullInv'_of_backupOut {cfg : Cfg} {pre : List Block} {b : Block} {K : List Nat} {s s' : Sys}
    {a : Acc Sys} (inv : FullInv' cfg (pre ++ [b]) K s) (hfl : s.m.dbst.height = s.m.st.height)
    (o : BackupOut s b a s')
    (hrepa : RepSys (setCD s a.s.m.cache a.s.m.deletes) (specChain cfg.act pre).utxos)
    (htxn : a.txNum = b.txs.length)
    (hdelta : a.delta = - blockDelta cfg.act pre.length (specChain cfg.act pre) b.txs)
    (htouched : ∀ hx ∈ (blockTouched cfg.act pre.length (specChain cfg.act pre) b.txs).flatten,
      hx ∈ a.touched) :
    FullInv' cfg pre (keptAfterBackup pre.length K) s' := by
  have base := inv.base
  have f := base.files
  obtain ⟨-, -, hunf0, -, hfs⟩ := flushed_of_db base hfl
  obtain ⟨-, -, hundoU0⟩ := base.flushedU hfl
  have hvn := validChain_last inv.valid
  have hspec := specChain_snoc_foldl cfg.act pre b
  have hdbst : s.m.dbst = s.m.st := inv.dbEq hfl
  obtain ⟨ohist, ohstate, -, -, -⟩ := o.rest
  have f' : FilesInv pre s' := filesInv_backup f hfs o htxn
  have hdb' : s'.m.dbst.height = s'.m.st.height := by rw [o.dbst, o.st]
  have hhist : HistInv (specChain cfg.act pre) s'.p [] (s.m.histFlush + 1) := by
    refine histInv_congr (p := applyEffect s.p (histBackupEffect s (s.m.touched ++ a.touched)
      (bkSt s.m.st a b).txCount)) ?_ ohist
    have hN : (bkSt s.m.st a b).txCount = (specChain cfg.act pre).txs.length := by
      rw [← o.st, f'.stTx, specChain_txs_length]
    rw [hN]
    refine histInv_backup s cfg.act pre.length b.txs (s.m.touched ++ a.touched)
      (specOK_chain cfg.act pre).len ?_ (fun hx hm => List.mem_append_right _ (htouched hx hm))
    have := base.hist
    rwa [hunf0, hspec] at this
  -- `History.backup` only rewrites rows: every key afterwards was a key before
  have hids : ∀ e ∈ s'.p.hist, e.1.2 ≤ s'.m.dbst.flushCount := by
    intro e he
    obtain ⟨e', he', hek⟩ := List.mem_map.mp (keys_histBackup s _ _ e (ohist ▸ he))
    rw [o.dbst, ← hek]
    show e'.1.2 ≤ s.m.st.flushCount
    rw [← hdbst]
    exact inv.histIds hfl e' he'
  have hw' : RepSysW s' (specChain cfg.act pre).utxos (specChain cfg.act pre).utxos [] := by
    obtain ⟨D, Del, w⟩ := hrepa
    refine flushUtxo_rep w (txnumFun_of_specOK (specOK_chain cfg.act pre)) (bkSt s.m.st a b)
      ?_ o.cache o.deletes (resolve_spec_utxo f' hdb')
    rw [o.p]
    exact utxoBatch_hu_congr _ s.p (by rw [others_histBackup]) (by rw [others_histBackup]) _ _ _ _ _ _
  have hutxoCount : s'.m.st.utxoCount = ((specChain cfg.act pre).utxos.length : Int) := by
    have h1 := base.utxoCount
    rw [hspec, utxos_length_foldl] at h1
    rw [o.st]
    show s.m.st.utxoCount + a.delta = _
    rw [hdelta, h1]; omega
  have hchainSize : s'.m.st.chainSize = (pre.map (·.size)).sum := by
    rw [o.st]
    show s.m.st.chainSize - b.size = _
    rw [inv.chainSize, List.map_append, List.sum_append_nat]
    simp
  refine fullInv'_of_flushed (validChain_prefix inv.valid) (fun h hh => (mem_keptAfterBackup.mp hh).2)
    ⟨_, _, hw'⟩ (o.histFlush ▸ hhist) f' (o.dbst.trans o.st.symm) o.cache o.deletes o.undoU
    (o.unflushed.trans hunf0) (by rw [o.st]; exact hvn.1) hutxoCount hchainSize
    (Or.inr (by rw [o.p, o.dbst]; rfl)) (by rw [ohstate, hstate_histBackup, o.histFlush]; rfl) ?_ hids ?_
  · rw [o.dbst, o.histFlush]
    show s.m.st.flushCount ≤ s.m.histFlush + 1
    rw [← hdbst]; exact Nat.le_succ_of_le inv.fcLe
  · intro h hh p x q hc hl
    rw [← inv.undo h (mem_keptAfterBackup.mp hh).1 p x (q ++ [b]) (by rw [hc]; simp) hl,
      undoLookup_of_nil hundoU0, o.p, utxoBatchEffect_undo _ _ (t := setCD s a.s.m.cache a.s.m.deletes) hundoU0,
      others_histBackup]

/-- The undo row of the tip is the block's undo list (`pre.length ∈ K`), so the loops of `backup_block`
invert the block and `backupFull` succeeds; they change nothing of the system but the cache and the
queued deletes. -/
theorem backupFull_of_inv {cfg : Cfg} {pre : List Block} {b : Block} {K : List Nat} {s : Sys}
    (inv : FullInv' cfg (pre ++ [b]) K s) (hfl : s.m.dbst.height = s.m.st.height)
    (hpos : 0 < s.m.st.height) (hk : pre.length ∈ K) :
    ∃ a, backupFull cfg s b = .ok (bkResult a s b) ∧
      RepSys (setCD s a.s.m.cache a.s.m.deletes) (specChain cfg.act pre).utxos ∧ a.txNum = b.txs.length ∧
      a.delta = - blockDelta cfg.act pre.length (specChain cfg.act pre) b.txs ∧
      ∀ hx ∈ (blockTouched cfg.act pre.length (specChain cfg.act pre) b.txs).flatten,
        hx ∈ a.touched := by
  have base := inv.base
  obtain ⟨-, -, hundoU0⟩ := base.flushedU hfl
  have hH : s.m.st.height.toNat = pre.length := by
    rw [base.files.height, List.length_append, List.length_singleton]; omega
  have hspec := specChain_snoc_foldl cfg.act pre b
  have hundoRow : alookup pre.length s.p.undo =
      some (blockUndo cfg.act pre.length (specChain cfg.act pre) b.txs) := by
    rw [← undoLookup_of_nil hundoU0]
    exact inv.undo pre.length hk pre b [] rfl rfl
  obtain ⟨a, hbt, hrepa, htxn, hdelta, htouched⟩ :=
    backupTxs_inverts sysIface cfg pre.length b.txs (specChain cfg.act pre)
      (specChain_nodup pre (validChain_prefix inv.valid)) (validChain_last inv.valid).2 []
      { s := s, txNum := 0 } (hspec ▸ base.rep)
  simp only [List.nil_append, Nat.zero_add, Int.zero_sub] at hbt htxn hdelta
  obtain ⟨c, d, ha⟩ := backupTxs_setCD _ _ _ _ _ hbt
  exact ⟨a, backupFull_of (assertFlushed_of_inv base hfl.symm) hpos (hH ▸ hundoRow) (hH ▸ hbt),
    ha ▸ hrepa, htxn, hdelta, fun hx hm => htouched hx (Or.inr hm)⟩

/-- `pre ≠ []`: the real code refuses to back out height 0. -/
theorem fullInv'_backup {cfg : Cfg} {pre : List Block} {b : Block} {K : List Nat} {s : Sys}
    (inv : FullInv' cfg (pre ++ [b]) K s) (hfl : s.m.dbst.height = s.m.st.height)
    (hpre : pre ≠ []) (hk : pre.length ∈ K) :
    ∃ e1 e2 s', backupFull cfg s b = .ok ([e1, e2], s') ∧
      FullInv' cfg pre (keptAfterBackup pre.length K) s' ∧
      s'.m.dbst.height = s'.m.st.height := by
  have hpos : 0 < s.m.st.height := by
    have := inv.base.files.height
    have := List.length_pos_iff.mpr hpre
    rw [List.length_append, List.length_singleton] at *
    omega
  obtain ⟨a, hfull, hrepa, htxn, hdelta, htouched⟩ := backupFull_of_inv inv hfl hpos hk
  exact ⟨_, _, _, hfull, fullInv'_of_backupOut inv hfl (bkResult_out a s b) hrepa htxn hdelta htouched, rfl⟩

theorem fullInv'_backup_refused {cfg : Cfg} {chain : List Block} {K : List Nat} {s : Sys}
    (inv : FullInv' cfg chain K s) (hfl : s.m.dbst.height = s.m.st.height)
    (hlen : 2 ≤ chain.length) (hnone : alookup (chain.length - 1) s.p.undo = none) (b : Block) :
    backupFull cfg s b = .error .chainError := by
  have hH := inv.base.files.height
  refine backup_refused_without_undo cfg s b (assertFlushed_of_inv inv.base hfl.symm) ?_ ?_
  · rw [hH]; omega
  · rw [hH]
    exact (Int.toNat_sub chain.length 1).symm ▸ hnone

end EV.Index
