import EV.Model.TxCache
import EV.Proofs.ListX
import EV.Proofs.StepX

/-!
C11 (transaction proofs) / C10 (by-height answers): the DB side of `EV.TxCache`.

`DBInv`: `tx_counts`, the hashes file and the headers file are consistent with the ghost block list
`disk` (what `flush_fs` wrote and no back-out removed) and the unflushed blocks of the block
processor, in every phase of a flush and of a back-out.  Consequence: whatever a worker-thread read
returns *is* the tx-hash list / header of the block at that height on the chain visible at that
moment — provided the read is bounded by `DB.state.height`.

`Step` spells out what each event does when its guard holds; every statement about one step of the
model, here and in the modules that follow, is proved by cases on it.
-/
namespace EV.TxCache

variable {Node : Type}

def total (l : List (Block Node)) : Nat := (l.flatMap (·.txs)).length

@[simp] theorem total_nil : total ([] : List (Block Node)) = 0 := rfl

theorem total_cons (b : Block Node) (l : List (Block Node)) : total (b :: l) = b.txs.length + total l := by
  simp [total]

theorem total_append (l m : List (Block Node)) : total (l ++ m) = total l + total m := by
  simp [total]

theorem total_take_succ (l : List (Block Node)) (h : Nat) (hh : h < l.length) :
    total (l.take (h + 1)) = total (l.take h) + l[h].txs.length := by
  rw [List.take_succ_eq_append_getElem hh, total_append]
  simp [total]

theorem cumFrom_length (a : Nat) (l : List (Block Node)) : (cumFrom a l).length = l.length := by
  induction l generalizing a with
  | nil => rfl
  | cons b l ih => simp [cumFrom, ih]

theorem cumFrom_getElem? (a : Nat) (l : List (Block Node)) (i : Nat) (hi : i < l.length) :
    (cumFrom a l)[i]? = some (a + total (l.take (i + 1))) := by
  induction l generalizing a i with
  | nil => simp at hi
  | cons b l ih =>
    cases i with
    | zero => simp [cumFrom, total]
    | succ i =>
      simp only [List.length_cons, Nat.add_lt_add_iff_right] at hi
      simp only [cumFrom, List.getElem?_cons_succ, List.take_succ_cons, total_cons]
      rw [ih _ _ hi, Nat.add_assoc]

/-- the left side is how `readTx` (`fs_tx_hashes_at_blockheight`) gets the offset of block `h` -/
theorem cumFrom_before (l : List (Block Node)) (h : Nat) (hh : h ≤ l.length) :
    (if h = 0 then some 0 else (cumFrom 0 l)[h - 1]?) = some (total (l.take h)) := by
  cases h with
  | zero => rfl
  | succ h => rw [if_neg (Nat.succ_ne_zero h), Nat.add_sub_cancel, cumFrom_getElem? 0 l h hh, Nat.zero_add]

theorem cumFrom_append (a : Nat) (l : List (Block Node)) (b : Block Node) :
    cumFrom a (l ++ [b]) = cumFrom a l ++ [(cumFrom a l).getLastD a + b.txs.length] := by
  induction l generalizing a with
  | nil => simp [cumFrom]
  | cons c l ih => simp only [List.cons_append, cumFrom, ih, List.getLastD_cons]

theorem cumFrom_dropLast (a : Nat) (l : List (Block Node)) :
    cumFrom a l.dropLast = (cumFrom a l).dropLast := by
  induction l generalizing a with
  | nil => rfl
  | cons c l ih =>
    cases l with
    | nil => rfl
    | cons d l => simp only [List.dropLast_cons_cons, cumFrom] at ih ⊢; rw [ih]

theorem file_slice (l : List (Block Node)) (G : List Node) (h : Nat) (hh : h < l.length) :
    ((l.flatMap (·.txs) ++ G).drop (total (l.take h))).take l[h].txs.length = l[h].txs := by
  induction l generalizing h with
  | nil => simp at hh
  | cons b l ih =>
    cases h with
    | zero =>
      simp only [List.take_zero, total_nil, List.drop_zero, List.flatMap_cons, List.getElem_cons_zero,
        List.append_assoc]
      rw [List.take_left']
      rfl
    | succ h =>
      simp only [List.length_cons, Nat.add_lt_add_iff_right] at hh
      simp only [List.take_succ_cons, total_cons, List.flatMap_cons, List.getElem_cons_succ, List.append_assoc]
      rw [← List.drop_drop, List.drop_left]
      exact ih h hh

structure DBInv (s : St Node) : Prop where
  /-- `tx_counts` is the running total of the blocks on disk and the unflushed ones — except between the
      `tx_counts.pop()` of `backup_block` and the lowering of `DB.state`, where the tip's entry has gone -/
  tc : s.txCounts = cumFrom 0 (match s.bp with
                               | .backing _ true => s.disk.dropLast
                               | _ => s.disk ++ s.unfl)
  len : s.disk.length = s.fsN
  vis : s.vis ≤ s.fsN
  file : s.disk.flatMap (·.txs) <+: s.file
  hdrs : s.disk.map (·.hdr) <+: s.hdrs
  /-- inside `reorg_chain` nothing is unflushed and `DB.state` is at the height of the files -/
  busy : s.bp ≠ .idle → s.unfl = [] ∧ s.vis = s.fsN
  /-- a reorganisation never has more blocks left to back out than are above the genesis block -/
  left : ∀ n p, s.bp = .backing n p → n < s.vis

theorem DBInv.vis_le {s : St Node} (h : DBInv s) : s.vis ≤ s.disk.length := h.len ▸ h.vis

theorem DBInv.tc_unpopped {s : St Node} (h : DBInv s) (hbp : ∀ n, s.bp ≠ .backing n true) :
    s.txCounts = cumFrom 0 (s.disk ++ s.unfl) := by
  have htc := h.tc
  split at htc
  · next n hn => exact absurd hn (hbp n)
  · exact htc

theorem DBInv.settled {s : St Node} (h : DBInv s) (hbp : s.bp ≠ .idle) : ¬(s.unfl ≠ [] ∨ s.vis < s.fsN) :=
  fun hq => hq.elim (fun hu => hu (h.busy hbp).1) (fun hlt => Nat.ne_of_lt hlt (h.busy hbp).2)

theorem visible_length {s : St Node} (h : DBInv s) : (visible s).length = s.vis :=
  List.length_take_of_le h.vis_le

theorem visible_getElem? {s : St Node} (h : DBInv s) (k : Nat) (hk : k < s.vis) :
    (visible s)[k]? = some (s.disk[k]'(Nat.lt_of_lt_of_le hk h.vis_le)) := by
  rw [visible, List.getElem?_take, if_pos hk, List.getElem?_eq_getElem]

/-- `DBInv.tc` without its case distinction: whichever list `tx_counts` counts, it agrees with `disk` at the
    visible heights -/
theorem counted {s : St Node} (hinv : DBInv s) :
    ∃ D : List (Block Node), s.txCounts = cumFrom 0 D ∧
      ∀ k, k < D.length → k < s.vis → D.take (k + 1) = s.disk.take (k + 1) := by
  have hD := hinv.tc
  split at hD
  · exact ⟨_, hD, fun k hk _ => (take_of_prefix (List.dropLast_prefix _) hk).symm⟩
  · exact ⟨_, hD, fun k _ hv => take_of_prefix (List.prefix_append _ _) (Nat.le_trans hv hinv.vis_le)⟩

theorem readTx_eq_got {cfg : Cfg} {s : St Node} {h : Nat} {L : List Node} (hr : readTx cfg s h = .got L) :
    h < (if cfg.stateBound then s.vis else s.txCounts.length) ∧ ∃ first last,
      (if h = 0 then some 0 else s.txCounts[h - 1]?) = some first ∧ s.txCounts[h]? = some last ∧
      L = (s.file.drop first).take (last - first) := by
  unfold readTx at hr
  by_cases hle : (if cfg.stateBound then s.vis else s.txCounts.length) ≤ h
  · rw [if_pos hle] at hr
    cases hr
  · rw [if_neg hle] at hr
    refine ⟨Nat.lt_of_not_le hle, ?_⟩
    split at hr
    · next first last hf hl =>
      split at hr
      · injection hr with hr
        exact ⟨first, last, hf, hl, hr.symm⟩
      · cases hr
    · cases hr

/-- **a tx-hash read bounded by `DB.state.height` returns the visible chain's block** -/
theorem readTx_got {s : St Node} (cfg : Cfg) (hb : cfg.stateBound = true) (hinv : DBInv s) (h : Nat)
    (L : List Node) (hr : readTx cfg s h = .got L) :
    ∃ b, (visible s)[h]? = some b ∧ L = b.txs := by
  obtain ⟨hv, first, last, hf, hl, rfl⟩ := readTx_eq_got hr
  rw [hb, if_pos rfl] at hv
  have hdl : h < s.disk.length := Nat.lt_of_lt_of_le hv hinv.vis_le
  obtain ⟨D, hD, hDall⟩ := counted hinv
  have hDl : h < D.length := by
    rw [hD] at hl
    exact cumFrom_length 0 D ▸ (List.getElem?_eq_some_iff.mp hl).1
  have hDt := hDall h hDl hv
  have hDh : D.take h = s.disk.take h := take_of_take_eq hDt (Nat.le_succ h)
  -- the two offsets are the numbers of hashes before block `h` and up to it
  rw [hD, cumFrom_before D h (Nat.le_of_lt hDl), hDh] at hf
  rw [hD, cumFrom_getElem? 0 D h hDl, hDt, Nat.zero_add, total_take_succ _ _ hdl] at hl
  cases hf
  cases hl
  obtain ⟨G, hG⟩ := hinv.file
  exact ⟨s.disk[h], visible_getElem? hinv h hv, by rw [← hG, Nat.add_sub_cancel_left, file_slice _ _ _ hdl]⟩

/-- **a header read returns the visible chain's header** -/
theorem readHdr_got {s : St Node} (hinv : DBInv s) (h : Nat) (hd : Hdr Node)
    (hr : readHdr s h = .got hd) : ∃ b, (visible s)[h]? = some b ∧ b.hdr = hd := by
  unfold readHdr at hr
  split at hr
  · next hv =>
    have hdl : h < s.disk.length := Nat.lt_of_lt_of_le hv hinv.vis_le
    split at hr
    · next x hx =>
      injection hr with hr
      subst hr
      refine ⟨s.disk[h], visible_getElem? hinv h hv, ?_⟩
      obtain ⟨G, hG⟩ := hinv.hdrs
      rw [← hG, List.getElem?_append_left (by rw [List.length_map]; exact hdl), List.getElem?_map,
        List.getElem?_eq_getElem hdl] at hx
      exact Option.some.inj hx
    · cases hr
  · cases hr

theorem read_beyond (cfg : Cfg) (hb : cfg.stateBound = true) (s : St Node) (h : Nat) (hv : s.vis ≤ h) :
    readTx cfg s h = .dbError := by
  unfold readTx
  rw [hb, if_pos rfl, if_pos hv]

theorem readHdr_beyond (s : St Node) (h : Nat) (hv : s.vis ≤ h) : readHdr s h = .outOfRange := by
  unfold readHdr
  rw [if_neg (Nat.not_lt.mpr hv)]

theorem writeAt_extends {α : Type} {X F : List α} (h : X <+: F) (d : List α) :
    X ++ d <+: writeAt F X.length d := by
  obtain ⟨G, rfl⟩ := h
  rw [writeAt, List.take_left' rfl, List.drop_length_add_append]
  exact List.prefix_append _ _

theorem flatMap_prefix {α β : Type} (f : α → List β) {l m : List α} (h : l <+: m) :
    l.flatMap f <+: m.flatMap f := by
  obtain ⟨t, rfl⟩ := h
  rw [List.flatMap_append]
  exact List.prefix_append _ _

/-- `prior_tx_count = self.tx_counts[self.fs_height] if self.fs_height >= 0 else 0` is the number of
    hashes of the blocks on disk -/
theorem prior_eq {s : St Node} (hinv : DBInv s) (hidle : s.bp = .idle) :
    (if s.fsN = 0 then 0 else s.txCounts.getD (s.fsN - 1) 0) = (s.disk.flatMap (·.txs)).length := by
  have h := cumFrom_before (s.disk ++ s.unfl) s.fsN (by rw [List.length_append, hinv.len]; exact Nat.le_add_right _ _)
  rw [← hinv.tc_unpopped (by rw [hidle]; exact fun _ h => nomatch h), ← hinv.len, List.take_left' rfl] at h
  rw [← hinv.len, List.getD_eq_getElem?_getD]
  split at h
  · next h0 => rw [if_pos h0]; exact Option.some.inj h
  · next h0 => rw [if_neg h0, h]; rfl

variable [DecidableEq Node] (H : Node → Node → Node)

/-- `skip` is allowed for every event: `Step` contains `step`, it is not equivalent to it.
    `step_Step` is the only place where `step` is taken apart. -/
inductive Step (cfg : Cfg) (s : St Node) : Ev Node → St Node → Prop
  | skip (ev : Ev Node) : Step cfg s ev s
  | start (k : Kind Node) (h : Nat) : Step cfg s (.start k h)
      { s with mc := (newReq H cfg s k h).mc, reqs := s.reqs ++ [(newReq H cfg s k h).req] }
  | perform {i : Nat} {r : Req Node} : s.reqs[i]? = some r →
      Step cfg s (.perform i) { s with reqs := s.reqs.set i (performReq cfg s r) }
  | deliver {i : Nat} {r : Req Node} : s.reqs[i]? = some r →
      Step cfg s (.deliver i)
        { s with txc := (deliverReq H cfg s r).txc, mc := (deliverReq H cfg s r).mc,
                 reqs := s.reqs.set i (deliverReq H cfg s r).req }
  | evictTx (h : Nat) : Step cfg s (.evictTx h) { s with txc := setAt s.txc h none }
  | evictMc (h : Nat) : Step cfg s (.evictMc h) { s with mc := setAt s.mc h none }
  | advance (b : Block Node) : s.bp = .idle ∧ s.vis = s.fsN ∧ (cfg.fifo = true → s.woken = false) →
      Step cfg s (.advance b)
        { s with unfl := s.unfl ++ [b], txCounts := s.txCounts ++ [s.txCounts.getLastD 0 + b.txs.length] }
  | flushFs : s.bp = .idle ∧ s.vis = s.fsN ∧ s.unfl ≠ [] →
      Step cfg s .flushFs
        { s with file := writeAt s.file (if s.fsN = 0 then 0 else s.txCounts.getD (s.fsN - 1) 0)
                           (s.unfl.flatMap (·.txs)),
                 hdrs := writeAt s.hdrs s.fsN (s.unfl.map (·.hdr)),
                 fsN := s.fsN + s.unfl.length, disk := s.disk ++ s.unfl, unfl := [] }
  | flushSt : s.vis < s.fsN →
      Step cfg s .flushSt
        { s with vis := s.fsN,
                 ref := if s.bp = .idle ∧ s.woken = false then s.disk.take s.fsN else s.ref,
                 reqs := s.reqs.map (Req.see (s.disk.take s.fsN)) }
  | reorgStart (n : Nat) : s.bp = .idle ∧ s.unfl = [] ∧ s.vis = s.fsN ∧ 0 < n ∧ n < s.vis →
      Step cfg s (.reorgStart n) { s with bp := .backing n false }
  | boPop {n : Nat} : s.bp = .backing (n + 1) false →
      Step cfg s .boPop { s with txCounts := s.txCounts.dropLast, bp := .backing (n + 1) true }
  | boLower {n : Nat} : s.bp = .backing (n + 1) true →
      Step cfg s .boLower
        { s with vis := s.vis - 1, fsN := s.fsN - 1, disk := s.disk.dropLast, bp := .backing n false,
                 reqs := s.reqs.map (Req.see (s.disk.dropLast.take (s.vis - 1))) }
  | reorgEnd {k : Nat} : s.bp = .backing k false →
      Step cfg s .reorgEnd { s with bp := .idle, woken := s.woken || cfg.signal }
  | handler : s.woken = true →
      Step cfg s .handler
        { s with rc := s.rc + 1, txc := fun _ => none, mc := fun _ => none, woken := false, ref := visible s }

theorem step_Step (cfg : Cfg) (s : St Node) (ev : Ev Node) : Step H cfg s ev (step H cfg s ev) := by
  cases ev with
  | start k h => exact .start k h
  | perform i =>
    show Step H cfg s _ (match s.reqs[i]? with | none => s | some r => _)
    cases hr : s.reqs[i]? with
    | none => exact .skip _
    | some r => exact .perform hr
  | deliver i =>
    show Step H cfg s _ (match s.reqs[i]? with | none => s | some r => _)
    cases hr : s.reqs[i]? with
    | none => exact .skip _
    | some r => exact .deliver hr
  | evictTx h => exact .evictTx h
  | evictMc h => exact .evictMc h
  | advance b => exact ite_ind (.advance b) fun _ => .skip _
  | flushFs => exact ite_ind .flushFs fun _ => .skip _
  | flushSt => exact ite_ind .flushSt fun _ => .skip _
  | reorgStart n => exact ite_ind (.reorgStart n) fun _ => .skip _
  | boPop =>
    show Step H cfg s _ (match s.bp with | .backing (n + 1) false => _ | _ => s)
    split
    · next n hbp => exact .boPop hbp
    · exact .skip _
  | boLower =>
    show Step H cfg s _ (match s.bp with | .backing (n + 1) true => _ | _ => s)
    split
    · next n hbp => exact .boLower hbp
    · exact .skip _
  | reorgEnd =>
    show Step H cfg s _ (match s.bp with | .backing _ false => _ | _ => s)
    split
    · next k hbp => exact .reorgEnd hbp
    · exact .skip _
  | handler => exact ite_ind .handler fun _ => .skip _

theorem DBInv.step {cfg : Cfg} {s s' : St Node} {ev : Ev Node} (h : Step H cfg s ev s') (hinv : DBInv s) :
    DBInv s' := by
  have htc := hinv.tc
  have hlen := hinv.len
  have hvis := hinv.vis
  cases h with
  | skip => exact hinv
  | start | perform | deliver | evictTx | evictMc | handler => exact { hinv with }
  | advance b hg =>
    simp only [hg.1] at htc
    refine { hinv with tc := ?_, busy := fun h => absurd hg.1 h }
    simp only [hg.1]
    rw [← List.append_assoc, cumFrom_append, ← htc]
  | flushFs hg =>
    simp only [hg.1] at htc
    refine ⟨?_, ?_, Nat.le_trans hvis (Nat.le_add_right _ _), ?_, ?_, fun h => absurd hg.1 h, hinv.left⟩
    · simp only [hg.1, List.append_nil]; exact htc
    · simp only [List.length_append, hlen]
    · simpa only [List.flatMap_append, prior_eq hinv hg.1] using writeAt_extends hinv.file _
    · simpa only [List.map_append, List.length_map, hlen] using writeAt_extends hinv.hdrs _
  | flushSt hg =>
    exact { hinv with vis := Nat.le_refl _, busy := fun h => ⟨(hinv.busy h).1, rfl⟩,
                      left := fun n p h => (hinv.busy (by rw [h]; exact fun h => nomatch h)).2 ▸ hinv.left n p h }
  | reorgStart n hg =>
    simp only [hg.1] at htc
    exact { hinv with tc := htc, busy := fun _ => ⟨hg.2.1, hg.2.2.1⟩,
                      left := fun _ _ h => by cases h; exact hg.2.2.2.2 }
  | boPop hbp =>
    have hb := hinv.busy (by rw [hbp]; exact fun h => nomatch h)
    simp only [hbp, hb.1, List.append_nil] at htc
    refine { hinv with tc := ?_, busy := fun _ => hb, left := fun _ _ h => by cases h; exact hinv.left _ _ hbp }
    show s.txCounts.dropLast = cumFrom 0 s.disk.dropLast
    rw [cumFrom_dropLast, htc]
  | boLower hbp =>
    have hb := hinv.busy (by rw [hbp]; exact fun h => nomatch h)
    simp only [hbp] at htc
    refine ⟨?_, ?_, ?_, ?_, ?_, fun _ => ⟨hb.1, ?_⟩,
      fun _ _ h => by cases h; exact Nat.lt_sub_of_add_lt (hinv.left _ _ hbp)⟩
    · show s.txCounts = cumFrom 0 (s.disk.dropLast ++ s.unfl)
      rw [hb.1, List.append_nil]; exact htc
    · show s.disk.dropLast.length = s.fsN - 1
      rw [List.length_dropLast, hlen]
    · exact Nat.sub_le_sub_right hvis 1
    · exact (flatMap_prefix _ (List.dropLast_prefix _)).trans hinv.file
    · exact ((List.dropLast_prefix _).map _).trans hinv.hdrs
    · show s.vis - 1 = s.fsN - 1
      rw [hb.2]
  | reorgEnd hbp =>
    simp only [hbp] at htc
    exact { hinv with tc := htc, busy := fun h => absurd rfl h, left := fun n p h => nomatch h }

/-- every event preserves `DBInv` (every variant of the code) -/
theorem dbInv_step (cfg : Cfg) (s : St Node) (ev : Ev Node) (hinv : DBInv s) :
    DBInv (step H cfg s ev) :=
  hinv.step H (step_Step H cfg s ev)

omit [DecidableEq Node] in
theorem dbInv_ofChain (ch : List (Block Node)) : DBInv (St.ofChain ch) :=
  ⟨by simp [St.ofChain], rfl, Nat.le_refl _, List.prefix_refl _, List.prefix_refl _,
    fun h => absurd rfl h, fun n p h => nomatch h⟩

end EV.TxCache
