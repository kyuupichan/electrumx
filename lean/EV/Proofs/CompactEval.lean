import EV.Proofs.CompactScan
import EV.Proofs.IndexEval

/-!
The compaction model in a form the kernel can evaluate on literals, on top of `EV/Proofs/IndexEval.lean`.  The
prefix scan sorts, and it sits under `histLoop`, whose fuel is not a literal before `_open_dbs` is evaluated, so
the loop cannot be unfolded at the use site: the scan and that one recursive function get a twin over the
insertion sort.  A statement about literals is then proved by `simp only [compactScript, driverLoop,
compactHistory, histLoop_eval, getTxnums_eval]`, which exposes the loop, and `decide +kernel`.
-/
namespace EV.Compact
open EV.Index

def scanPrefixE (p : Store) (c : Nat) : List ScanItem :=
  ((p.hist.filter (fun e => prefixOf e.1.1 == c)).foldr (insertBy keyLE) []).map ScanItem.row ++
    (if c == statePrefix && p.hstate.isSome then [ScanItem.other] else [])

theorem scanPrefix_eval (p : Store) (c : Nat) : scanPrefix p c = scanPrefixE p c := by
  unfold scanPrefix scanPrefixE
  rw [mergeSort_eq_foldr keyLE_trans keyLE_total]

def histLoopE (maxRow limit : Nat) (p : Store) :
    Nat → Int → CAcc → Nat → Except CErr (Int × CAcc × Nat)
  | 0, cursor, acc, ws => .ok (cursor, acc, ws)
  | fuel + 1, cursor, acc, ws =>
    if ws < limit ∧ cursor < 65536 then
      if cursor < 0 then .error .structError
      else
        match prefixLoop maxRow (scanPrefixE p cursor.toNat) none [] acc 0 with
        | .error e => .error e
        | .ok (acc', w) => histLoopE maxRow limit p fuel (cursor + 1) acc' (ws + w)
    else .ok (cursor, acc, ws)

theorem histLoop_eval (maxRow limit : Nat) (p : Store) (fuel : Nat) (cursor : Int) (acc : CAcc) (ws : Nat) :
    histLoop maxRow limit p fuel cursor acc ws = histLoopE maxRow limit p fuel cursor acc ws := by
  induction fuel generalizing cursor acc ws with
  | zero => rfl
  | succ f ih =>
    simp only [histLoop, histLoopE, compactPrefix, scanPrefix_eval, ih]
    rfl

end EV.Compact
