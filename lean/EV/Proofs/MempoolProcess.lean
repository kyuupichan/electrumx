import EV.Proofs.MempoolAccept

/-!
`_process_mempool` under a sound environment (every race the daemon can produce):
the removal phase, the chunk tasks in any completion order, the deferred fix-point loop.
Result: the call returns, `MpInv` holds afterwards, stored transactions that stay are untouched
objects, and `touched` covers everything that was removed or added (`ProcFacts`).
-/
namespace EV.Mempool

/-- `txs` when the removal phase is over: the listed entries, in their order (`removal_facts`) -/
def afterRemoval (st : St) (M : List Hash) : TxMap := st.txs.filter (fun e => M.contains e.1)

section
variable {W : Hash → Option RawTx}

theorem removeOne {st : St} {e : Hash × MemPoolTx} (hinv : MpInv W st) (he : e ∈ st.txs) :
    ∃ hx', unindex e.1 st.hashXs (txHashXs e.2) = .ok hx' ∧
      MpInv W { txs := st.txs.filter (fun e' => e'.1 != e.1), hashXs := hx' } := by
  obtain ⟨hx', h1, h2, h3⟩ := unindex_ok hinv.wf (nodup_dedup _)
    fun x hx => (hinv.inverse x e.1).mpr ⟨e.2, he, hx⟩
  refine ⟨hx', h1, (List.filter_sublist.map _).nodup hinv.txKeys, h2, fun x h' => ?_,
    fun e' he' => hinv.true e' (List.mem_filter.mp he').1⟩
  rw [h3, hinv.inverse]
  simp only [List.mem_filter, bne_iff_ne, ne_eq]
  constructor
  · rintro ⟨⟨tx, g1, g2⟩, g3⟩
    refine ⟨tx, ⟨g1, fun g4 => g3 ⟨g4, ?_⟩⟩, g2⟩
    subst g4
    exact mem_unique hinv.txKeys g1 he ▸ g2
  · rintro ⟨tx, ⟨g1, g4⟩, g2⟩
    exact ⟨⟨tx, g1, g2⟩, fun g5 => g4 g5.1⟩

theorem removalLoop_facts (L : TxMap) :
    ∀ (st : St) (touched : List HashX), MpInv W st → (∀ e ∈ L, e ∈ st.txs) →
      (L.map (·.1)).Nodup →
      ∃ st' t', removalLoop st touched L = .ok (st', t') ∧ MpInv W st' ∧
        st'.txs = st.txs.filter (fun e' => !(L.map (·.1)).contains e'.1) ∧
        (∀ x, x ∈ t' ↔ x ∈ touched ∨ ∃ e ∈ L, x ∈ txHashXs e.2) := by
  induction L with
  | nil =>
    intro st touched hinv _ _
    exact ⟨st, touched, rfl, hinv, (List.filter_eq_self.mpr fun _ _ => rfl).symm,
      fun _ => (or_iff_left fun ⟨_, h, _⟩ => nomatch h).symm⟩
  | cons e rest ih =>
    intro st touched hinv hL hn
    obtain ⟨hx', h1, h2⟩ := removeOne hinv (hL e List.mem_cons_self)
    have hn := List.nodup_cons.mp hn
    obtain ⟨st', t', h3, h4, h5, h6⟩ := ih _ (touched ++ txHashXs e.2) h2
      (fun e2 he2 => List.mem_filter.mpr ⟨hL e2 (List.mem_cons_of_mem _ he2),
        bne_iff_ne.mpr fun h3 => hn.1 (List.mem_map.mpr ⟨e2, he2, h3⟩)⟩) hn.2
    refine ⟨st', t', by rw [removalLoop, h1]; exact h3, h4, ?_, fun x => ?_⟩
    · rw [h5, List.filter_filter]
      exact List.filter_congr fun e' _ => by
        rw [List.map_cons, List.contains_cons, Bool.not_or, Bool.and_comm]; rfl
    · rw [h6]
      simp only [List.mem_append, List.mem_cons, exists_eq_or_imp, or_assoc]

/-- the removal phase keeps the listed entries, in their order -/
theorem removal_facts {st : St} (hinv : MpInv W st) (allHashes : List Hash) (touched : List HashX) :
    ∃ st' t', removalLoop st touched (st.txs.filter (fun e => !allHashes.contains e.1)) = .ok (st', t') ∧
      MpInv W st' ∧ st'.txs = afterRemoval st allHashes ∧
      (∀ x, x ∈ t' ↔ x ∈ touched ∨ ∃ e ∈ st.txs, e.1 ∉ allHashes ∧ x ∈ txHashXs e.2) := by
  have hL : ∀ e, e ∈ st.txs.filter (fun e => !allHashes.contains e.1) ↔ e ∈ st.txs ∧ e.1 ∉ allHashes :=
    fun e => List.mem_filter.trans (and_congr_right fun _ => not_contains_iff)
  obtain ⟨st', t', h1, h2, h3, h4⟩ := removalLoop_facts (W := W) _ st touched hinv
    (fun e he => ((hL e).mp he).1) ((List.filter_sublist.map _).nodup hinv.txKeys)
  refine ⟨st', t', h1, h2, h3.trans (List.filter_congr fun e' g1 => ?_), fun x => ?_⟩
  · rw [Bool.eq_iff_iff, not_contains_iff, List.contains_iff_mem]
    refine ⟨fun g2 => Classical.byContradiction fun g3 => ?_, fun g2 g3 => ?_⟩
    · exact g2 (List.mem_map.mpr ⟨e', (hL e').mpr ⟨g1, g3⟩, rfl⟩)
    · obtain ⟨e2, g4, g5⟩ := List.mem_map.mp g3
      exact ((hL e2).mp g4).2 (g5 ▸ g2)
  · rw [h4]
    simp only [hL, and_assoc]

end

theorem chunksAux_sublist {α : Type} (n f : Nat) (l : List α) (k : Nat) :
    ((chunksAux n f l).getD k []).Sublist l := by
  fun_induction chunksAux n f l generalizing k with
  | case1 => exact List.nil_sublist _
  | case2 => exact List.nil_sublist _
  | case3 f l _ ih =>
    cases k with
    | zero => exact List.take_sublist n l
    | succ k => exact (ih k).trans (List.drop_sublist n l)

theorem chunksOf_subset {α : Type} {n : Nat} {l : List α} {k : Nat} {a : α}
    (h : a ∈ (chunksOf n l).getD k []) : a ∈ l := (chunksAux_sublist n _ _ k).subset h

theorem flatMap_range_getD {α : Type} (L : List (List α)) :
    (List.range L.length).flatMap (L.getD · []) = L.flatten := by
  induction L with
  | nil => rfl
  | cons a L ih =>
    rw [List.length_cons, List.range_succ_eq_map, List.flatMap_cons, List.flatMap_map,
      List.flatten_cons]
    exact congrArg (a ++ ·) ih

theorem chunksAux_flatten {α : Type} {n : Nat} (hpos : 0 < n) (f : Nat) (l : List α) :
    l.length ≤ f → (chunksAux n f l).flatten = l := by
  fun_induction chunksAux n f l with
  | case1 l => exact fun hl => (List.length_eq_zero_iff.mp (Nat.le_zero.mp hl)).symm
  | case2 f l he => exact fun _ => (List.isEmpty_iff.mp he).symm
  | case3 f l he ih =>
    intro hl
    have hlen : 0 < l.length := List.length_pos_iff.mpr fun h => he (List.isEmpty_iff.mpr h)
    rw [List.flatten_cons, ih (by rw [List.length_drop]; omega), List.take_append_drop]

/-- the chunks, concatenated in spawn order, are the list: they cover it, and are duplicate-free and
    pairwise disjoint when it is duplicate-free -/
theorem chunksOf_flatMap {α : Type} {n : Nat} (hpos : 0 < n) (l : List α) :
    (List.range (chunksOf n l).length).flatMap ((chunksOf n l).getD · []) = l :=
  (flatMap_range_getD _).trans (chunksAux_flatten hpos _ _ (Nat.le_refl _))

variable {W : Hash → Option RawTx} {allHashes : List Hash}
  {fetch : Hash → Option RawTx} {lookup : Nat → List Prevout → List (Option Pair)}

theorem txMapOf_eq (fetch : Hash → Option RawTx) (hs : List Hash) :
    txMapOf fetch hs = hs.filterMap fun h => (fetch h).map fun t => (h, mkTx t) := by
  fun_induction txMapOf fetch hs with
  | case1 => rfl
  | case2 h hs hf ih => rw [List.filterMap_cons_none (by rw [hf]; rfl), ih]
  | case3 h hs t hf ih => rw [List.filterMap_cons_some (by rw [hf]; rfl), ih]

theorem mem_txMapOf {hs : List Hash} {e : Hash × MemPoolTx} :
    e ∈ txMapOf fetch hs ↔ e.1 ∈ hs ∧ ∃ t, fetch e.1 = some t ∧ e.2 = mkTx t :=
  txMapOf_eq fetch hs ▸ mem_tabulate

theorem keys_txMapOf_sublist (fetch : Hash → Option RawTx) (hs : List Hash) :
    ((txMapOf fetch hs).map (·.1)).Sublist hs :=
  txMapOf_eq fetch hs ▸ keys_tabulate_sublist fetch mkTx hs

theorem UmSound_utxoMapOf
    (hl : ∀ k ps p pr, (p, some pr) ∈ List.zip ps (lookup k ps) → truePair W p = some pr) (k : Nat)
    (ps : List Prevout) : UmSound W (utxoMapOf ps (lookup k ps)) := by
  intro p pr h
  exact hl k ps p pr (List.mem_reverse.mp h)

/-- what the daemon and the index may do while *this* refresh runs: `EnvSound` with its `fetch` clause
    asked only of the hashes of the listing -/
structure SoundOn (W : Hash → Option RawTx) (allHashes : List Hash) (fetch : Hash → Option RawTx)
    (lookup : Nat → List Prevout → List (Option Pair)) : Prop where
  fetch : ∀ h ∈ allHashes, ∀ t, fetch h = some t → W h = some t
  valid : Valid W
  lookup : ∀ k ps p pr, (p, some pr) ∈ List.zip ps (lookup k ps) → truePair W p = some pr

theorem EnvSound.soundOn {W : Hash → Option RawTx} {fetch : Hash → Option RawTx}
    {lookup : Nat → List Prevout → List (Option Pair)} (h : EnvSound W fetch lookup)
    (allHashes : List Hash) : SoundOn W allHashes fetch lookup :=
  ⟨fun h' _ t ht => h.fetch h' t ht, h.valid, h.lookup⟩

/-- relation between the state/touched before (`st0`, `t0`) and after (`st`, `t`) some accept calls -/
structure Grow (W : Hash → Option RawTx) (allHashes : List Hash) (st0 : St) (t0 : List HashX)
    (st : St) (t : List HashX) : Prop where
  inv : MpInv W st
  mono : ∀ e ∈ st0.txs, e ∈ st.txs
  fresh : ∀ e' ∈ st.txs, e' ∈ st0.txs ∨ (e'.1 ∈ allHashes ∧ ∀ x ∈ txHashXs e'.2, x ∈ t)
  touchedMono : ∀ x ∈ t0, x ∈ t

theorem Grow.refl {st : St} {t : List HashX} (hinv : MpInv W st) : Grow W allHashes st t st t :=
  ⟨hinv, fun _ h => h, fun _ h => Or.inl h, fun _ h => h⟩

theorem Grow.step {st0 st : St} {t0 t : List HashX} {L : TxMap} {um : UtxoMap} {r : AcceptResult}
    (g : Grow W allHashes st0 t0 st t) (c : CallFacts W st L um t r)
    (hk : ∀ e ∈ L, e.1 ∈ allHashes) : Grow W allHashes st0 t0 r.st r.touched := by
  constructor
  · exact c.inv
  · exact fun e h => c.mono e (g.mono e h)
  · intro e' he'
    rcases c.touchedNew e' he' with h1 | h1
    · rcases g.fresh e' h1 with h2 | ⟨h2, h3⟩
      · exact Or.inl h2
      · exact Or.inr ⟨h2, fun x hx => c.touchedMono x (h3 x hx)⟩
    · rcases c.newKeys e' he' with h2 | h2
      · rcases g.fresh e' h2 with h3 | ⟨h3, _⟩
        · exact Or.inl h3
        · exact Or.inr ⟨h3, h1⟩
      · obtain ⟨e2, h3, h4⟩ := List.mem_map.mp h2
        exact Or.inr ⟨h4 ▸ hk e2 h3, h1⟩
  · exact fun x h => c.touchedMono x (g.touchedMono x h)

theorem fetched_of_txMapOf (hf : ∀ h ∈ allHashes, ∀ t, fetch h = some t → W h = some t)
    {hs : List Hash} (hsub : ∀ h ∈ hs, h ∈ allHashes) :
    ∀ e ∈ txMapOf fetch hs, Fetched W e ∧ e.1 ∈ allHashes := by
  intro e he
  obtain ⟨h1, t, h2, h3⟩ := mem_txMapOf.mp he
  exact ⟨⟨t, hf _ (hsub _ h1) t h2, h3⟩, hsub _ h1⟩

theorem mem_newHashes {txs : TxMap} {h : Hash} :
    h ∈ newHashes txs allHashes ↔ h ∈ allHashes ∧ h ∉ txs.map (·.1) := by
  rw [newHashes, List.mem_filter, Bool.not_eq_true', ← Bool.not_eq_true, hasKey_iff]

/-- the `utxo_map` chunk task `k` builds from the answer to its `lookup_utxos` call -/
def chunkUm (allHashes : List Hash) (fetch : Hash → Option RawTx)
    (lookup : Nat → List Prevout → List (Option Pair)) (k : Nat) (chunk : List Hash) : UtxoMap :=
  utxoMapOf (lookupPrevouts allHashes (txMapOf fetch chunk))
    (lookup k (lookupPrevouts allHashes (txMapOf fetch chunk)))

theorem fetchAndAccept_facts (henv : SoundOn W allHashes fetch lookup) {chunk : List Hash}
    (hsub : ∀ h ∈ chunk, h ∈ allHashes) {st : St} (hinv : MpInv W st) (k : Nat)
    (touched : List HashX) :
    ∃ r, fetchAndAccept st allHashes fetch lookup k chunk touched = .ok r ∧
      CallFacts W st (txMapOf fetch chunk) (chunkUm allHashes fetch lookup k chunk) touched r :=
  acceptTransactions_facts (UmSound_utxoMapOf henv.lookup k _) henv.valid hinv
    (fun e he => (fetched_of_txMapOf henv.fetch hsub e he).1) touched

/-- the merged maps after a chunk task's accept segment returned `r` -/
def Merge.absorb (m : Merge) (r : AcceptResult) : Merge :=
  { st := r.st, txMap := m.txMap ++ r.deferred, um := r.unspent ++ m.um, touched := r.touched }

/-- the merged maps after a round of the fix-point loop returned `r`: the round was given all of them, so
    what it returns replaces them -/
def Merge.ofRound (r : AcceptResult) : Merge :=
  { st := r.st, txMap := r.deferred, um := r.unspent, touched := r.touched }

/-- what the chunk phase and the fix-point loop keep under a sound environment -/
structure SoundInv (W : Hash → Option RawTx) (allHashes : List Hash) (st0 : St) (t0 : List HashX)
    (m : Merge) : Prop where
  grow : Grow W allHashes st0 t0 m.st m.touched
  umSound : UmSound W m.um
  waiting : ∀ e ∈ m.txMap, Fetched W e ∧ e.1 ∈ allHashes

theorem SoundInv.absorb {st0 : St} {t0 : List HashX} {m : Merge} {L : TxMap} {um : UtxoMap}
    {r : AcceptResult} (hs : SoundInv W allHashes st0 t0 m)
    (hL : ∀ e ∈ L, Fetched W e ∧ e.1 ∈ allHashes) (hum : UmSound W um)
    (c : CallFacts W m.st L um m.touched r) :
    SoundInv W allHashes st0 t0 (m.absorb r) where
  grow := hs.grow.step c fun e he => (hL e he).2
  umSound := fun p pr hp =>
    (List.mem_append.mp hp).elim (fun h => hum p pr (c.unspentSub _ h)) (hs.umSound p pr)
  waiting := fun e he => (List.mem_append.mp he).elim (hs.waiting e) fun h => hL e (c.sub.subset h)

theorem SoundInv.round {st0 : St} {t0 : List HashX} {m : Merge} {r : AcceptResult}
    (hs : SoundInv W allHashes st0 t0 m)
    (c : CallFacts W m.st m.txMap m.um m.touched r) : SoundInv W allHashes st0 t0 (.ofRound r) where
  grow := hs.grow.step c fun e he => (hs.waiting e he).2
  umSound := fun p pr hp => hs.umSound p pr (c.unspentSub _ hp)
  waiting := fun e he => hs.waiting e (c.sub.subset he)

/-- The chunk tasks' accept segments in completion order, with a caller's invariant `P rest m`
    (`m` the merged state when the tasks `rest` are still to complete). -/
theorem chunkPhase_ind (henv : SoundOn W allHashes fetch lookup) {chunks : List (List Hash)}
    (hchunk : ∀ k, ∀ h ∈ chunks.getD k [], h ∈ allHashes) {st0 : St} {t0 : List HashX}
    (P : List Nat → Merge → Prop)
    (hstep : ∀ k rest m r, SoundInv W allHashes st0 t0 m → P (k :: rest) m →
      CallFacts W m.st (txMapOf fetch (chunks.getD k []))
      (chunkUm allHashes fetch lookup k (chunks.getD k [])) m.touched r →
      P rest (m.absorb r))
    :
    ∀ (order : List Nat) (m : Merge), SoundInv W allHashes st0 t0 m → P order m →
      ∃ m', chunkPhase allHashes fetch lookup chunks m order = .ok m' ∧
        SoundInv W allHashes st0 t0 m' ∧ P [] m' := by
  intro order
  induction order with
  | nil => exact fun m hs hP => ⟨m, rfl, hs, hP⟩
  | cons k ks ih =>
    intro m hs hP
    obtain ⟨r, h1, c⟩ := fetchAndAccept_facts henv (hchunk k) hs.grow.inv k m.touched
    obtain ⟨m', h2, h3⟩ := ih (m.absorb r)
      (hs.absorb (fetched_of_txMapOf henv.fetch (hchunk k)) (UmSound_utxoMapOf henv.lookup k _) c)
      (hstep k ks m r hs hP c)
    exact ⟨m', by rw [chunkPhase, h1]; exact h2, h3⟩

theorem chunkPhase_sound (henv : SoundOn W allHashes fetch lookup) {chunks : List (List Hash)}
    (hchunk : ∀ k, ∀ h ∈ chunks.getD k [], h ∈ allHashes) {st : St} (hinv : MpInv W st)
    (touched : List HashX) (order : List Nat) :
    ∃ m, chunkPhase allHashes fetch lookup chunks
        { st := st, txMap := [], um := [], touched := touched } order = .ok m ∧
      SoundInv W allHashes st touched m := by
  obtain ⟨m, h1, h2, _⟩ := chunkPhase_ind henv hchunk (fun _ _ => True)
    (fun _ _ _ _ _ _ _ => trivial) order
    { st := st, txMap := [], um := [], touched := touched }
    ⟨Grow.refl hinv, fun _ _ h => (nomatch h), fun _ h => (nomatch h)⟩ trivial
  exact ⟨m, h1, h2⟩

/-- The `while tx_map and len(tx_map) != prior_count` loop with a caller's invariant `P`; `strict`:
    every round makes progress, and then the loop ends with an empty map.  Enough fuel: more than
    the length of the map, or any at all when that length is `prior` (the loop's test then ends it at
    once); a round leaves a shorter map or one of the same length, so this is kept, and the
    `len(tx_map) + 1` with `prior = 0` that `processNew` passes suffices. -/
theorem deferredLoop_ind {st0 : St} {t0 : List HashX} (hval : Valid W) (P : Merge → Prop)
    (strict : Prop)
    (hstep : ∀ m r, SoundInv W allHashes st0 t0 m → P m → m.txMap ≠ [] →
      CallFacts W m.st m.txMap m.um m.touched r →
      (strict → r.deferred.length < m.txMap.length) ∧ P (.ofRound r))
    :
    ∀ (fuel : Nat) (m : Merge) (prior : Nat),
      (m.txMap.length < fuel ∨ (m.txMap.length = prior ∧ 0 < fuel)) →
      (strict → prior = 0 ∨ m.txMap.length < prior) → SoundInv W allHashes st0 t0 m → P m →
      ∃ m', deferredLoop fuel m.st m.txMap m.um prior m.touched = .ok (m'.st, m'.txMap, m'.touched) ∧
        SoundInv W allHashes st0 t0 m' ∧ P m' ∧ (strict → m'.txMap = []) := by
  intro fuel
  induction fuel with
  | zero => exact fun m prior hf => (hf.elim (Nat.not_lt_zero _) fun h => Nat.lt_irrefl 0 h.2).elim
  | succ f ih =>
    intro m prior hf hprior hsound hP
    rw [deferredLoop]
    split
    · rename_i hexit
      refine ⟨m, rfl, hsound, hP, fun hstrict => ?_⟩
      rcases (Bool.or_eq_true _ _).mp hexit with h1 | h1
      · exact List.isEmpty_iff.mp h1
      · -- left by `len(tx_map) == prior_count`: under `strict` the map is shorter than `prior`,
        -- unless `prior = 0`
        have h2 : m.txMap.length = prior := beq_iff_eq.mp h1
        exact (hprior hstrict).elim (fun h3 => List.length_eq_zero_iff.mp (h2.trans h3))
          fun h3 => absurd h2 (Nat.ne_of_lt h3)
    · rename_i hcont
      have hc := Bool.or_eq_false_iff.mp (Bool.not_eq_true _ |>.mp hcont)
      have hne : m.txMap ≠ [] := fun h => Bool.false_ne_true (hc.1.symm.trans (List.isEmpty_iff.mpr h))
      obtain ⟨r, h1, c⟩ := acceptTransactions_facts hsound.umSound hval hsound.grow.inv
        (fun e he => (hsound.waiting e he).1) m.touched
      obtain ⟨h3, h4⟩ := hstep m r hsound hP hne c
      rw [h1]
      -- the fuel lasts: the map shrank, or the next test `len(tx_map) != prior_count` ends the loop
      have hf' : r.deferred.length < f ∨ (r.deferred.length = m.txMap.length ∧ 0 < f) := by
        have hlt : m.txMap.length < f + 1 := hf.resolve_right fun h5 => beq_eq_false_iff_ne.mp hc.2 h5.1
        rcases Nat.lt_or_eq_of_le c.sub.length_le with h6 | h6
        · exact Or.inl (Nat.lt_of_lt_of_le h6 (Nat.le_of_lt_succ hlt))
        · exact Or.inr ⟨h6, Nat.lt_of_lt_of_le (List.length_pos_iff.mpr hne) (Nat.le_of_lt_succ hlt)⟩
      exact ih (.ofRound r) m.txMap.length hf' (fun hstrict => Or.inr (h3 hstrict)) (hsound.round c) h4

theorem processNew_sound (henv : SoundOn W allHashes fetch lookup) (cs : Nat) {st : St}
    (hinv : MpInv W st) (touched : List HashX) (order : List Nat) :
    ∃ r, processNew cs st allHashes touched fetch lookup order = .ok r ∧
      Grow W allHashes st touched r.st r.touched := by
  unfold processNew
  split
  · exact ⟨_, rfl, Grow.refl hinv⟩
  · obtain ⟨m, h1, hm⟩ := chunkPhase_sound henv (chunks := chunksOf cs (newHashes st.txs allHashes))
      (fun k h hh => (mem_newHashes.mp (chunksOf_subset hh)).1) hinv touched order
    -- no progress is claimed for the fix-point loop (`strict := False`)
    obtain ⟨m', h2, hm', _⟩ := deferredLoop_ind henv.valid (fun _ => True) False
      (fun _ _ _ _ _ _ => ⟨False.elim, trivial⟩) (m.txMap.length + 1) m 0
      (Or.inl (Nat.lt_succ_self _)) False.elim hm trivial
    simp only [h1, h2]
    exact ⟨_, rfl, hm'.grow⟩

structure ProcFacts (W : Hash → Option RawTx) (allHashes : List Hash) (st : St)
    (touched : List HashX) (r : ProcResult) : Prop where
  inv : MpInv W r.st
  stays : ∀ e ∈ st.txs, e.1 ∈ allHashes → e ∈ r.st.txs
  listed : ∀ e ∈ r.st.txs, e.1 ∈ allHashes
  touchedMono : ∀ x ∈ touched, x ∈ r.touched
  lost : ∀ e ∈ st.txs, e.1 ∉ r.st.txs.map (·.1) → ∀ x ∈ txHashXs e.2, x ∈ r.touched
  gained : ∀ e ∈ r.st.txs, e.1 ∉ st.txs.map (·.1) → ∀ x ∈ txHashXs e.2, x ∈ r.touched

theorem processMempoolN_sound {W : Hash → Option RawTx} {allHashes : List Hash}
    {fetch : Hash → Option RawTx} {lookup : Nat → List Prevout → List (Option Pair)}
    (henv : SoundOn W allHashes fetch lookup) (cs : Nat) {st : St} (hinv : MpInv W st)
    (touched : List HashX) (h : Int) (order : List Nat) :
    ∃ r, processMempoolN cs st allHashes touched h h fetch lookup order = .ok r ∧
      ProcFacts W allHashes st touched r := by
  obtain ⟨st1, t1, h1, h2, h3, h4⟩ := removal_facts hinv allHashes touched
  replace h3 : ∀ e, e ∈ st1.txs ↔ e ∈ st.txs ∧ e.1 ∈ allHashes :=
    fun e => by rw [h3, afterRemoval, List.mem_filter, List.contains_iff_mem]
  obtain ⟨r, h5, g⟩ := processNew_sound henv cs h2 t1 order
  have hstays : ∀ e ∈ st.txs, e.1 ∈ allHashes → e ∈ r.st.txs :=
    fun e he hl => g.mono e ((h3 e).mpr ⟨he, hl⟩)
  refine ⟨r, by simp only [processMempoolN, ne_eq, not_true_eq_false, if_false, h1]; exact h5, ?_⟩
  exact {
    inv := g.inv
    stays := hstays
    listed := fun e he => (g.fresh e he).elim (fun g1 => ((h3 e).mp g1).2) (·.1)
    touchedMono := fun x hx => g.touchedMono x ((h4 x).mpr (Or.inl hx))
    lost := fun e he hne x hx => g.touchedMono x ((h4 x).mpr (Or.inr
      ⟨e, he, fun hl => hne (List.mem_map.mpr ⟨e, hstays e he hl, rfl⟩), hx⟩))
    gained := fun e he hne x hx => (g.fresh e he).elim
      (fun g1 => absurd (List.mem_map.mpr ⟨e, ((h3 e).mp g1).1, rfl⟩) hne) (·.2 x hx) }

theorem processMempoolN_dbSync (cs : Nat) (st : St) (allHashes : List Hash) (touched : List HashX)
    {mh dbh : Int} (h : mh ≠ dbh) (fetch : Hash → Option RawTx)
    (lookup : Nat → List Prevout → List (Option Pair)) (order : List Nat) :
    processMempoolN cs st allHashes touched mh dbh fetch lookup order = .error .dbSyncError :=
  if_pos h

/-- `continue` (the daemon height moved during the listing) and `DBSyncError` (the index is at
    another height) leave everything as it was -/
theorem refreshRound_skip (cs : Nat) (l : Loop) (r : Round)
    (h : r.cachedHeight ≠ r.height ∨ r.cachedHeight ≠ r.dbHeight) : refreshRound cs l r = .ok l := by
  unfold refreshRound
  split
  · rfl
  · rename_i h1
    rw [processMempoolN_dbSync _ _ _ _ (h.resolve_left h1)]

theorem refreshRound_ok (cs : Nat) (l : Loop) (r : Round) (h1 : r.cachedHeight = r.height)
    {p : ProcResult}
    (hp : processMempoolN cs l.st r.hashes l.touched r.cachedHeight r.dbHeight r.fetch r.lookup
      r.order = .ok p) :
    refreshRound cs l r =
      .ok { st := p.st, touched := [], emits := l.emits ++ [(p.touched, r.cachedHeight)] } := by
  rw [refreshRound, if_neg (not_not_intro h1), hp]

theorem refreshRound_sound (cs : Nat) (l : Loop) (r : Round) (hinv : MpInv W l.st)
    (henv : EnvSound W r.fetch r.lookup) :
    ∃ l', refreshRound cs l r = .ok l' ∧
      (l' = l ∨ ∃ p, ProcFacts W r.hashes l.st l.touched p ∧
        l' = { st := p.st, touched := [], emits := l.emits ++ [(p.touched, r.cachedHeight)] } ∧
        r.cachedHeight = r.height ∧ r.cachedHeight = r.dbHeight) := by
  by_cases h : r.cachedHeight = r.height ∧ r.cachedHeight = r.dbHeight
  · obtain ⟨p, hp, F⟩ := processMempoolN_sound (henv.soundOn r.hashes) cs hinv l.touched
      r.cachedHeight r.order
    exact ⟨_, refreshRound_ok cs l r h.1 (by rw [← h.2]; exact hp), Or.inr ⟨p, F, rfl, h.1, h.2⟩⟩
  · exact ⟨l, refreshRound_skip cs l r (Classical.not_and_iff_not_or_not.mp h), Or.inl rfl⟩

end EV.Mempool
