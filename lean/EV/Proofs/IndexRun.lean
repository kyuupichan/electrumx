import EV.Proofs.IndexFiles
import EV.Proofs.IndexUndo
import EV.Proofs.IndexObs
import EV.Proofs.IndexHistInv

/-!
The refinement invariant of the index and its steps: `advance_block` of a valid next block and every
flush (history-only or full) keep the concrete system (`EV/Model/Index.lean`) in the invariant
`FullInv` that ties every component to the specification of the chain so far (`specChain`): the
UTXO representation (`RepSys`), the history (`HistInv`), the tx-number files and in-memory tables
(`FilesInv`, `IndexFiles.lean`), tip and counters.  On a fully flushed state the read path (`all_utxos`,
`limited_history`, counts) answers exactly what the specification says.  Each operation is argued on
the form that names its result (`advResult` with `advance_ok_iff`; `flushHistStep`, `flushUtxoStep`
with `flush_ok_cases`).  The run theorem over operation lists is `trackInv_run` (`IndexRunReorg.lean`),
of which runs of `IOp`s are instances.
-/
namespace EV.Index
open EV.Spec

theorem RepSysW.del_nil {s : Sys} {U D Del : List Utxo} (w : RepSysW s U D Del)
    (hd : s.m.deletes = []) : Del = [] :=
  List.eq_nil_iff_forall_not_mem.mpr fun u hu => by
    have := (w.dels (.h (hkey u))).mpr ⟨u, hu, Or.inl rfl⟩
    rw [hd] at this
    exact absurd this List.not_mem_nil

theorem RepSys.flushed {s : Sys} {U : List Utxo} (h : RepSys s U) (hc : s.m.cache = [])
    (hd : s.m.deletes = []) : RepSysW s U U [] := by
  obtain ⟨D, Del, w⟩ := h
  obtain rfl := w.del_nil hd
  exact repSysW_of_rows (w.rowsOf_flushed hc) w.hKeys hc hd

def SameBut (s s' : Sys) : Prop :=
  ∃ c d, s' = { s with m := { s.m with cache := c, deletes := d } }

theorem advanceTxs_same (cfg : Cfg) (height : Nat) (txs : List Tx) (a : Acc Sys) {a' : Acc Sys}
    (h : advanceTxs sysOps cfg height txs a = .ok a') : SameBut a.s a'.s :=
  advanceTxs_setCD cfg height txs a h

structure FullInv (cfg : Cfg) (chain : List Block) (s : Sys) : Prop where
  /-- cache + rows + queued deletes represent the spec's UTXO set -/
  rep : RepSys s (specChain cfg.act chain).utxos
  /-- history rows + unflushed tail are the spec's histories -/
  hist : HistInv (specChain cfg.act chain) s.p s.m.unflushed s.m.histFlush
  files : FilesInv chain s
  tip : s.m.st.tip = (chain.getLast?.map (·.hash)).getD 0
  /-- `DB.state.tip` is the tip at the last UTXO flush -/
  dbTip : s.m.dbst.tip =
    ((chain.take (s.m.dbst.height + 1).toNat).getLast?.map (·.hash)).getD 0
  utxoCount : s.m.st.utxoCount = ((specChain cfg.act chain).utxos.length : Int)
  /-- nothing is pending for the UTXO DB when it is at the tip (`assert_flushed`) -/
  flushedU : s.m.dbst.height = s.m.st.height →
    s.m.cache = [] ∧ s.m.deletes = [] ∧ s.m.undoU = []
  /-- no unflushed history when the files are at the tip -/
  flushedH : s.m.fsHeight = s.m.st.height → s.m.unflushed = []
  /-- the persisted UTXO state record is `DB.state` (absent before the first UTXO flush) -/
  ustate : (s.p.ustate = none ∧ s.m.dbst = {}) ∨ s.p.ustate = some s.m.dbst

theorem FullInv.ustate_getD {cfg : Cfg} {chain : List Block} {s : Sys} (inv : FullInv cfg chain s) :
    s.p.ustate.getD {} = s.m.dbst := by
  rcases inv.ustate with ⟨h1, h2⟩ | h1
  · rw [h1, h2]; rfl
  · rw [h1]; rfl

theorem repSys_init : RepSys {} [] :=
  ⟨[], [], repSysW_of_rows ⟨List.nodup_nil, by simp, by simp, List.nodup_nil, nofun⟩ List.nodup_nil rfl rfl⟩

theorem fullInv_init (cfg : Cfg) : FullInv cfg [] {} where
  rep := repSys_init
  hist := histInv_init
  files := filesInv_init
  tip := rfl
  dbTip := rfl
  utxoCount := rfl
  flushedU := fun _ => ⟨rfl, rfl, rfl⟩
  flushedH := fun _ => rfl
  ustate := Or.inl ⟨rfl, rfl⟩

/-- no clause of the invariant reads `touched` or `first_sync`: each holds as it stands -/
theorem fullInv_touched_firstSync {cfg : Cfg} {chain : List Block} {s : Sys}
    (inv : FullInv cfg chain s) (T : List HashX) (fs : Bool) :
    FullInv cfg chain
      { s with m := { s.m with touched := T, st := { s.m.st with firstSync := fs } } } :=
  { inv with
    rep := let ⟨D, Del, w⟩ := inv.rep; ⟨D, Del, { w with }⟩
    files := { inv.files with } }

/-- a valid next block: links to the tip and its transactions are valid on the spec state -/
def ValidNext (cfg : Cfg) (chain : List Block) (b : Block) : Prop :=
  b.prev = (chain.getLast?.map (·.hash)).getD 0 ∧
  ValidTxs cfg.act chain.length (specChain cfg.act chain) b.txs

/-- Besides the invariant, what `FullInv'` needs of the step (`fullInv'_advance`): the queued undo
list is the specification's `blockUndo`, and the chain size. -/
theorem advance_of_inv {cfg : Cfg} {daemonH : Int} {chain : List Block} {s : Sys} {b : Block}
    (inv : FullInv cfg chain s) (hv : ValidNext cfg chain b) :
    ∃ a s', advance cfg daemonH s b = .ok s' ∧ AdvanceOut s b a s' ∧
      FullInv cfg (chain ++ [b]) s' ∧
      s'.m.undoU = (if undoKept cfg daemonH chain.length then
        s.m.undoU ++ [(blockUndo cfg.act chain.length (specChain cfg.act chain) b.txs, chain.length)]
        else s.m.undoU) ∧
      s'.m.st.chainSize = s.m.st.chainSize + b.size := by
  have f := inv.files
  have hn : s.m.st.txCount = (specChain cfg.act chain).txs.length := by
    rw [f.stTx, specChain_txs_length]
  obtain ⟨a, ha, hrep', htxnum, hhx, hth, hundo, hdelta, -⟩ :=
    advanceTxs_spec sysIface cfg chain.length b.txs (specChain cfg.act chain)
      { s := s, txNum := s.m.st.txCount } inv.rep hn hv.2
  rw [← f.stK] at ha
  obtain ⟨c, d, hs⟩ := advanceTxs_same _ _ _ _ ha
  simp only at hs
  have o := advanceOut_result cfg daemonH s b a
  have hU : (advResult cfg daemonH s b a).m.undoU =
      if undoKept cfg daemonH (s.m.st.height + 1).toNat
      then s.m.undoU ++ [(a.undo, (s.m.st.height + 1).toNat)] else s.m.undoU := rfl
  rw [f.stK, hundo] at hU
  refine ⟨a, _, advance_ok_iff.mpr ⟨hv.1.trans inv.tip.symm, a, ha, rfl⟩, o, ?_, hU, rfl⟩
  generalize advResult cfg daemonH s b a = s' at o ⊢
  have hspec := specChain_snoc_foldl cfg.act chain b
  have htx : a.txNum = s.m.st.txCount + b.txs.length := by rw [htxnum, hn]
  -- the UTXO DB and the files are below the new tip: nothing to show about a flushed state
  have hst : s.m.st.height < (chain.length : Int) := by rw [f.height]; omega
  have hfs := Int.lt_of_le_of_lt f.order.2.2 hst
  have hdb := Int.lt_of_le_of_lt f.order.2.1 hfs
  have hbelow : s'.m.dbst.height < s'.m.st.height ∧ s'.m.fsHeight < s'.m.st.height := by
    rw [o.dbst, o.fsHeight, o.height, f.stK]
    exact ⟨hdb, hfs⟩
  exact {
    rep := by
      rw [hspec]
      obtain ⟨D, Del, w⟩ := hrep'
      refine ⟨D, Del, repSysW_congr w (by rw [o.p, hs]) (by rw [o.p, hs]) o.cache o.deletes
        fun u hu => ?_⟩
      -- the committed blocks are those of `s`, of which the loop changed cache and queue only
      rw [resolve_congr f (filesInv_advance f o htx hth)
        (by rw [o.dbst, List.take_append_of_le_length f.dbK])]
      have h := w.res u hu
      rwa [hs] at h
    hist := by
      rw [hspec, o.p, o.unflushed, o.histFlush, hhx, hn]
      exact histInv_advance inv.hist (specOK_chain cfg.act chain).len cfg.act chain.length b.txs
    files := filesInv_advance f o htx hth
    tip := by rw [o.tip, List.getLast?_concat]; rfl
    dbTip := by rw [o.dbst, List.take_append_of_le_length f.dbK]; exact inv.dbTip
    utxoCount := by
      rw [o.utxoCount, hspec, utxos_length_foldl, hdelta, inv.utxoCount]
      exact congrArg _ (Int.zero_add _)
    flushedU := fun h => absurd h (Int.ne_of_lt hbelow.1)
    flushedH := fun h => absurd h (Int.ne_of_lt hbelow.2)
    ustate := by rw [o.p, o.dbst]; exact inv.ustate }

theorem fullInv_advance {cfg : Cfg} {daemonH : Int} {chain : List Block} {s : Sys} {b : Block}
    (inv : FullInv cfg chain s) (hv : ValidNext cfg chain b) :
    ∃ s', advance cfg daemonH s b = .ok s' ∧ FullInv cfg (chain ++ [b]) s' := by
  obtain ⟨-, s', h, -, inv', -⟩ := advance_of_inv inv hv
  exact ⟨s', h, inv'⟩

theorem fullInv_histStep {cfg : Cfg} {chain : List Block} {s : Sys} (inv : FullInv cfg chain s)
    (hne : s.m.st.height ≠ s.m.dbst.height) : FullInv cfg chain (flushHistStep s) where
  rep := by
    obtain ⟨D, Del, w⟩ := inv.rep
    exact ⟨D, Del, repSysW_congr w (by rw [flushHistStep_p]) (by rw [flushHistStep_p]) rfl rfl
      (fun u hu => (resolve_congr inv.files (filesInv_histStep inv.files) rfl _).trans (w.res u hu))⟩
  hist := histInv_congr (histInv_flush s inv.hist) (by rw [flushHistStep_p])
  files := filesInv_histStep inv.files
  tip := inv.tip
  dbTip := inv.dbTip
  utxoCount := inv.utxoCount
  flushedU := fun h => absurd (show s.m.dbst.height = s.m.st.height from h).symm hne
  flushedH := fun _ => rfl
  ustate := by rw [flushHistStep_p]; exact inv.ustate

theorem fullInv_utxoStep {cfg : Cfg} {chain : List Block} {s : Sys} (inv : FullInv cfg chain s)
    (hfs : s.m.fsHeight = s.m.st.height) : FullInv cfg chain (flushUtxoStep s) := by
  have f' := filesInv_utxoStep inv.files hfs
  exact {
    rep := by
      obtain ⟨D, Del, w⟩ := inv.rep
      exact ⟨_, [], flushUtxo_rep w (txnumFun_of_specOK (specOK_chain cfg.act chain)) s.m.st
        ⟨by rw [flushUtxoStep_p], by rw [flushUtxoStep_p]⟩ rfl rfl (resolve_spec_utxo f' rfl)⟩
    hist := histInv_congr inv.hist (flushUtxoStep_hist s)
    files := f'
    tip := inv.tip
    dbTip := by
      show s.m.st.tip = ((chain.take (s.m.st.height + 1).toNat).getLast?.map (·.hash)).getD 0
      rw [inv.files.stK, List.take_length]; exact inv.tip
    utxoCount := inv.utxoCount
    flushedU := fun _ => ⟨rfl, rfl, rfl⟩
    flushedH := inv.flushedH
    ustate := Or.inr (by rw [flushUtxoStep_p]; rfl) }

/-- Nothing pending in memory or in the files' tails.  Under `FullInv` the fourth equation gives the other four
    (`flushed_of_db`). -/
def Flushed (s : Sys) : Prop :=
  s.m.cache = [] ∧ s.m.deletes = [] ∧ s.m.unflushed = [] ∧
  s.m.dbst.height = s.m.st.height ∧ s.m.fsHeight = s.m.st.height

theorem flushed_of_db {cfg : Cfg} {chain : List Block} {s : Sys} (inv : FullInv cfg chain s)
    (h : s.m.dbst.height = s.m.st.height) : Flushed s := by
  have hfs : s.m.fsHeight = s.m.st.height :=
    Int.le_antisymm inv.files.order.2.2 (h ▸ inv.files.order.2.1)
  obtain ⟨c1, c2, -⟩ := inv.flushedU h
  exact ⟨c1, c2, inv.flushedH hfs, h, hfs⟩

theorem assertFlushed_of_inv {cfg : Cfg} {chain : List Block} {s : Sys} (inv : FullInv cfg chain s)
    (heq : s.m.st.height = s.m.dbst.height) : assertFlushed s = true := by
  have f := inv.files
  obtain ⟨c1, c2, c4, -, hfs⟩ := flushed_of_db inv heq.symm
  obtain ⟨-, -, c3⟩ := inv.flushedU heq.symm
  obtain ⟨hall, e1, e5, e4⟩ := f.at_tip hfs
  have e2 : s.m.fsTxCount = s.m.dbst.txCount := by
    rw [f.fsTx, f.dbTx, ← heq, ← hfs]
  have e3 : s.m.st.tip = s.m.dbst.tip := by
    rw [inv.tip, inv.dbTip, ← heq, ← hfs, hall, List.take_length]
  simp only [assertFlushed, Bool.and_eq_true, beq_iff_eq, List.isEmpty_iff]
  exact ⟨⟨⟨⟨⟨⟨⟨⟨⟨⟨e1.symm, e2⟩, hfs.symm⟩, hfs.trans heq⟩, e3⟩, e4⟩, e5⟩, c1⟩, c2⟩, c3⟩, c4⟩

theorem fullInv_flush {cfg : Cfg} {chain : List Block} {s : Sys} (inv : FullInv cfg chain s)
    (fu : Bool) : ∃ s', flush s fu = .ok s' ∧ FullInv cfg chain s' := by
  by_cases heq : s.m.st.height = s.m.dbst.height
  · exact ⟨s, flush_noop heq (assertFlushed_of_inv inv heq) fu, inv⟩
  · have ha := flushFsAsserts_of_files inv.files
    cases fu with
    | false => exact ⟨_, flush_hist heq ha, fullInv_histStep inv heq⟩
    | true => exact ⟨_, flush_full heq ha, fullInv_utxoStep (fullInv_histStep inv heq) rfl⟩

theorem flush_full_flushed {cfg : Cfg} {chain : List Block} {s s' : Sys}
    (inv : FullInv cfg chain s) (h : flush s true = .ok s') : Flushed s' := by
  obtain ⟨heq, -, rfl⟩ | ⟨-, -, rfl⟩ := flush_ok_cases h
  · exact flushed_of_db inv heq.symm
  · exact ⟨rfl, rfl, rfl, rfl, rfl⟩

inductive IOp where
  | adv (b : Block) (daemonH : Int)
  | flush (utxos : Bool)

def runOps (cfg : Cfg) : Sys → List IOp → Except Err Sys
  | s, [] => .ok s
  | s, .adv b d :: r =>
    match advance cfg d s b with
    | .error e => .error e
    | .ok s' => runOps cfg s' r
  | s, .flush fu :: r =>
    match flush s fu with
    | .error e => .error e
    | .ok s' => runOps cfg s' r

def chainOf : List IOp → List Block
  | [] => []
  | .adv b _ :: r => b :: chainOf r
  | .flush _ :: r => chainOf r

def ValidOps (cfg : Cfg) : List Block → List IOp → Prop
  | _, [] => True
  | chain, .adv b _ :: r => ValidNext cfg chain b ∧ ValidOps cfg (chain ++ [b]) r
  | chain, .flush _ :: r => ValidOps cfg chain r

/-- `fs_tx_hash` of a spec tx number on a flushed index: the spec's table entry -/
theorem fsTxHash_flushed {cfg : Cfg} {chain : List Block} {s : Sys} (inv : FullInv cfg chain s)
    (hdb : s.m.dbst.height = s.m.st.height) {n : Nat}
    (hn : n < (specChain cfg.act chain).txs.length) :
    fsTxHash s n = (some ((specChain cfg.act chain).txs.getD n (0, 0)).1,
                    ((specChain cfg.act chain).txs.getD n (0, 0)).2) := by
  have f := inv.files
  rw [specChain_txs_length] at hn
  rw [fsTxHash_of_files f (by rw [hdb, f.stK, List.take_length]; exact hn),
    List.getD_eq_getElem?_getD (l := (specChain cfg.act chain).txs), spec_txs_get cfg.act chain n hn]
  rfl

theorem rowsOf_flushed {cfg : Cfg} {chain : List Block} {s : Sys} (inv : FullInv cfg chain s)
    (hf : Flushed s) : RowsOf s (specChain cfg.act chain).utxos :=
  (inv.rep.flushed hf.1 hf.2.1).rowsOf

/-- **C01 + C02 on a flushed index, for any flush schedule.**  In an invariant state with nothing
pending, `all_utxos` returns (up to order) exactly the spec's UTXOs of the script hash with their
spec heights, `limited_history` (any limit) returns exactly the spec's history pairs — no retry
outcome arises — and the counters are the spec's. -/
theorem C01_observables {cfg : Cfg} {chain : List Block} {s : Sys} (inv : FullInv cfg chain s)
    (hf : Flushed s) :
    (∀ hx, ∃ rows, allUtxos s hx = some rows ∧
        rows.Perm (((specChain cfg.act chain).utxos.filter (·.hx == hx)).map
          (fun u => ⟨u.txnum, u.idx, u.txid, u.height, u.value⟩))) ∧
    (∀ hx limit, limitedHistory s hx limit =
        some (historyPairs (specChain cfg.act chain) hx limit)) ∧
    s.m.st.utxoCount = ((specChain cfg.act chain).utxos.length : Int) ∧
    s.m.st.txCount = (specChain cfg.act chain).txs.length := by
  have f := inv.files
  have hok := specOK_chain cfg.act chain
  refine ⟨?_, ?_, inv.utxoCount, by rw [f.stTx, specChain_txs_length]⟩
  · intro hx
    obtain ⟨rows, h1, h2⟩ := allUtxos_rows (rowsOf_flushed inv hf) hx
    refine ⟨rows, h1, ?_⟩
    have hmap : ((specChain cfg.act chain).utxos.filter (fun u => u.hx == hx)).map
          (fun u => (⟨u.txnum, u.idx, u.txid, (fsTxHash s u.txnum).2, u.value⟩ : UtxoRow)) =
        ((specChain cfg.act chain).utxos.filter (fun u => u.hx == hx)).map
          (fun u => (⟨u.txnum, u.idx, u.txid, u.height, u.value⟩ : UtxoRow)) := by
      apply List.map_congr_left
      intro u hu'
      rw [fsTxHash_eq, f.txCounts, ← (spec_txid cfg.act chain (List.mem_filter.mp hu').1).2.2]
    rw [hmap] at h2
    exact h2
  · intro hx limit
    have hinv : HistInv (specChain cfg.act chain) s.p [] s.m.histFlush := by
      have := inv.hist; rwa [hf.2.2.1] at this
    have hnums := getTxnums_flushed hinv hx limit
    have key : ∀ n ∈ historyOf (specChain cfg.act chain) hx,
        (match fsTxHash s n with
         | (some h, ht) => some (h, ht)
         | (none, _) => none) = some ((specChain cfg.act chain).txs.getD n (0, 0)) := by
      intro n hn
      have hlt : n < (specChain cfg.act chain).txs.length := by
        rw [← hok.len]; exact historyOf_lt _ hx n hn
      rw [fsTxHash_flushed inv hf.2.2.2.1 hlt]
    unfold limitedHistory
    rw [hnums]
    cases limit with
    | none =>
      simp only [historyPairs]
      exact mapM_option_eq_some _ (fun n => (specChain cfg.act chain).txs.getD n (0, 0)) _ key
    | some k =>
      simp only [historyPairs]
      exact mapM_option_eq_some _ (fun n => (specChain cfg.act chain).txs.getD n (0, 0)) _
        (fun n hn => key n (List.mem_of_mem_take hn))

end EV.Index
