import EV.Model.Notif

/-! The `Notifications` model state by state: what `_maybe_notify` picks, removes and emits, and what
each operation puts in front of it. -/
namespace EV.Notif

theorem maxKey_eq_max? (l : List Int) : maxKey l = l.max? := by
  induction l with
  | nil => rfl
  | cons k ks ih =>
    rw [maxKey, ih, List.max?_cons]
    cases ks.max? with
    | none => rfl
    | some m => exact congrArg some ((Int.max_def m k).symm.trans (Int.max_comm m k))

theorem maxKey_none {l : List Int} : maxKey l = none ↔ l = [] :=
  maxKey_eq_max? l ▸ List.max?_eq_none_iff

theorem maxKey_eq_some {l : List Int} {m : Int} :
    maxKey l = some m ↔ m ∈ l ∧ ∀ k ∈ l, k ≤ m :=
  maxKey_eq_max? l ▸ List.max?_eq_some_iff

theorem mem_keys {d : Dict} {k : Int} : k ∈ keys d ↔ ∃ e ∈ d, e.1 = k := List.mem_map

theorem mem_dropKeys {p : Int → Bool} {d : Dict} {e : Int × List HX} :
    e ∈ dropKeys p d ↔ e ∈ d ∧ p e.1 = false := by
  simp [dropKeys, List.mem_filter]

theorem mem_keys_dropKeys {p : Int → Bool} {d : Dict} {k : Int} :
    k ∈ keys (dropKeys p d) ↔ k ∈ keys d ∧ p k = false := by
  simp only [mem_keys, mem_dropKeys]
  constructor
  · rintro ⟨e, ⟨he, hp⟩, rfl⟩; exact ⟨⟨e, he, rfl⟩, hp⟩
  · rintro ⟨⟨e, he, rfl⟩, hp⟩; exact ⟨e, ⟨he, hp⟩, rfl⟩

theorem dropKeys_eq_nil {p : Int → Bool} {d : Dict} (h : ∀ k ∈ keys d, p k = true) :
    dropKeys p d = [] :=
  List.filter_eq_nil_iff.mpr fun e he => by simp [h e.1 (mem_keys.mpr ⟨e, he, rfl⟩)]

/-- The "merge and pop" both `on_mempool` and `on_block` do at their height `h`: the new entry at `h`
replaces every entry at `h` or above. -/
theorem mem_keys_cons_dropKeys_le (h : Int) (v : List HX) (d : Dict) (k : Int) :
    k ∈ keys ((h, v) :: dropKeys (fun k => h ≤ k) d) ↔ k = h ∨ (k ∈ keys d ∧ k < h) := by
  show k ∈ h :: keys (dropKeys _ d) ↔ _
  rw [List.mem_cons, mem_keys_dropKeys, decide_eq_false_iff_not, Int.not_le]

theorem le_of_mem_keys_cons_dropKeys_le {h k : Int} {v : List HX} {d : Dict}
    (hk : k ∈ keys ((h, v) :: dropKeys (fun k => h ≤ k) d)) : k ≤ h :=
  ((mem_keys_cons_dropKeys_le h v d k).mp hk).elim Int.le_of_eq fun h1 => Int.le_of_lt h1.2

theorem mem_collect {p : Int → Bool} {d : Dict} {x : HX} :
    x ∈ collect p d ↔ ∃ e ∈ d, p e.1 = true ∧ x ∈ e.2 := by
  simp only [collect, List.mem_flatMap, List.mem_filter]
  constructor
  · rintro ⟨e, ⟨he, hp⟩, hx⟩; exact ⟨e, he, hp, hx⟩
  · rintro ⟨e, he, hp, hx⟩; exact ⟨e, ⟨he, hp⟩, hx⟩

/-- Whatever the predicate, an entry is either collected or survives the drop: the reason no
operation loses a script hash. -/
theorem mem_flatMap_split (p : Int → Bool) (d : Dict) (x : HX) :
    x ∈ d.flatMap (·.2) ↔ x ∈ collect p d ∨ x ∈ (dropKeys p d).flatMap (·.2) := by
  rw [← List.mem_append, collect, dropKeys, ← List.flatMap_append]
  exact ((List.filter_append_perm (fun e => p e.1) d).flatMap_right _).mem_iff.symm

theorem mem_emitted_some {e : Emit} {x : HX} : x ∈ emitted (some e).toList ↔ x ∈ e.2 := by
  simp [emitted]

/-- the heights pending in both dicts, as `_maybe_notify` lists them -/
def common (s : St) : List Int := (keys s.mp).filter (fun k => (keys s.bp).contains k)

theorem mem_common {s : St} {k : Int} : k ∈ common s ↔ k ∈ keys s.mp ∧ k ∈ keys s.bp := by
  simp [common, List.mem_filter]

theorem common_eq_nil {s : St} : common s = [] ↔ ∀ k ∈ keys s.mp, k ∉ keys s.bp := by
  simp only [List.eq_nil_iff_forall_not_mem, mem_common, not_and]

theorem pickHeight_eq (s : St) :
    pickHeight s = match maxKey (common s) with
      | some h => some h
      | none => match maxKey (keys s.mp) with
        | some m => if m = s.highest then some s.highest else none
        | none => none := rfl

theorem pickHeight_eq_some {s : St} {h : Int} :
    pickHeight s = some h ↔ h ∈ keys s.mp ∧
      ((h ∈ keys s.bp ∧ ∀ k ∈ keys s.mp, k ∈ keys s.bp → k ≤ h) ∨
       ((∀ k ∈ keys s.mp, k ∉ keys s.bp) ∧ h = s.highest ∧ ∀ k ∈ keys s.mp, k ≤ h)) := by
  rw [pickHeight_eq]
  cases hc : maxKey (common s) with
  | some c =>
    obtain ⟨hc1, hc2⟩ := maxKey_eq_some.mp hc
    obtain ⟨hcm, hcb⟩ := mem_common.mp hc1
    show some c = some h ↔ _
    constructor
    · intro e
      cases e
      exact ⟨hcm, Or.inl ⟨hcb, fun k h1 h2 => hc2 k (mem_common.mpr ⟨h1, h2⟩)⟩⟩
    · rintro ⟨hm, ⟨hb, hle⟩ | ⟨hd, _⟩⟩
      · exact congrArg some (Int.le_antisymm (hle c hcm hcb) (hc2 h (mem_common.mpr ⟨hm, hb⟩)))
      · exact absurd hcb (hd c hcm)
  | none =>
    have hd := common_eq_nil.mp (maxKey_none.mp hc)
    cases hm : maxKey (keys s.mp) with
    | none =>
      refine ⟨fun e => (nomatch e), fun ⟨h1, _⟩ => ?_⟩
      rw [maxKey_none.mp hm] at h1
      nomatch h1
    | some m =>
      obtain ⟨hm1, hm2⟩ := maxKey_eq_some.mp hm
      show (if m = s.highest then some s.highest else none) = some h ↔ _
      constructor
      · intro e
        split at e
        · next heq => subst heq; cases e; exact ⟨hm1, Or.inr ⟨hd, rfl, hm2⟩⟩
        · nomatch e
      · rintro ⟨h1, ⟨hb, _⟩ | ⟨_, rfl, hle⟩⟩
        · exact absurd hb (hd h h1)
        · exact if_pos (Int.le_antisymm (hle m hm1) (hm2 _ h1))

theorem pickHeight_none {s : St} (hp : pickHeight s = none) : ∀ k ∈ keys s.mp, k ∉ keys s.bp := by
  rw [pickHeight_eq] at hp
  cases hc : maxKey (common s) with
  | some c => rw [hc] at hp; nomatch hp
  | none => exact common_eq_nil.mp (maxKey_none.mp hc)

theorem maybeNotify_highest (s : St) : (maybeNotify s).1.highest = s.highest := by
  unfold maybeNotify; split <;> rfl

theorem maybeNotify_keys (s : St) (k : Int) :
    (k ∈ keys (maybeNotify s).1.mp → k ∈ keys s.mp) ∧
      (k ∈ keys (maybeNotify s).1.bp → k ∈ keys s.bp) := by
  unfold maybeNotify; split
  · exact ⟨id, id⟩
  · dsimp only
    exact ⟨fun hk => (mem_keys_dropKeys.mp hk).1, fun hk => (mem_keys_dropKeys.mp hk).1⟩

theorem maybeNotify_disjoint (s : St) :
    ∀ k ∈ keys (maybeNotify s).1.mp, k ∉ keys (maybeNotify s).1.bp := by
  unfold maybeNotify; split
  · next hp => exact pickHeight_none hp
  · next h hp =>
    intro k h1 h2
    dsimp only at h1 h2
    obtain ⟨h1, hgt⟩ := mem_keys_dropKeys.mp h1
    obtain ⟨h2, _⟩ := mem_keys_dropKeys.mp h2
    rcases (pickHeight_eq_some.mp hp).2 with ⟨_, hle⟩ | ⟨hd, _⟩
    · exact of_decide_eq_false hgt (hle k h1 h2)
    · exact hd k h1 h2

theorem maybeNotify_pending (s : St) (x : HX) :
    x ∈ pending (maybeNotify s).1 ∨ x ∈ emitted (maybeNotify s).2.toList ↔ x ∈ pending s := by
  unfold maybeNotify; split
  · exact or_iff_left List.not_mem_nil
  · next h hp =>
    simp only [pending, List.mem_append, mem_emitted_some]
    rw [mem_flatMap_split (fun k => decide (k ≤ h)) s.mp x,
      mem_flatMap_split (fun k => decide (k ≤ h)) s.bp x]
    exact or_or_or_comm.trans (or_congr or_comm or_comm)

theorem maybeNotify_emit {s : St} {e : Emit} (he : (maybeNotify s).2 = some e) :
    pickHeight s = some e.1 := by
  unfold maybeNotify at he
  split at he
  · nomatch he
  · next h hp => cases he; exact hp

theorem maybeNotify_drains {p : St} {H : Int} (hpick : pickHeight p = some H)
    (hmp : ∀ k ∈ keys p.mp, k ≤ H) (hbp : ∀ k ∈ keys p.bp, k ≤ H) :
    pending (maybeNotify p).1 = [] := by
  unfold maybeNotify
  rw [hpick]
  simp only [pending]
  rw [dropKeys_eq_nil fun k hk => decide_eq_true (hmp k hk),
    dropKeys_eq_nil fun k hk => decide_eq_true (hbp k hk)]
  rfl

/-- The state an operation builds before it calls `_maybe_notify`: `on_mempool` and `on_block` merge
the entries at their height or above into one new entry; `start`, which does not call it, only sets
`_highest_block`.  It repeats the record literals of `onMempool` and `onBlock` (`onMempool_eq`,
`onBlock_eq`). -/
def prep (s : St) : Op → St
  | .start h => { s with highest := h }
  | .mempool t h =>
    { s with mp := (h, t ++ collect (fun k => h ≤ k) s.mp) :: dropKeys (fun k => h ≤ k) s.mp }
  | .block t h =>
    { mp := dropKeys (fun k => h < k) s.mp,
      bp := (h, t ++ collect (fun k => h < k) s.mp ++ collect (fun k => h ≤ k) s.bp)
              :: dropKeys (fun k => h ≤ k) s.bp,
      highest := h }

theorem onMempool_eq (s : St) (t : List HX) (h : Int) :
    onMempool s t h = maybeNotify (prep s (.mempool t h)) := rfl

theorem onBlock_eq (s : St) (t : List HX) (h : Int) :
    onBlock s t h = maybeNotify (prep s (.block t h)) := rfl

theorem step_cases (s : St) (op : Op) :
    (∃ h, op = .start h ∧ step s op = (prep s op, some (h, []))) ∨
    step s op = maybeNotify (prep s op) := by
  cases op
  · exact Or.inl ⟨_, rfl, rfl⟩
  · exact Or.inr (onMempool_eq s _ _)
  · exact Or.inr (onBlock_eq s _ _)

theorem step_emit {s : St} {op : Op} {e : Emit} (he : (step s op).2 = some e) :
    (op = .start e.1 ∧ e.2 = []) ∨ (maybeNotify (prep s op)).2 = some e := by
  rcases step_cases s op with ⟨h, rfl, eq⟩ | eq <;> rw [eq] at he
  · cases he; exact Or.inl ⟨rfl, rfl⟩
  · exact Or.inr he

theorem mem_pending_prep {s : St} {op : Op} {x : HX} :
    x ∈ pending (prep s op) ↔ x ∈ handed [op] ∨ x ∈ pending s := by
  cases op with
  | start h => exact ⟨Or.inr, fun h => h.resolve_left List.not_mem_nil⟩
  | mempool t h =>
    simp only [pending, prep, handed, List.flatMap_cons, List.mem_append, List.append_nil, or_assoc]
    rw [mem_flatMap_split (fun k => decide (h ≤ k)) s.mp x, or_assoc]
  | block t h =>
    simp only [pending, prep, handed, List.flatMap_cons, List.mem_append, List.append_nil, or_assoc]
    rw [mem_flatMap_split (fun k => decide (h < k)) s.mp x,
      mem_flatMap_split (fun k => decide (h ≤ k)) s.bp x, or_assoc]
    -- what `on_block` takes out of `_touched_mp` stands first on the left, third on the right
    exact or_left_comm.trans (or_congr_right or_left_comm)

theorem keys_prep_block_mp (s : St) (t : List HX) (h k : Int) :
    k ∈ keys (prep s (.block t h)).mp ↔ k ∈ keys s.mp ∧ k ≤ h := by
  simp only [prep, mem_keys_dropKeys, decide_eq_false_iff_not, Int.not_lt]

theorem run_nil (s : St) : run s [] = (s, []) := rfl

theorem run_cons (s : St) (op : Op) (ops : List Op) :
    run s (op :: ops) =
      ((run (step s op).1 ops).1, (step s op).2.toList ++ (run (step s op).1 ops).2) := rfl

theorem run_append (s : St) (a b : List Op) :
    run s (a ++ b) = ((run (run s a).1 b).1, (run s a).2 ++ (run (run s a).1 b).2) := by
  induction a generalizing s with
  | nil => rfl
  | cons op a ih => simp only [List.cons_append, run_cons, ih, List.append_assoc]

theorem run_snoc (s : St) (a : List Op) (op : Op) :
    run s (a ++ [op]) =
      ((step (run s a).1 op).1, (run s a).2 ++ (step (run s a).1 op).2.toList) := by
  simp only [run_append, run_cons, run_nil, List.append_nil]

theorem handed_append (a b : List Op) : handed (a ++ b) = handed a ++ handed b := by
  induction a with
  | nil => rfl
  | cons op a ih => cases op <;> simp only [List.cons_append, handed, ih, List.append_assoc]

theorem emitted_append (a b : List Emit) : emitted (a ++ b) = emitted a ++ emitted b :=
  List.flatMap_append

theorem step_pending (s : St) (op : Op) (x : HX) :
    x ∈ pending (step s op).1 ∨ x ∈ emitted (step s op).2.toList ↔
      x ∈ pending s ∨ x ∈ handed [op] := by
  rw [or_comm (a := x ∈ pending s), ← mem_pending_prep]
  rcases step_cases s op with ⟨h, _, e⟩ | e <;> rw [e]
  · exact or_iff_left List.not_mem_nil
  · exact maybeNotify_pending _ x

theorem run_pending (s : St) (ops : List Op) (x : HX) :
    x ∈ pending (run s ops).1 ∨ x ∈ emitted (run s ops).2 ↔ x ∈ pending s ∨ x ∈ handed ops := by
  induction ops generalizing s with
  | nil => exact Iff.rfl
  | cons op ops ih =>
    rw [run_cons, emitted_append, List.mem_append, or_left_comm, ih, ← or_assoc,
      or_comm (a := x ∈ emitted _), step_pending, or_assoc,
      show handed (op :: ops) = handed [op] ++ handed ops from handed_append [op] ops,
      List.mem_append]

theorem onMempool_drains {s : St} (hd : ∀ k ∈ keys s.mp, k ∉ keys s.bp)
    (hle : ∀ k ∈ keys s.bp, k ≤ s.highest) (t : List HX) :
    pending (onMempool s t s.highest).1 = [] := by
  have hmp : ∀ k ∈ keys (prep s (.mempool t s.highest)).mp, k ≤ s.highest :=
    fun _ => le_of_mem_keys_cons_dropKeys_le
  rw [onMempool_eq]
  refine maybeNotify_drains ?_ hmp hle
  refine pickHeight_eq_some.mpr ⟨(mem_keys_cons_dropKeys_le _ _ s.mp _).mpr (Or.inl rfl), ?_⟩
  by_cases hb : s.highest ∈ keys s.bp
  · exact Or.inl ⟨hb, fun k hk _ => hmp k hk⟩
  · refine Or.inr ⟨fun k hk => ?_, rfl, hmp⟩
    rcases (mem_keys_cons_dropKeys_le _ _ s.mp k).mp hk with rfl | ⟨h1, _⟩
    · exact hb
    · exact hd k h1

theorem onBlock_drains (s : St) (t : List HX) (h : Int) (hmp : h ∈ keys s.mp) :
    pending (onBlock s t h).1 = [] := by
  have hmpk : ∀ k ∈ keys (prep s (.block t h)).mp, k ≤ h := fun k hk =>
    ((keys_prep_block_mp s t h k).mp hk).2
  rw [onBlock_eq]
  refine maybeNotify_drains ?_ hmpk
    fun _ => le_of_mem_keys_cons_dropKeys_le
  exact pickHeight_eq_some.mpr ⟨(keys_prep_block_mp s t h h).mpr ⟨hmp, Int.le_refl h⟩,
    Or.inl ⟨(mem_keys_cons_dropKeys_le h _ s.bp h).mpr (Or.inl rfl), fun k hk _ => hmpk k hk⟩⟩

end EV.Notif
