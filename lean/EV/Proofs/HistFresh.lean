import EV.Model.HistFresh
import EV.Proofs.RpcLimits

/-! Invariant of the freshness loop (`EV/Model/HistFresh.lean`) and its preservation by every event;
what each reply is; what happens once a script hash is no longer pending.  The case analysis of `step`
is done once (`Step`, `step_spec`); everything about single events is proved by cases on `Step`. -/
namespace EV.HistFresh

open EV.Rpc (Bytes HistRes dGet dSet dErase dGet_filter dGet_dSet_self dGet_dSet_ne
  dGet_dErase_some)

theorem cut_eq (limit : Nat) (h : List Entry) :
    cut limit h = if limit ≤ h.length then .tooLarge else .ok h :=
  EV.Rpc.take_limit limit h _ _

theorem cut_large {limit : Nat} {h : List Entry} (hl : limit ≤ h.length) : cut limit h = .tooLarge := by
  rw [cut_eq, if_pos hl]

theorem cut_small {limit : Nat} {h : List Entry} (hl : h.length < limit) : cut limit h = .ok h := by
  rw [cut_eq, if_neg (Nat.not_le.mpr hl)]

theorem cut_ok {limit : Nat} {h l : List Entry} (hc : cut limit h = .ok l) :
    l = h ∧ l.length < limit := by
  rw [cut_eq] at hc
  split at hc
  · cases hc
  · cases hc; exact ⟨rfl, by omega⟩

theorem cut_tooLarge_iff {limit : Nat} {h : List Entry} :
    cut limit h = .tooLarge ↔ limit ≤ h.length := by
  rw [cut_eq]
  split <;> simp [*]

/-- a block touched `hx` and the cache deletion of a notification naming it has not run yet -/
def Pending (s : State) (hx : Bytes) : Prop :=
  hx ∈ s.dirty ∨ ∃ n ∈ s.inflight, hx ∈ n.1 ∧ hx ∈ n.2

/-- every block's changes have been notified, every notification has completed its deletion -/
def Quiescent (s : State) : Prop := s.dirty = [] ∧ s.inflight = []

instance (s : State) : Decidable (Quiescent s) := by unfold Quiescent; infer_instance

/-- the hypothesis on the index: a block changes the history of touched script hashes only -/
def EvOK (hist : Index) (v : Nat) : Ev → Prop
  | .block t => ∀ hx, hx ∉ t → hist (v + 1) hx = hist v hx
  | _ => True

def RunOK (hist : Index) (limit : Nat) : State → List Ev → Prop
  | _, [] => True
  | s, e :: r => EvOK hist s.ver e ∧ RunOK hist limit (step hist limit s e) r

variable {hist : Index} {limit : Nat} {s s' : State} {e : Ev} {hx : Bytes}

theorem not_pending_of_quiescent (h : Quiescent s) (hx : Bytes) : ¬ Pending s hx := by
  rintro (hd | ⟨n, hn, _⟩)
  · rw [h.1] at hd; cases hd
  · rw [h.2] at hn; cases hn

theorem inflightHas_iff :
    inflightHas s hx = true ↔ ∃ n ∈ s.inflight, hx ∈ n.1 ∧ hx ∈ n.2 := by
  simp only [inflightHas, List.any_eq_true, Bool.and_eq_true, List.contains_iff_mem]

theorem pending_iff :
    Pending s hx ↔ s.dirty.contains hx = true ∨ inflightHas s hx = true := by
  rw [inflightHas_iff, List.contains_iff_mem]; rfl

/-- what is known of a suspended request `q`; of the state only the current version, `_notify_count`
and `dirty` matter -/
structure ReqOK (hist : Index) (ver count : Nat) (dirty : List Bytes) (q : Req) : Prop where
  arr : q.arrVer ≤ q.startVer
  start : q.startVer ≤ ver
  snaple : q.snap ≤ count
  /-- as long as no notification has begun and no block has touched `q.hx` since the read started,
  whichever version the read sees has the current history -/
  reads : q.snap = count → q.hx ∉ dirty →
    ∀ v, q.startVer ≤ v → v ≤ ver → hist v q.hx = hist ver q.hx

theorem ReqOK.now {ver count : Nat} {dirty : List Bytes} {q : Req}
    (hs : q.snap = count) (hv : q.startVer = ver) (ha : q.arrVer ≤ ver) :
    ReqOK hist ver count dirty q where
  arr := hv ▸ ha
  start := Nat.le_of_eq hv
  snaple := Nat.le_of_eq hs
  reads := fun _ _ v hv1 hv2 => by rw [Nat.le_antisymm hv2 (hv ▸ hv1)]

structure Inv (hist : Index) (limit : Nat) (s : State) : Prop where
  /-- every cache entry is what a miss computes from ONE version, and the history of that version is
  the current one unless `hx` is pending -/
  cache : ∀ hx r, dGet hx s.cache = some r →
    ∃ v, v ≤ s.ver ∧ r = cut limit (hist v hx) ∧ (hist v hx = hist s.ver hx ∨ Pending s hx)
  reqs : ∀ q ∈ s.reqs, ReqOK hist s.ver s.count s.dirty q

theorem Inv.fresh (h : Inv hist limit s) {r : HistRes} (hr : dGet hx s.cache = some r) :
    r = cut limit (hist s.ver hx) ∨ Pending s hx := by
  obtain ⟨v, _, hr', hc⟩ := h.cache hx r hr
  exact hc.imp_left (fun (hc : hist v hx = hist s.ver hx) => hc ▸ hr')

theorem inv_init (hist : Index) (limit : Nat) : Inv hist limit init where
  cache := fun _ _ h => by cases h
  reqs := fun _ h => by cases h

theorem accepts_iff {q : Req} : accepts false s q = true ↔ q.snap = s.count := by
  simp only [accepts, Bool.false_and, Bool.or_false, beq_iff_eq]

/-- the ways an event can go, each with the new state as `stepWith false false` builds it and with
what the proofs use of the guard under which it goes that way; `skip`: a guard fails, nothing changes -/
inductive Step (hist : Index) (limit : Nat) (s : State) : Ev → State → Prop
  | skip (e : Ev) : Step hist limit s e s
  | block (t : List Bytes) :
    Step hist limit s (.block t) { s with ver := s.ver + 1, dirty := t ++ s.dirty }
  | notifyBegin (t : List Bytes) : Step hist limit s (.notifyBegin t)
      { s with count := s.count + 1, dirty := s.dirty.filter (fun h => !t.contains h),
               inflight := s.inflight ++ [(t, s.dirty)], lastTouched := t }
  | notifyDrop {i : Nat} {n : List Bytes × List Bytes} (hi : s.inflight[i]? = some n) :
    Step hist limit s (.notifyDrop i)
      { s with cache := s.cache.filter (fun e => !n.1.contains e.1),
               inflight := s.inflight.eraseIdx i }
  | request (hx : Bytes) : Step hist limit s (.request hx)
      { s with reqs := s.reqs ++ [{ hx := hx, snap := s.count, startVer := s.ver, arrVer := s.ver,
                                    loops := 0 }] }
  | accept {i v : Nat} {q : Req} (hi : s.reqs[i]? = some q) (hv : q.startVer ≤ v ∧ v ≤ s.ver)
      (hs : q.snap = s.count) : Step hist limit s (.resume i v)
      { s with cache := dSet q.hx (cut limit (hist v q.hx)) s.cache, reqs := s.reqs.eraseIdx i }
  | reject {i : Nat} (v : Nat) {q : Req} (hi : s.reqs[i]? = some q) : Step hist limit s (.resume i v)
      { s with reqs := s.reqs.set i { q with snap := s.count, startVer := s.ver,
                                             loops := q.loops + 1 } }
  | evict (hx : Bytes) : Step hist limit s (.evict hx) { s with cache := dErase hx s.cache }

theorem step_spec (hist : Index) (limit : Nat) (s : State) (e : Ev) :
    Step hist limit s e (step hist limit s e) := by
  cases e with
  | block t => exact .block t
  | notifyBegin t => exact .notifyBegin t
  | evict hx => exact .evict hx
  | notifyDrop i =>
    -- `kr` is off in `step`: the clause of the deletion's filter that keeps refusals goes
    simp only [step, stepWith, Bool.false_and, Bool.or_false]
    cases hi : s.inflight[i]? with
    | none => exact .skip _
    | some n => exact .notifyDrop hi
  | request hx =>
    simp only [step, stepWith]
    cases dGet hx s.cache with
    | some r => exact .skip _
    | none => exact .request hx
  | resume i v =>
    simp only [step, stepWith]
    cases hi : s.reqs[i]? with
    | none => exact .skip _
    | some q =>
      dsimp only
      by_cases hg : q.startVer ≤ v ∧ v ≤ s.ver
      · rw [if_pos hg]
        by_cases hacc : accepts false s q = true
        · rw [if_pos hacc]; exact .accept hi hg (accepts_iff.mp hacc)
        · rw [if_neg hacc]; exact .reject v hi
      · rw [if_neg hg]; exact .skip _

theorem pending_block {t : List Bytes} :
    Pending { s with ver := s.ver + 1, dirty := t ++ s.dirty } hx ↔ hx ∈ t ∨ Pending s hx := by
  unfold Pending
  rw [List.mem_append, or_assoc]

/-- a dirty script hash that the call names is in flight from now on, one that it does not name stays
dirty; the call is in flight for what was dirty only -/
theorem pending_notifyBegin {t : List Bytes} :
    Pending { s with count := s.count + 1, dirty := s.dirty.filter (fun h => !t.contains h),
                     inflight := s.inflight ++ [(t, s.dirty)], lastTouched := t } hx ↔
      Pending s hx := by
  unfold Pending
  constructor
  · rintro (h | ⟨n, hn, hm⟩)
    · exact Or.inl (List.mem_filter.mp h).1
    · rcases List.mem_append.mp hn with hn | hn
      · exact Or.inr ⟨n, hn, hm⟩
      · rw [List.mem_singleton.mp hn] at hm
        exact Or.inl hm.2
  · rintro (h | ⟨n, hn, hm⟩)
    · by_cases hc : hx ∈ t
      · exact Or.inr ⟨(t, s.dirty), List.mem_append_right _ (List.mem_singleton_self _), hc, h⟩
      · exact Or.inl (List.mem_filter.mpr ⟨h, by simpa using hc⟩)
    · exact Or.inr ⟨n, List.mem_append_left _ hn, hm⟩

theorem Step.inv (hst : Step hist limit s e s') (h : Inv hist limit s) (hok : EvOK hist s.ver e) :
    Inv hist limit s' := by
  cases hst with
  | skip => exact h
  | block t =>
    refine ⟨fun hx r hr => ?_, fun q hq => ?_⟩
    · obtain ⟨v, hv, hr', hc⟩ := h.cache hx r hr
      refine ⟨v, Nat.le_succ_of_le hv, hr', ?_⟩
      by_cases ht : hx ∈ t
      · exact Or.inr (pending_block.mpr (Or.inl ht))
      · exact hc.imp (fun h1 => Eq.trans h1 (hok hx ht).symm)
          (fun h1 => pending_block.mpr (Or.inr h1))
    · have hq := h.reqs q hq
      refine ⟨hq.arr, Nat.le_succ_of_le hq.start, hq.snaple, fun hs hd v hv1 hv2 => ?_⟩
      have hnt : q.hx ∉ t := fun hm => hd (List.mem_append_left _ hm)
      have hnd : q.hx ∉ s.dirty := fun hm => hd (List.mem_append_right _ hm)
      -- the block leaves `q.hx` alone: the new version has the history of the old one there
      show hist v q.hx = hist (s.ver + 1) q.hx
      rw [hok _ hnt]
      rcases Nat.lt_or_ge s.ver v with hlt | hle
      · rw [show v = s.ver + 1 from Nat.le_antisymm hv2 hlt]; exact hok _ hnt
      · exact hq.reads hs hnd v hv1 hle
  | notifyBegin t =>
    refine ⟨fun hx r hr => ?_, fun q hq => ?_⟩
    · obtain ⟨v, hv, hr', hc⟩ := h.cache hx r hr
      exact ⟨v, hv, hr', hc.imp_right pending_notifyBegin.mpr⟩
    · have hq := h.reqs q hq
      -- `_notify_count` has moved past every snapshot, so `reads` holds of no request
      exact ⟨hq.arr, hq.start, Nat.le_succ_of_le hq.snaple, fun hs =>
        absurd hq.snaple (by show ¬ q.snap ≤ s.count; rw [hs]; exact Nat.not_succ_le_self _)⟩
  | @notifyDrop i n hi =>
    refine ⟨fun hx r hr => ?_, h.reqs⟩
    rw [dGet_filter (fun k => !n.1.contains k)] at hr
    split at hr
    · rename_i hn
      have hn : hx ∉ n.1 := by simpa using hn
      obtain ⟨v, hv, hr', hc⟩ := h.cache hx r hr
      refine ⟨v, hv, hr', hc.imp_right ?_⟩
      -- the call that has completed does not name `hx`, so it is not the one `hx` waits for
      rintro (h1 | ⟨n', hn', hm⟩)
      · exact Or.inl h1
      · obtain ⟨j, hj⟩ := List.mem_iff_getElem?.mp hn'
        refine Or.inr ⟨n', List.mem_eraseIdx_iff_getElem?.mpr ⟨j, fun hji => hn ?_, hj⟩, hm⟩
        rw [hji, hi] at hj
        cases hj
        exact hm.1
    · cases hr
  | request k =>
    refine ⟨h.cache, fun q hq => ?_⟩
    rcases List.mem_append.mp hq with hq | hq
    · exact h.reqs q hq
    · rw [List.mem_singleton.mp hq]
      exact ReqOK.now rfl rfl (Nat.le_refl _)
  | @accept i v q hi hv hs =>
    have hq := h.reqs q (List.mem_of_getElem? hi)
    refine ⟨fun hx r hr => ?_, fun q' hq' => h.reqs q' (List.mem_of_mem_eraseIdx hq')⟩
    by_cases hk : hx = q.hx
    · subst hk
      rw [dGet_dSet_self] at hr
      cases hr
      refine ⟨v, hv.2, rfl, ?_⟩
      by_cases hd : q.hx ∈ s.dirty
      · exact Or.inr (Or.inl hd)
      · exact Or.inl (hq.reads hs hd v hv.1 hv.2)
    · rw [dGet_dSet_ne hk] at hr
      exact h.cache hx r hr
  | @reject i v q hi =>
    have hq := h.reqs q (List.mem_of_getElem? hi)
    refine ⟨h.cache, fun q' hq' => ?_⟩
    rcases List.mem_or_eq_of_mem_set hq' with hq' | hq'
    · exact h.reqs q' hq'
    · rw [hq']
      exact ReqOK.now rfl rfl (Nat.le_trans hq.arr hq.start)
  | evict k => exact ⟨fun k' r hr => h.cache k' r (dGet_dErase_some hr), h.reqs⟩

theorem inv_step (e : Ev) (h : Inv hist limit s) (hok : EvOK hist s.ver e) :
    Inv hist limit (step hist limit s e) :=
  (step_spec hist limit s e).inv h hok

theorem run_cons (r : List Ev) :
    run hist limit s (e :: r) = run hist limit (step hist limit s e) r := rfl

theorem replies_cons (r : List Ev) :
    replies hist limit s (e :: r) =
      (out hist limit s e).toList ++ replies hist limit (step hist limit s e) r := rfl

theorem inv_run (evs : List Ev) (h : Inv hist limit s) (hok : RunOK hist limit s evs) :
    Inv hist limit (run hist limit s evs) := by
  induction evs generalizing s with
  | nil => exact h
  | cons e r ih => exact ih (inv_step e h hok.1) hok.2

theorem runOK_append (evs evs' : List Ev) (s : State) :
    RunOK hist limit s (evs ++ evs') ↔
      RunOK hist limit s evs ∧ RunOK hist limit (run hist limit s evs) evs' := by
  induction evs generalizing s with
  | nil => exact ⟨fun h => ⟨trivial, h⟩, fun h => h.2⟩
  | cons e r ih =>
    show (EvOK hist s.ver e ∧ RunOK hist limit (step hist limit s e) (r ++ evs')) ↔
      (EvOK hist s.ver e ∧ RunOK hist limit (step hist limit s e) r) ∧
        RunOK hist limit (run hist limit (step hist limit s e) r) evs'
    rw [ih (step hist limit s e), and_assoc]

theorem replies_append (evs evs' : List Ev) (s : State) :
    replies hist limit s (evs ++ evs') =
      replies hist limit s evs ++ replies hist limit (run hist limit s evs) evs' := by
  induction evs generalizing s with
  | nil => rfl
  | cons e r ih =>
    rw [List.cons_append, replies_cons, replies_cons, run_cons, ih (step hist limit s e),
      List.append_assoc]

theorem mem_replies {a : Ans} {evs : List Ev} (ha : a ∈ replies hist limit s evs) :
    ∃ pre e post, evs = pre ++ e :: post ∧ out hist limit (run hist limit s pre) e = some a := by
  induction evs generalizing s with
  | nil => cases ha
  | cons e r ih =>
    rw [replies_cons] at ha
    rcases List.mem_append.mp ha with ha | ha
    · exact ⟨[], e, r, rfl, Option.mem_toList.mp ha⟩
    · obtain ⟨pre, e', post, heq, ho⟩ := ih ha
      exact ⟨e :: pre, e', post, by rw [heq]; rfl, ho⟩

structure AnsSpec (hist : Index) (limit : Nat) (s : State) (a : Ans) : Prop where
  ansVer : a.ansVer = s.ver
  arr : a.arrVer ≤ s.ver
  /-- the reply is the `cut` of one version, current at some moment during the request (miss) or
      not later than the request (hit) -/
  whole : ∃ v, v ≤ s.ver ∧ (a.hit = false → a.arrVer ≤ v) ∧ a.res = cut limit (hist v a.hx)
  fresh : a.res = cut limit (hist s.ver a.hx) ∨ Pending s a.hx
  /-- a miss is answered from the version current at the answer unless a block touched the script
      hash since the read started and no notification naming it has begun -/
  miss : a.hit = false → a.dirty = false → a.res = cut limit (hist s.ver a.hx)
  flags : Pending s a.hx ↔ a.dirty = true ∨ a.inflight = true

theorem AnsSpec.hit {a : Ans} (sp : AnsSpec hist limit s a) (h1 : a.dirty = false)
    (h2 : a.inflight = false) : a.res = cut limit (hist s.ver a.hx) := by
  refine sp.fresh.resolve_right (fun hp => ?_)
  rw [sp.flags, h1, h2] at hp
  exact hp.elim Bool.noConfusion Bool.noConfusion

theorem out_spec {a : Ans} (h : Inv hist limit s)
    (ha : out hist limit s e = some a) : AnsSpec hist limit s a := by
  cases e with
  | request hx =>
    simp only [out, outWith] at ha
    cases hr : dGet hx s.cache with
    | none => rw [hr] at ha; cases ha
    | some r =>
      rw [hr] at ha
      cases ha
      obtain ⟨v, hv, hr', _⟩ := h.cache hx r hr
      exact ⟨rfl, Nat.le_refl _, ⟨v, hv, nofun, hr'⟩, h.fresh hr, nofun, pending_iff⟩
  | resume i v =>
    simp only [out, outWith] at ha
    cases hi : s.reqs[i]? with
    | none => rw [hi] at ha; cases ha
    | some q =>
      rw [hi] at ha
      simp only [Option.ite_none_right_eq_some, Option.some.injEq] at ha
      obtain ⟨hg, hacc, rfl⟩ := ha
      have hq := h.reqs q (List.mem_of_getElem? hi)
      have hm : q.hx ∉ s.dirty → cut limit (hist v q.hx) = cut limit (hist s.ver q.hx) :=
        fun hd => by rw [hq.reads (accepts_iff.mp hacc) hd v hg.1 hg.2]
      refine ⟨rfl, Nat.le_trans hq.arr hq.start, ⟨v, hg.2, fun _ => Nat.le_trans hq.arr hg.1, rfl⟩,
        ?_, fun _ h1 => hm (fun hd => ?_), pending_iff⟩
      · by_cases hd : q.hx ∈ s.dirty
        · exact Or.inr (Or.inl hd)
        · exact Or.inl (hm hd)
      · rw [List.contains_iff_mem.mpr hd] at h1
        cases h1
  | _ => cases ha

theorem replies_spec (evs : List Ev) (h : Inv hist limit s)
    (hok : RunOK hist limit s evs) :
    ∀ a ∈ replies hist limit s evs, ∃ s', AnsSpec hist limit s' a := by
  intro a ha
  obtain ⟨pre, e, post, rfl, ho⟩ := mem_replies ha
  exact ⟨_, out_spec (inv_run pre h ((runOK_append pre _ s).mp hok).1) ho⟩

theorem Step.not_pending (hst : Step hist limit s e s') (hp : ¬ Pending s hx)
    (hok : EvOK hist s.ver e) (hnb : ∀ t, e = .block t → hx ∉ t) :
    ¬ Pending s' hx ∧ hist s'.ver hx = hist s.ver hx := by
  cases hst with
  | block t =>
    exact ⟨fun h => (pending_block.mp h).elim (hnb t rfl) hp, hok hx (hnb t rfl)⟩
  | notifyBegin t => exact ⟨mt pending_notifyBegin.mp hp, rfl⟩
  | notifyDrop hi =>
    refine ⟨fun h => hp (h.imp_right ?_), rfl⟩
    rintro ⟨n', hn', hm⟩
    exact ⟨n', List.mem_of_mem_eraseIdx hn', hm⟩
  | _ => exact ⟨hp, rfl⟩

theorem run_not_pending (evs : List Ev) (hp : ¬ Pending s hx) (hok : RunOK hist limit s evs)
    (hnb : ∀ t, Ev.block t ∈ evs → hx ∉ t) :
    ¬ Pending (run hist limit s evs) hx ∧ hist (run hist limit s evs).ver hx = hist s.ver hx := by
  induction evs generalizing s with
  | nil => exact ⟨hp, rfl⟩
  | cons e r ih =>
    have h1 := (step_spec hist limit s e).not_pending hp hok.1
      (fun t he => hnb t (he ▸ List.mem_cons_self))
    have h2 := ih h1.1 hok.2 (fun t ht => hnb t (List.mem_cons_of_mem _ ht))
    exact ⟨h2.1, h2.2.trans h1.2⟩

theorem replies_not_pending (evs : List Ev) (h : Inv hist limit s)
    (hp : ¬ Pending s hx) (hok : RunOK hist limit s evs) (hnb : ∀ t, Ev.block t ∈ evs → hx ∉ t) :
    ∀ a ∈ replies hist limit s evs, a.hx = hx → a.res = cut limit (hist s.ver hx) := by
  intro a ha hax
  subst hax
  obtain ⟨pre, e, post, rfl, ho⟩ := mem_replies ha
  have hok := ((runOK_append pre _ s).mp hok).1
  have hpre := run_not_pending pre hp hok (fun t ht => hnb t (List.mem_append_left _ ht))
  have sp := out_spec (inv_run pre h hok) ho
  rw [sp.fresh.resolve_right hpre.1, hpre.2]

end EV.HistFresh
