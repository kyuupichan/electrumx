import EV.Proofs.CarrierSpec
import EV.Proofs.IndexRunReorg

/-!
Carrier completeness, model level: in invariant states, `advance` (`advance_block`) appends exactly
the block's touched list to `BlockProcessor.touched`, `backupFull` (`backup_block` + `flush_backup`)
keeps what is there and adds every script hash of the block's touched list, flushes leave it alone.
With `CarrierSpec.lean`: after either step `touched` contains what was there before and every script
hash whose client-visible confirmed state the step changed.  The invariants do not mention
`touched`, so `self.touched = set()` (`setTouched`) preserves them.
-/
namespace EV.Index
open EV.Spec

theorem advance_touched {cfg : Cfg} {daemonH : Int} {chain : List Block} {s s' : Sys} {b : Block}
    (inv : FullInv cfg chain s) (hv : ValidNext cfg chain b)
    (h : advance cfg daemonH s b = .ok s') :
    s'.m.touched = s.m.touched ++ touchedBy cfg.act chain b := by
  obtain ⟨-, a, ha, rfl⟩ := advance_ok_iff.mp h
  have f := inv.files
  have hheight : (s.m.st.height + 1).toNat = chain.length := by have := f.height; omega
  have hn : s.m.st.txCount = (specChain cfg.act chain).txs.length := by
    rw [f.stTx, specChain_txs_length]
  obtain ⟨a', ha', -, -, -, -, -, -, htouched⟩ :=
    advanceTxs_spec sysIface cfg chain.length b.txs (specChain cfg.act chain)
      { s := s, txNum := s.m.st.txCount } inv.rep hn hv.2
  rw [← hheight, ha] at ha'
  cases ha'
  show s.m.touched ++ a.touched = _
  rw [htouched]
  rfl

theorem advance_carries {cfg : Cfg} {daemonH : Int} {chain : List Block} {s s' : Sys} {b : Block}
    (inv : FullInv cfg chain s) (hv : ValidNext cfg chain b)
    (h : advance cfg daemonH s b = .ok s') :
    (∀ hx ∈ s.m.touched, hx ∈ s'.m.touched) ∧
    (∀ hx, confState cfg.act chain hx ≠ confState cfg.act (chain ++ [b]) hx → hx ∈ s'.m.touched) := by
  rw [advance_touched inv hv h]
  exact ⟨fun hx hm => List.mem_append_left _ hm,
    fun hx hne => List.mem_append_right _ (confState_change_advance cfg.act chain b hx hne)⟩

theorem flush_touched {s s' : Sys} {fu : Bool} (h : flush s fu = .ok s') :
    s'.m.touched = s.m.touched := by
  obtain ⟨-, -, rfl⟩ | ⟨-, -, rfl⟩ := flush_ok_cases h
  · rfl
  · cases fu <;> rfl

/-- `hfl` (fully flushed) and `hk` (tip height retained) as in `fullInv'_backup` -/
theorem backup_carries {cfg : Cfg} {pre : List Block} {b : Block} {K : List Nat} {s s' : Sys}
    {es : List Effect}
    (inv : FullInv' cfg (pre ++ [b]) K s) (hfl : s.m.dbst.height = s.m.st.height)
    (hk : pre.length ∈ K) (h : backupFull cfg s b = .ok (es, s')) :
    (∀ hx ∈ s.m.touched, hx ∈ s'.m.touched) ∧
    (∀ hx ∈ touchedBy cfg.act pre b, hx ∈ s'.m.touched) ∧
    (∀ hx, confState cfg.act (pre ++ [b]) hx ≠ confState cfg.act pre hx → hx ∈ s'.m.touched) := by
  -- the back-out went through, so the tip is above height 0
  obtain ⟨-, hpos, -⟩ := backupFull_inv h
  obtain ⟨a, hfull, -, -, -, htouched⟩ := backupFull_of_inv inv hfl hpos hk
  have hs' : s' = (bkResult a s b).2 := congrArg Prod.snd (Except.ok.inj (h.symm.trans hfull))
  have ht : s'.m.touched = s.m.touched ++ a.touched := by rw [hs']; rfl
  have hblock : ∀ hx ∈ touchedBy cfg.act pre b, hx ∈ s'.m.touched := by
    intro hx hm
    rw [ht]
    exact List.mem_append_right _ (htouched hx hm)
  refine ⟨fun hx hm => by rw [ht]; exact List.mem_append_left _ hm, hblock, ?_⟩
  intro hx hne
  exact hblock hx (confState_change_backout cfg.act pre b hx hne)

/-- `reopen` is excluded: a restart loses the set -/
theorem step_carries {cfg : Cfg} {t : Track} {s s' : Sys} {op : IOp2} (ti : TrackInv cfg t s)
    (hok : OkOp cfg t op) (hne : op ≠ .reopen) (h : stepOp2 cfg s op = .ok s') :
    (∀ hx ∈ s.m.touched, hx ∈ s'.m.touched) ∧
    Cov cfg.act t.chain (t.step cfg op).chain s'.m.touched := by
  cases op with
  | adv b d => exact advance_carries ti.inv.base hok h
  | flush fu =>
    rw [flush_touched (show flush s fu = .ok s' from h)]
    exact ⟨fun _ hm => hm, cov_refl _ _ _⟩
  | backup b =>
    obtain ⟨hcl, hlast, -, hk⟩ := backupOk_iff.mp hok
    obtain ⟨pre, hc⟩ := List.getLast?_eq_some_iff.mp hlast
    obtain ⟨es, hbf⟩ := backup_ok h
    have inv := ti.inv
    rw [hc] at inv hk
    rw [List.length_append, List.length_singleton] at hk
    obtain ⟨hsub, -, hchg⟩ := backup_carries inv (ti.flushed hcl) hk hbf
    refine ⟨hsub, ?_⟩
    show Cov cfg.act t.chain t.chain.dropLast _
    rw [hc, List.dropLast_concat]
    exact hchg
  | reopen => exact absurd rfl hne

def setTouched (s : Sys) (T : List HashX) : Sys := { s with m := { s.m with touched := T } }

theorem fullInv'_setTouched {cfg : Cfg} {chain : List Block} {K : List Nat} {s : Sys}
    (inv : FullInv' cfg chain K s) (T : List HashX) : FullInv' cfg chain K (setTouched s T) :=
  { inv with
    base := fullInv_touched_firstSync inv.base T s.m.st.firstSync
    db := dbInv_congr inv.db rfl rfl rfl rfl }

theorem trackInv_setTouched {cfg : Cfg} {t : Track} {s : Sys} (ti : TrackInv cfg t s)
    (T : List HashX) : TrackInv cfg t (setTouched s T) :=
  ⟨fullInv'_setTouched ti.inv T, ti.db⟩

end EV.Index
