import EV.Model.Daemon

/-! The `_send` loop of `EV/Model/Daemon.lean`: a prefix of transient attempts only moves
`(url_index, retry)` along the pure back-off recurrence `backoff`, from which the URL contacted at
attempt `i` and the sleep after it are read off (`send_pending`, `send_decided`: the whole record of a
call); closed forms of the recurrence for `1 < nUrls` (periodic, one fail-over per period) and for
`nUrls ≤ 1` (saturating). -/
namespace EV.Daemon

variable {α ε σ ι : Type}

/-- an attempt that one of the seven `except` clauses catches -/
def IsTransient (cls : ι → Outcome α ε) (x : ι) : Prop := ∃ k, cls x = .transient k

/-- `(url_index, retry)` at the attempt that follows `L` transient ones -/
def backoff (c : Cfg) : Nat → Nat → Nat → Nat × Nat
  | 0, u, r => (u, r)
  | L + 1, u, r => backoff c L (logError c u r).1 (nextRetry c (logError c u r).2)

def urlAt (c : Cfg) (u r i : Nat) : Nat := (backoff c i u r).1

/-- the argument of the `sleep` that follows attempt `i`, itself transient: `log_error` has run -/
def sleepAfter (c : Cfg) (u r i : Nat) : Nat := (logError c (backoff c i u r).1 (backoff c i u r).2).2

/-- `on_good_message` after a run of attempts -/
def goodFold (cls : ι → Outcome α ε) : Option GoodMsg → List ι → Option GoodMsg
  | g, [] => g
  | g, x :: xs =>
    match cls x with
    | .transient k => goodFold cls (goodAfter k g) xs
    | _ => goodFold cls g xs

def prefixOut (sl ct : List Nat) (o : SendOut α ε σ) : SendOut α ε σ :=
  ⟨o.res, o.urlIndex, sl ++ o.sleeps, ct ++ o.contacted, o.logged, o.side⟩

theorem map_range_succ {β : Type} (f : Nat → β) (L : Nat) :
    (List.range (L + 1)).map f = f 0 :: (List.range L).map (fun i => f (i + 1)) := by
  simp only [List.range_succ_eq_map, List.map_cons, List.map_map]
  rfl

theorem map_range_snoc {β : Type} (f : Nat → β) (L : Nat) :
    (List.range (L + 1)).map f = (List.range L).map f ++ [f L] := by
  rw [List.range_succ, List.map_append]
  rfl

theorem length_map_range {β : Type} (f : Nat → β) (L : Nat) : ((List.range L).map f).length = L :=
  List.length_map f |>.trans List.length_range

theorem sendLoop_transient_prefix (c : Cfg) (cls : ι → Outcome α ε) (eff : σ → ι → σ)
    (faults : List ι) (hf : ∀ x ∈ faults, IsTransient cls x) :
    ∀ (u r : Nat) (g : Option GoodMsg) (s : σ) (rest : List ι),
      sendLoop c cls eff u r g s (faults ++ rest) =
        prefixOut ((List.range faults.length).map (sleepAfter c u r))
          ((List.range faults.length).map (urlAt c u r))
          (sendLoop c cls eff (urlAt c u r faults.length) (backoff c faults.length u r).2
            (goodFold cls g faults) (faults.foldl eff s) rest) := by
  induction faults with
  | nil => intro u r g s rest; rfl
  | cons x xs ih =>
    intro u r g s rest
    obtain ⟨k, hk⟩ := hf x (by simp)
    have ih' := ih (fun y hy => hf y (by simp [hy]))
    -- attempt `i + 1` of the call is attempt `i` of the call that starts after the first `log_error`
    simp only [List.cons_append, sendLoop, hk, ih', List.length_cons, map_range_succ, sleepAfter, urlAt,
      backoff, goodFold, List.foldl_cons]
    rfl

/-- what the call does when the attempt that decides it does `o` -/
def Outcome.res : Outcome α ε → Res α ε
  | .ok v => .returned v
  | .fatal e => .raised e
  | .transient _ => .pending

theorem Outcome.eq_of_res {o o' : Outcome α ε} (h : o.res = o'.res) (hp : ∀ k, o' ≠ .transient k) :
    o = o' := by
  cases o' with
  | transient k => exact absurd rfl (hp k)
  | _ => cases o <;> cases h <;> rfl

/-- with `send_pending` and `send_decided` this determines `send` on every list -/
theorem transient_split (cls : ι → Outcome α ε) (xs : List ι) :
    ∃ pre fin, xs = pre ++ fin ∧ (∀ y ∈ pre, IsTransient cls y) ∧
      ∀ x, fin.head? = some x → ¬ IsTransient cls x := by
  induction xs with
  | nil => exact ⟨[], [], rfl, fun _ h => absurd h List.not_mem_nil, nofun⟩
  | cons x xs ih =>
    by_cases hx : IsTransient cls x
    · obtain ⟨pre, fin, rfl, hpre, hfin⟩ := ih
      exact ⟨x :: pre, fin, rfl, List.forall_mem_cons.mpr ⟨hx, hpre⟩, hfin⟩
    · exact ⟨[], x :: xs, rfl, fun _ h => absurd h List.not_mem_nil, fun y hy => Option.some.inj hy ▸ hx⟩

section
variable (c : Cfg) (cls : ι → Outcome α ε) (eff : σ → ι → σ) (u : Nat) (s : σ) (faults : List ι)
  (hf : ∀ x ∈ faults, IsTransient cls x)
include hf

theorem send_pending :
    send c cls eff u s faults =
      ⟨.pending, urlAt c u c.initRetry faults.length,
        (List.range faults.length).map (sleepAfter c u c.initRetry),
        (List.range faults.length).map (urlAt c u c.initRetry), none, faults.foldl eff s⟩ := by
  have h := sendLoop_transient_prefix c cls eff faults hf u c.initRetry none s []
  rw [List.append_nil] at h
  rw [send, h, sendLoop, prefixOut, List.append_nil, List.append_nil]

/-- Over the outcome `o` of the deciding attempt: a call that returns differs from one that raises in
`res` and `logged` only. -/
theorem send_decided (x : ι) (rest : List ι) {o : Outcome α ε} :
    cls x = o → (∀ k, o ≠ .transient k) →
    send c cls eff u s (faults ++ x :: rest) =
      ⟨o.res, urlAt c u c.initRetry faults.length,
        (List.range faults.length).map (sleepAfter c u c.initRetry),
        (List.range (faults.length + 1)).map (urlAt c u c.initRetry),
        match o with
        | .ok _ => goodFold cls none faults
        | _ => none,
        eff (faults.foldl eff s) x⟩ := by
  rintro rfl hnt
  rw [send, sendLoop_transient_prefix c cls eff faults hf, sendLoop, map_range_snoc]
  cases hc : cls x with
  | transient k => exact absurd hc (hnt k)
  | _ => simp only [prefixOut, List.append_nil, Outcome.res]

end

def tabFrom (f : Nat → Nat) (j L : Nat) : List Nat := (List.range L).map (fun i => f (j + i))

theorem tabFrom_zero (f : Nat → Nat) (j : Nat) : tabFrom f j 0 = [] := rfl

theorem tabFrom_succ (f : Nat → Nat) (j L : Nat) : tabFrom f j (L + 1) = f j :: tabFrom f (j + 1) L := by
  simp only [tabFrom, map_range_succ, Nat.add_zero, Nat.add_right_comm j 1, Nat.add_assoc]

theorem tabFrom_length (f : Nat → Nat) (j L : Nat) : (tabFrom f j L).length = L :=
  length_map_range _ L

theorem tabFrom_getElem? (f : Nat → Nat) (j L i : Nat) (hi : i < L) :
    (tabFrom f j L)[i]? = some (f (j + i)) := by
  simp [tabFrom, hi]

theorem tabFrom_snoc (f : Nat → Nat) (j L : Nat) : tabFrom f j (L + 1) = tabFrom f j L ++ [f (j + L)] :=
  map_range_snoc _ L

theorem tabFrom_zero_eq (f : Nat → Nat) (L : Nat) : tabFrom f 0 L = (List.range L).map f := by
  simp [tabFrom]

def retryAt (c : Cfg) (j : Nat) : Nat := min c.maxRetry (c.initRetry * 2 ^ j)

structure Reaches (c : Cfg) (p : Nat) : Prop where
  reach : c.maxRetry ≤ c.initRetry * 2 ^ p
  below : ∀ j, j < p → c.initRetry * 2 ^ j < c.maxRetry

theorem init_le_mul_pow (a j : Nat) : a ≤ a * 2 ^ j :=
  Nat.le_mul_of_pos_right a (Nat.two_pow_pos j)

theorem nextRetry_retryAt (c : Cfg) (hle : c.initRetry ≤ c.maxRetry) (j : Nat) :
    nextRetry c (retryAt c j) = retryAt c (j + 1) := by
  have h2 := init_le_mul_pow c.initRetry j
  simp only [nextRetry, retryAt, Nat.pow_succ, ← Nat.mul_assoc]
  generalize c.initRetry * 2 ^ j = x at *
  rcases Nat.le_total c.maxRetry x with h | h
  · -- saturated: `max` stays
    rw [Nat.min_eq_left h, Nat.min_eq_left (Nat.le_mul_of_pos_right _ (by decide)),
      Nat.min_eq_left (Nat.le_trans h (Nat.le_mul_of_pos_right _ (by decide))), Nat.max_eq_left hle]
  · -- below `max`: doubling, and `init ≤ x` keeps the outer `max` idle
    rw [Nat.min_eq_right h]
    exact Nat.max_eq_left (Nat.le_min.mpr ⟨hle, Nat.le_trans h2 (Nat.le_mul_of_pos_right _ (by decide))⟩)

theorem nextRetry_zero (c : Cfg) : nextRetry c 0 = c.initRetry := by
  simp [nextRetry]

theorem retryAt_zero (c : Cfg) (hle : c.initRetry ≤ c.maxRetry) : retryAt c 0 = c.initRetry := by
  rw [retryAt, Nat.pow_zero, Nat.mul_one]; exact Nat.min_eq_right hle

theorem retryAt_below (c : Cfg) (p j : Nat) (hp : Reaches c p) (hj : j < p) :
    retryAt c j = c.initRetry * 2 ^ j ∧ retryAt c j ≠ c.maxRetry := by
  have h := hp.below j hj
  rw [retryAt, Nat.min_eq_right (Nat.le_of_lt h)]
  exact ⟨rfl, Nat.ne_of_lt h⟩

theorem retryAt_reach (c : Cfg) (p : Nat) (hp : Reaches c p) : retryAt c p = c.maxRetry :=
  Nat.min_eq_left hp.reach

theorem retryAt_pos (c : Cfg) (hinit : 0 < c.initRetry) (hle : c.initRetry ≤ c.maxRetry) (j : Nat) :
    0 < retryAt c j :=
  Nat.lt_min.mpr ⟨Nat.lt_of_lt_of_le hinit hle, Nat.lt_of_lt_of_le hinit (init_le_mul_pow _ j)⟩

theorem logError_many_at_max (c : Cfg) (hn : 1 < c.nUrls) (u : Nat) :
    logError c u c.maxRetry = ((u + 1) % c.nUrls, 0) := by
  simp [logError, failover, hn]

theorem logError_not_max (c : Cfg) (u r : Nat) (h : r ≠ c.maxRetry) : logError c u r = (u, r) := by
  simp [logError, h]

theorem logError_single (c : Cfg) (hn : ¬ 1 < c.nUrls) (u r : Nat) : logError c u r = (u, r) := by
  simp only [logError, failover, hn, if_false, Bool.false_eq_true, ite_self]

/-- `backoff` peels the first attempt, as `sendLoop` does; the closed forms need the step at the last one -/
theorem backoff_succ (c : Cfg) (L u r : Nat) :
    backoff c (L + 1) u r =
      ((logError c (urlAt c u r L) (backoff c L u r).2).1, nextRetry c (sleepAfter c u r L)) := by
  induction L generalizing u r with
  | zero => rfl
  | succ L ih => exact ih _ _

/-- attempt `i` is `i % (p + 1)` doublings into its period: below `max_retry` the next attempt is one
    doubling further in the same period, at `max_retry` it opens a new period at the next URL -/
theorem backoff_many (c : Cfg) (p : Nat) (hp : Reaches c p) (hle : c.initRetry ≤ c.maxRetry)
    (hn : 1 < c.nUrls) (u : Nat) (hu : u < c.nUrls) (i : Nat) :
    backoff c i u c.initRetry = ((u + i / (p + 1)) % c.nUrls, retryAt c (i % (p + 1))) := by
  induction i with
  | zero =>
    rw [Nat.zero_div, Nat.zero_mod, retryAt_zero c hle, Nat.add_zero, Nat.mod_eq_of_lt hu]
    rfl
  | succ i ih =>
    rw [backoff_succ, sleepAfter, urlAt, ih]
    rcases Nat.lt_or_eq_of_le (Nat.le_of_lt_succ (Nat.mod_lt i (Nat.succ_pos p))) with hlt | heq
    · have h0 : (i + 1) % (p + 1) ≠ 0 := fun h => Nat.ne_of_lt hlt (Nat.succ_mod_succ_eq_zero_iff.mp h)
      rw [logError_not_max c _ _ (retryAt_below c p _ hp hlt).2, nextRetry_retryAt c hle,
        Nat.succ_div_of_mod_ne_zero h0, ← Nat.mod_add_mod i, Nat.mod_eq_of_lt (Nat.succ_lt_succ hlt)]
    · have h0 := Nat.succ_mod_succ_eq_zero_iff.mpr heq
      rw [heq, retryAt_reach c p hp, logError_many_at_max c hn, nextRetry_zero,
        Nat.succ_div_of_mod_eq_zero h0, h0, retryAt_zero c hle, Nat.mod_add_mod, Nat.add_assoc]

theorem sleepAfter_many (c : Cfg) (p : Nat) (hp : Reaches c p) (hle : c.initRetry ≤ c.maxRetry)
    (hn : 1 < c.nUrls) (u : Nat) (hu : u < c.nUrls) (i : Nat) :
    sleepAfter c u c.initRetry i =
      if i % (p + 1) = p then 0 else c.initRetry * 2 ^ (i % (p + 1)) := by
  rw [sleepAfter, backoff_many c p hp hle hn u hu]
  rcases Nat.lt_or_eq_of_le (Nat.le_of_lt_succ (Nat.mod_lt i (Nat.succ_pos p))) with hlt | heq
  · obtain ⟨hval, hne⟩ := retryAt_below c p _ hp hlt
    rw [logError_not_max c _ _ hne, if_neg (Nat.ne_of_lt hlt), hval]
  · rw [if_pos heq, heq, retryAt_reach c p hp, logError_many_at_max c hn]

theorem backoff_single (c : Cfg) (hle : c.initRetry ≤ c.maxRetry) (hn : ¬ 1 < c.nUrls)
    (u i : Nat) : backoff c i u c.initRetry = (u, retryAt c i) := by
  induction i with
  | zero => rw [retryAt_zero c hle]; rfl
  | succ i ih => rw [backoff_succ, sleepAfter, urlAt, ih, logError_single c hn, nextRetry_retryAt c hle]

theorem sleepAfter_single (c : Cfg) (hle : c.initRetry ≤ c.maxRetry) (hn : ¬ 1 < c.nUrls)
    (u i : Nat) : sleepAfter c u c.initRetry i = retryAt c i := by
  rw [sleepAfter, backoff_single c hle hn, logError_single c hn]

/-- least `j` with `max ≤ r * 2 ^ j` (for `0 < r`) -/
def doublings (mx r : Nat) : Nat :=
  if _h : 0 < r ∧ r < mx then doublings mx (2 * r) + 1 else 0
termination_by mx - r
decreasing_by omega

theorem mul_two_pow_succ (r j : Nat) : r * 2 ^ (j + 1) = 2 * r * 2 ^ j := by
  rw [Nat.pow_succ, Nat.mul_comm (2 ^ j) 2, ← Nat.mul_assoc, Nat.mul_comm r 2]

theorem doublings_spec (mx r : Nat) (hr : 0 < r) :
    mx ≤ r * 2 ^ doublings mx r ∧ ∀ j, j < doublings mx r → r * 2 ^ j < mx := by
  fun_induction doublings mx r with
  | case1 r h ih =>
    obtain ⟨h1, h2⟩ := ih (Nat.mul_pos (by decide) h.1)
    refine ⟨by rw [mul_two_pow_succ]; exact h1, fun j hj => ?_⟩
    cases j with
    | zero => rw [Nat.pow_zero, Nat.mul_one]; exact h.2
    | succ j => rw [mul_two_pow_succ]; exact h2 j (Nat.lt_of_succ_lt_succ hj)
  | case2 r h =>
    refine ⟨?_, fun j hj => absurd hj (Nat.not_lt_zero j)⟩
    rw [Nat.pow_zero, Nat.mul_one]; exact Nat.le_of_not_lt (fun hlt => h ⟨hr, hlt⟩)

theorem reaches_doublings (c : Cfg) (hinit : 0 < c.initRetry) :
    Reaches c (doublings c.maxRetry c.initRetry) :=
  have ⟨h1, h2⟩ := doublings_spec c.maxRetry c.initRetry hinit
  ⟨h1, h2⟩

theorem reaches_unique (c : Cfg) (p q : Nat) (hp : Reaches c p) (hq : Reaches c q) : p = q := by
  rcases Nat.lt_trichotomy p q with h | h | h
  · exact absurd (Nat.lt_of_lt_of_le (hq.below p h) hp.reach) (Nat.lt_irrefl _)
  · exact h
  · exact absurd (Nat.lt_of_lt_of_le (hp.below q h) hq.reach) (Nat.lt_irrefl _)

end EV.Daemon
