import EV.Proofs.CompactStore

/-!
`util.chunks` and `_compact_hashX`: what one call adds to `write_items` / `keys_to_delete` (`writesOf`,
`delsOf`), and the rows the hashX is to have once the batch is applied (`newRows`).
-/
namespace EV.Compact
open EV.Index

/-- induction along `util.chunks` (the fuel `chunks` provides is enough for a positive chunk size) -/
theorem chunks_induction {n : Nat} (hn : 0 < n) {P : List Nat → List (List Nat) → Prop} (nil : P [] [])
    (cons : ∀ a r cs, P ((a :: r).drop n) cs → P (a :: r) ((a :: r).take n :: cs)) (l : List Nat) :
    P l (chunks n l) := by
  suffices h : ∀ fuel l, l.length ≤ fuel → P l (chunksAux n fuel l) from h _ l (Nat.le_refl _)
  intro fuel
  induction fuel with
  | zero => intro l hf; rw [List.length_eq_zero_iff.mp (Nat.le_zero.mp hf)]; exact nil
  | succ f ih =>
    intro l hf
    cases l with
    | nil => exact nil
    | cons a r => exact cons a r _ (ih _ (by simp only [List.length_drop, List.length_cons] at hf ⊢; omega))

theorem chunks_flatten (n : Nat) (hn : 0 < n) (l : List Nat) : (chunks n l).flatten = l :=
  chunks_induction hn (P := fun l cs => cs.flatten = l) rfl
    (fun a r cs ih => by rw [List.flatten_cons, ih, List.take_append_drop]) l

theorem chunks_ne_nil (n : Nat) (hn : 0 < n) (l : List Nat) : ∀ c ∈ chunks n l, c ≠ [] :=
  chunks_induction hn (P := fun _ cs => ∀ c ∈ cs, c ≠ []) (fun _ h => nomatch h)
    (fun a r _ ih => List.forall_mem_cons.mpr
      ⟨fun h => (List.take_eq_nil_iff.mp h).elim (Nat.ne_of_gt hn) (List.cons_ne_nil a r), ih⟩) l

theorem ceilDiv_sub {n m : Nat} (hn : 0 < n) (hm : 0 < m) : (m + n - 1) / n = (m - n + n - 1) / n + 1 := by
  by_cases hge : n ≤ m
  · rw [Nat.sub_add_cancel hge, ← Nat.add_div_right _ hn, Nat.sub_add_comm hm]
  · rw [Nat.sub_eq_zero_of_le (Nat.le_of_not_le hge), Nat.zero_add, Nat.div_eq_of_lt (Nat.sub_lt hn Nat.one_pos)]
    exact Nat.div_eq_of_lt_le (by omega) (by omega)

theorem chunks_length (n : Nat) (hn : 0 < n) (l : List Nat) : (chunks n l).length = (l.length + n - 1) / n :=
  chunks_induction hn (P := fun l cs => cs.length = (l.length + n - 1) / n)
    (Nat.div_eq_of_lt (by simp only [List.length_nil]; omega)).symm
    (fun a r cs ih => by
      rw [List.length_cons, ih, List.length_drop]
      exact (ceilDiv_sub hn (Nat.succ_pos _)).symm) l

theorem chunks_length_le (n : Nat) (l : List Nat) (k : Nat) (hk : l.length ≤ n * k) :
    (chunks n l).length ≤ k := by
  rcases Nat.eq_zero_or_pos n with rfl | hn
  · rw [List.length_eq_zero_iff.mp (by omega : l.length = 0)]; exact Nat.zero_le _
  · rw [chunks_length n hn, Nat.mul_comm] at *
    exact Nat.le_of_lt_succ ((Nat.div_lt_iff_lt_mul hn).mpr (by rw [Nat.succ_mul]; omega))

/-- the rows appended to `write_items` -/
def writesOf (hx : HashX) (M : List Row) : List (List Nat) → Nat → List Row
  | [], _ => []
  | c :: cs, n =>
    if alookup (hx, n) M = some c then writesOf hx M cs (n + 1)
    else ((hx, n), c) :: writesOf hx M cs (n + 1)

/-- the keys taken out of `keys_to_delete` again (row identical on disk) -/
def keptOf (hx : HashX) (M : List Row) : List (List Nat) → Nat → List (HashX × Nat)
  | [], _ => []
  | c :: cs, n =>
    if alookup (hx, n) M = some c then (hx, n) :: keptOf hx M cs (n + 1)
    else keptOf hx M cs (n + 1)

/-- the rows of the hashX after compaction -/
def newRows (hx : HashX) : List (List Nat) → Nat → List Row
  | [], _ => []
  | c :: cs, n => ((hx, n), c) :: newRows hx cs (n + 1)

theorem chunkLoop_ok (hx : HashX) (M : List Row) (cs : List (List Nat)) (n : Nat) (acc : CAcc) (ws : Nat)
    (acc' : CAcc) (ws' : Nat) (h : chunkLoop hx M cs n acc ws = .ok (acc', ws')) :
    acc'.writes = acc.writes ++ writesOf hx M cs n ∧
    acc'.dels = acc.dels.filter (fun k => decide (k ∉ keptOf hx M cs n)) ∧
    acc'.cfc = acc.cfc := by
  induction cs generalizing n acc ws with
  | nil =>
    simp only [chunkLoop, Except.ok.injEq, Prod.mk.injEq] at h
    obtain ⟨rfl, _⟩ := h
    refine ⟨by simp [writesOf], ?_, rfl⟩
    simp only [keptOf]
    exact (List.filter_eq_self.mpr (by intro a _; simp)).symm
  | cons c cs ih =>
    simp only [chunkLoop] at h
    split at h
    · cases h
    · split at h
      · next hk =>
        obtain ⟨h1, h2, h3⟩ := ih _ _ _ h
        refine ⟨?_, ?_, h3⟩
        · simp only [writesOf, hk, if_true]; exact h1
        · rw [h2]
          simp only [keptOf, hk, if_true, List.filter_filter]
          apply List.filter_congr
          intro k _
          simp only [List.mem_cons, not_or]
          by_cases hkk : k = (hx, n) <;> simp [hkk]
      · next hk =>
        obtain ⟨h1, h2, h3⟩ := ih _ _ _ h
        refine ⟨?_, ?_, h3⟩
        · simp only [writesOf, hk, if_false]; rw [h1]; simp
        · rw [h2]; simp only [keptOf, hk, if_false]

theorem writesOf_eq (hx : HashX) (M : List Row) (cs : List (List Nat)) (n : Nat) :
    writesOf hx M cs n = (newRows hx cs n).filter (fun e => decide (alookup e.1 M ≠ some e.2)) := by
  induction cs generalizing n with
  | nil => rfl
  | cons c cs ih => by_cases hk : alookup (hx, n) M = some c <;> simp [writesOf, newRows, hk, ih]

theorem keptOf_eq (hx : HashX) (M : List Row) (cs : List (List Nat)) (n : Nat) :
    keptOf hx M cs n =
      ((newRows hx cs n).filter (fun e => decide (alookup e.1 M = some e.2))).map (·.1) := by
  induction cs generalizing n with
  | nil => rfl
  | cons c cs ih => by_cases hk : alookup (hx, n) M = some c <;> simp [keptOf, newRows, hk, ih]

theorem mem_writesOf {hx : HashX} {M : List Row} {cs : List (List Nat)} {n : Nat} {e : Row} :
    e ∈ writesOf hx M cs n ↔ e ∈ newRows hx cs n ∧ alookup e.1 M ≠ some e.2 := by
  rw [writesOf_eq, List.mem_filter, decide_eq_true_eq]

theorem mem_keptOf {hx : HashX} {M : List Row} {cs : List (List Nat)} {n : Nat} {k : HashX × Nat} :
    k ∈ keptOf hx M cs n ↔ ∃ e ∈ newRows hx cs n, alookup e.1 M = some e.2 ∧ e.1 = k := by
  simp only [keptOf_eq, List.mem_map, List.mem_filter, decide_eq_true_eq, and_assoc]

theorem newRows_chunk_mem {hx : HashX} {cs : List (List Nat)} {n : Nat} {e : Row}
    (h : e ∈ newRows hx cs n) : e.2 ∈ cs := by
  induction cs generalizing n with
  | nil => cases h
  | cons c cs ih =>
    rcases List.mem_cons.mp h with rfl | h
    · exact List.mem_cons_self
    · exact List.mem_cons_of_mem _ (ih h)

theorem newRows_flatMap (hx : HashX) (cs : List (List Nat)) (n : Nat) :
    (newRows hx cs n).flatMap (·.2) = cs.flatten := by
  induction cs generalizing n with
  | nil => rfl
  | cons c cs ih => simp [newRows, ih]

theorem newRows_bounds {hx : HashX} {cs : List (List Nat)} {n : Nat} {e : Row}
    (h : e ∈ newRows hx cs n) : e.1.1 = hx ∧ n ≤ e.1.2 ∧ e.1.2 < n + cs.length := by
  induction cs generalizing n with
  | nil => simp [newRows] at h
  | cons c cs ih =>
    simp only [newRows, List.mem_cons] at h
    rcases h with rfl | h
    · simp
    · obtain ⟨h1, h2, h3⟩ := ih h
      simp only [List.length_cons]
      exact ⟨h1, by omega, by omega⟩

theorem newRows_pairwise (hx : HashX) (cs : List (List Nat)) (n : Nat) :
    (newRows hx cs n).Pairwise (fun a b => a.1.2 < b.1.2) := by
  induction cs generalizing n with
  | nil => simp [newRows]
  | cons c cs ih =>
    simp only [newRows, List.pairwise_cons]
    refine ⟨?_, ih _⟩
    intro e he
    have := (newRows_bounds he).2.1
    omega

theorem writesOf_sub_newRows {hx : HashX} {M : List Row} {cs : List (List Nat)} {n : Nat} :
    (writesOf hx M cs n).Sublist (newRows hx cs n) := by
  rw [writesOf_eq]; exact List.filter_sublist

theorem writesOf_hx {hx : HashX} {M : List Row} {cs : List (List Nat)} {n : Nat} {e : Row}
    (h : e ∈ writesOf hx M cs n) : e.1.1 = hx :=
  (newRows_bounds (mem_writesOf.mp h).1).1

theorem keptOf_hx {hx : HashX} {M : List Row} {cs : List (List Nat)} {n : Nat} {k : HashX × Nat}
    (h : k ∈ keptOf hx M cs n) : k.1 = hx := by
  obtain ⟨e, he, _, rfl⟩ := mem_keptOf.mp h
  exact (newRows_bounds he).1

theorem nodupKeys_newRows (hx : HashX) (cs : List (List Nat)) (n : Nat) : NodupKeys (newRows hx cs n) := by
  unfold NodupKeys
  rw [List.nodup_iff_pairwise_ne, List.pairwise_map]
  exact (newRows_pairwise hx cs n).imp (by intro a b h heq; rw [heq] at h; omega)

theorem nodupKeys_writesOf (hx : HashX) (M : List Row) (cs : List (List Nat)) (n : Nat) :
    NodupKeys (writesOf hx M cs n) :=
  (nodupKeys_newRows hx cs n).sublist (writesOf_sub_newRows.map _)

def chunksOf (maxRow : Nat) (rows : List Row) : List (List Nat) := chunks maxRow (fullHist rows)

/-- what one `_compact_hashX` call adds to `keys_to_delete` -/
def delsOf (maxRow : Nat) (hx : HashX) (rows : List Row) : List (HashX × Nat) :=
  (rows.map (·.1)).filter (fun k => decide (k ∉ keptOf hx rows (chunksOf maxRow rows) 0))

/-- one `_compact_hashX` call.  `keys_to_delete` is ONE set shared by all calls of a batch, and
    `keys_to_delete.remove(key)` acts on all of it; `hfr` (no key of this hashX is in it yet) is what makes
    the removal touch only the keys this call has just added, so that the call appends `delsOf`. -/
theorem compactHashX_ok (maxRow : Nat) (hx : HashX) (rows : List Row) (acc acc' : CAcc) (w : Nat)
    (hfr : ∀ k ∈ acc.dels, k.1 ≠ hx)
    (h : compactHashX maxRow hx rows acc = .ok (acc', w)) :
    acc'.writes = acc.writes ++ writesOf hx rows (chunksOf maxRow rows) 0 ∧
    acc'.dels = acc.dels ++ delsOf maxRow hx rows ∧
    acc'.cfc = max acc.cfc (((chunksOf maxRow rows).length - 1 : Nat) : Int) := by
  unfold compactHashX at h
  split at h
  · cases h
  · next acc1 ws hcl =>
    split at h
    · cases h
    · simp only [Except.ok.injEq, Prod.mk.injEq] at h
      obtain ⟨rfl, _⟩ := h
      obtain ⟨h1, h2, h3⟩ := chunkLoop_ok _ _ _ _ _ _ _ _ hcl
      refine ⟨h1, ?_, ?_⟩
      · simp only
        rw [h2, List.filter_append]
        congr 1
        apply List.filter_eq_self.mpr
        intro k hk
        simp only [decide_eq_true_eq]
        intro hkept
        exact hfr k hk (keptOf_hx hkept)
      · simp only [h3]; rfl

theorem delsOf_hx {maxRow : Nat} {hx : HashX} {rows : List Row} (hr : ∀ e ∈ rows, e.1.1 = hx)
    {k : HashX × Nat} (h : k ∈ delsOf maxRow hx rows) : k.1 = hx := by
  unfold delsOf at h
  obtain ⟨e, he, rfl⟩ := List.mem_map.mp (List.mem_filter.mp h).1
  exact hr e he

end EV.Compact
