import EV.Proofs.Rpc

/-! For C16: the replies of the handler bodies that use no cache, each classified once. -/
namespace EV.Rpc

theorem rawHeader_refuses (w : World) (h : Nat) : Refuses (rawHeader w h) := by
  unfold rawHeader
  split
  · exact .error
  · exact .ok _

theorem merkleProof_refuses (w : World) (cp h : Nat) : Refuses (merkleProof w cp h) := by
  unfold merkleProof
  split
  · exact .ok _
  · exact .error

theorem blockHeaderCore_cases (w : World) (h cp : Nat) :
    blockHeaderCore w h cp = .error (.rpcError Gen.badRequest) ∨
    ∃ raw p, blockHeaderCore w h cp = .ok (.header raw p) := by
  unfold blockHeaderCore
  refine (rawHeader_refuses w h).elim (.inl rfl) fun raw => ?_
  dsimp only
  split
  · exact .inr ⟨_, _, rfl⟩
  · exact (merkleProof_refuses w cp h).elim (.inl rfl) fun _ => .inr ⟨_, _, rfl⟩

/-- `OverflowError` needs the cost to be computed from the unclamped count -/
theorem blockHeadersCore_cases (cu : Bool) (cap : Nat) (w : World) (s c cp : Nat) :
    (cu = true ∧ blockHeadersCore cu cap w s c cp = .error .overflowError) ∨
    blockHeadersCore cu cap w s c cp = .error (.rpcError Gen.badRequest) ∨
    ∃ raw n p, blockHeadersCore cu cap w s c cp = .ok (.headers raw n cap p) := by
  unfold blockHeadersCore
  split
  · rename_i h; exact .inl ⟨(Bool.and_eq_true_iff.mp h).1, rfl⟩
  · split
    · exact (merkleProof_refuses w cp _).elim (.inr (.inl rfl)) fun _ => .inr (.inr ⟨_, _, _, rfl⟩)
    · exact .inr (.inr ⟨_, _, _, rfl⟩)

/-- the exceptions `getaddrinfo` is assumed to raise (by class name) -/
def ResolverRaises (raises : List String) (w : World) : Prop :=
  ∀ host e, w.resolve host = .error e → raises.contains e.name = true

theorem execAddPeerWith_eq (caught : List String) (w : World) (f : J) :
    ∃ res, (∀ st, execAddPeerWith caught w st f =
        ({ st with sess := { st.sess with isPeer := true } }, res)) ∧
      ((∃ b, res = .ok (.bool b)) ∨
        ∃ host e, w.resolve host = .error e ∧ caught.contains e.name = false ∧ res = .error e) := by
  unfold execAddPeerWith
  cases w.discoveryOn
  · exact ⟨_, fun _ => rfl, .inl ⟨_, rfl⟩⟩
  · cases firstHost f with
    | none => exact ⟨_, fun _ => rfl, .inl ⟨_, rfl⟩⟩
    | some host =>
      dsimp only
      cases w.skipResolve host
      · cases he : w.resolve host with
        | ok permit => exact ⟨_, fun _ => rfl, .inl ⟨_, rfl⟩⟩
        | error e =>
          dsimp only
          cases hc : caught.contains e.name
          · exact ⟨_, fun _ => rfl, .inr ⟨host, e, he, hc, rfl⟩⟩
          · exact ⟨_, fun _ => rfl, .inl ⟨_, rfl⟩⟩
      · exact ⟨_, fun _ => rfl, .inl ⟨_, rfl⟩⟩

/-- `server.version` does not read the manager, and leaves it alone -/
theorem execVersion_cases (w : World) (s : Sess) (n p : J) :
    (∀ m, execVersion w { sess := s, mgr := m } n p =
      ({ sess := s, mgr := m }, .error (.rpcError Gen.badRequest))) ∨
    (∃ e, (∀ m, execVersion w { sess := s, mgr := m } n p =
        ({ sess := { s with svSeen := true }, mgr := m }, .error e)) ∧
      (e = .replyAndDisconnect Gen.badRequest ∨
        protocolVersion w.intOfStr p Gen.protocolMin Gen.protocolMax = .error e)) ∨
    ∃ pt, ∀ m, execVersion w { sess := s, mgr := m } n p =
      ({ sess := { s with svSeen := true, ptuple := pt }, mgr := m }, .ok .unit) := by
  unfold execVersion
  by_cases hs : s.svSeen = true
  · exact .inl fun _ => if_pos hs
  · cases (truthy n && w.dropClient n)
    · rcases hpv : protocolVersion w.intOfStr p Gen.protocolMin Gen.protocolMax with e | (_ | pt)
      · exact .inr (.inl ⟨e, fun _ => if_neg hs, .inr rfl⟩)
      · exact .inr (.inl ⟨_, fun _ => if_neg hs, .inl rfl⟩)
      · exact .inr (.inr ⟨pt, fun _ => if_neg hs⟩)
    · exact .inr (.inl ⟨_, fun _ => if_neg hs, .inl rfl⟩)

/-- closed facts about the generated constants that the totality of the bodies needs -/
def BodyOK (raises : List String) : Prop :=
  Gen.headersCostUnclamped = false ∧
  ∀ n ∈ raises, Gen.addPeerCaught.contains n = true

instance (raises : List String) : Decidable (BodyOK raises) := by unfold BodyOK; infer_instance

end EV.Rpc
