import EV.Proofs.CompactScan

/-!
One `_compact_history` batch: the table after the batch has, for every hashX of the prefixes scanned,
exactly the re-chunked rows `0 … n-1`, and is untouched for every other hashX (`CompactedOn`); hence
`get_txnums` is unchanged for every hashX.  `Batch` adds the book-keeping (`comp_flush_count` bounds every
compacted id, cursor arithmetic) and is all that the invariant (`CompactInv`, `CompactRun`) knows of a batch;
only totality (`CompactTotal`) goes back to the list of `_compact_hashX` calls.
-/
namespace EV.Compact
open EV.Index

def callWrites (maxRow : Nat) (c : Call) : List Row := writesOf c.1 c.2 (chunksOf maxRow c.2) 0
def callDels (maxRow : Nat) (c : Call) : List (HashX × Nat) := delsOf maxRow c.1 c.2
/-- number of rows the hashX of this call has after compaction -/
def callRows (maxRow : Nat) (c : Call) : Nat := (chunksOf maxRow c.2).length

/-- a sequence of `_compact_hashX` calls for distinct hashXs: `hfr` of `compactHashX_ok` holds at each
    call because the keys added so far belong to the earlier, different hashXs (`hnd`, `hrows`) -/
theorem foldCalls_ok (maxRow : Nat) (calls : List Call) (acc acc' : CAcc)
    (hnd : (calls.map (·.1)).Nodup) (hrows : ∀ c ∈ calls, ∀ e ∈ c.2, e.1.1 = c.1)
    (hfr : ∀ k ∈ acc.dels, k.1 ∉ calls.map (·.1))
    (h : foldCalls maxRow calls acc = .ok acc') :
    acc'.writes = acc.writes ++ calls.flatMap (callWrites maxRow) ∧
    acc'.dels = acc.dels ++ calls.flatMap (callDels maxRow) ∧
    acc.cfc ≤ acc'.cfc ∧
    (∀ c ∈ calls, ((callRows maxRow c - 1 : Nat) : Int) ≤ acc'.cfc) ∧
    (acc'.cfc = acc.cfc ∨ ∃ c ∈ calls, acc'.cfc = ((callRows maxRow c - 1 : Nat) : Int)) := by
  induction calls generalizing acc with
  | nil =>
    simp only [foldCalls, Except.ok.injEq] at h
    subst h
    simp
  | cons c cs ih =>
    simp only [foldCalls] at h
    cases hc : compactHashX maxRow c.1 c.2 acc with
    | error e => rw [hc] at h; cases h
    | ok r =>
      rw [hc] at h
      obtain ⟨acc1, w⟩ := r
      simp only at h
      simp only [List.map_cons, List.nodup_cons] at hnd
      obtain ⟨g1, g2, g3⟩ := compactHashX_ok maxRow c.1 c.2 acc acc1 w
        (by intro k hk heq; exact hfr k hk (by simp [heq])) hc
      have hfr1 : ∀ k ∈ acc1.dels, k.1 ∉ cs.map (·.1) := by
        intro k hk
        rw [g2] at hk
        rcases List.mem_append.mp hk with hk | hk
        · intro hm; exact hfr k hk (by simp only [List.map_cons, List.mem_cons]; exact Or.inr hm)
        · rw [delsOf_hx (hrows c List.mem_cons_self) hk]; exact hnd.1
      obtain ⟨i1, i2, i3, i4, i5⟩ := ih acc1 hnd.2
        (fun c' hc' => hrows c' (List.mem_cons_of_mem _ hc')) hfr1 h
      refine ⟨?_, ?_, ?_, ?_, ?_⟩
      · rw [i1, g1, List.flatMap_cons, List.append_assoc]; rfl
      · rw [i2, g2, List.flatMap_cons, List.append_assoc]; rfl
      · rw [g3] at i3; omega
      · intro c' hc'
        rcases List.mem_cons.mp hc' with rfl | hc'
        · rw [g3] at i3; unfold callRows; omega
        · exact i4 c' hc'
      · rcases i5 with i5 | ⟨c', hc', i5⟩
        · rw [g3] at i5
          by_cases hmax : acc.cfc ≤ (((chunksOf maxRow c.2).length - 1 : Nat) : Int)
          · right; exact ⟨c, List.mem_cons_self, by unfold callRows; omega⟩
          · left; omega
        · right; exact ⟨c', List.mem_cons_of_mem _ hc', i5⟩

/-- the rows of one compacted hashX after the batch: deletes first, then puts -/
theorem rows_after_hashX {hist : List Row} (hn : NodupKeys hist) (maxRow : Nat) (hx : HashX) (e : Row)
    (he : e.1.1 = hx) :
    (e ∈ writesOf hx (rowsOf hist hx) (chunksOf maxRow (rowsOf hist hx)) 0 ∨
      (e ∈ hist ∧ e.1 ∉ delsOf maxRow hx (rowsOf hist hx) ∧
        e.1 ∉ (writesOf hx (rowsOf hist hx) (chunksOf maxRow (rowsOf hist hx)) 0).map (·.1))) ↔
    e ∈ newRows hx (chunksOf maxRow (rowsOf hist hx)) 0 := by
  have hM := nodupKeys_rowsOf hn hx
  constructor
  · rintro (h | ⟨h1, h2, _⟩)
    · exact (mem_writesOf.mp h).1
    · -- an old row that is not deleted is one whose key was taken out of `keys_to_delete` again
      have heM : e ∈ rowsOf hist hx := mem_rowsOf.mpr ⟨h1, he⟩
      have hkept : e.1 ∈ keptOf hx (rowsOf hist hx) (chunksOf maxRow (rowsOf hist hx)) 0 :=
        Decidable.by_contra fun hk =>
          h2 (List.mem_filter.mpr ⟨List.mem_map.mpr ⟨e, heM, rfl⟩, decide_eq_true hk⟩)
      obtain ⟨e', he', hl, hk⟩ := mem_keptOf.mp hkept
      have := alookup_of_mem_nodup hM (show (e.1, e.2) ∈ rowsOf hist hx from heM)
      rw [← hk, hl] at this
      rwa [← Prod.ext hk (Option.some.inj this)]
  · intro h
    by_cases hl : alookup e.1 (rowsOf hist hx) = some e.2
    · refine Or.inr ⟨(mem_rowsOf.mp (alookup_some_mem hl)).1, fun hm => ?_, fun hm => ?_⟩
      · exact of_decide_eq_true (List.mem_filter.mp hm).2 (mem_keptOf.mpr ⟨e, h, hl, rfl⟩)
      · obtain ⟨e', he', hk⟩ := List.mem_map.mp hm
        obtain ⟨hn', hl'⟩ := mem_writesOf.mp he'
        rw [eq_of_nodup_map (nodupKeys_newRows _ _ _) hn' h hk] at hl'
        exact hl' hl
    · exact Or.inl (mem_writesOf.mpr ⟨h, hl⟩)

def batchStore (maxRow : Nat) (p : Store) (calls : List Call) (st : HState) : Store :=
  applyEffect p (.histBatch (calls.flatMap (callDels maxRow)) (calls.flatMap (callWrites maxRow)) st)

/-- number of rows the history of `hx` occupies once compacted -/
def nchunks (maxRow : Nat) (p : Store) (hx : HashX) : Nat := (chunks maxRow (getTxnums p hx none)).length

/-- the rows of `hx` once compacted: its history re-chunked under the ids `0 … nchunks-1` -/
def compactRows (maxRow : Nat) (p : Store) (hx : HashX) : List Row :=
  newRows hx (chunks maxRow (getTxnums p hx none)) 0

theorem compactRows_bounds {maxRow : Nat} {p : Store} {hx : HashX} {r : Row} (h : r ∈ compactRows maxRow p hx) :
    r.1.1 = hx ∧ r.1.2 < nchunks maxRow p hx := by
  obtain ⟨h1, _, h3⟩ := newRows_bounds h
  exact ⟨h1, by unfold nchunks; omega⟩

theorem compactRows_ne_nil {maxRow : Nat} (hm : 0 < maxRow) {p : Store} {hx : HashX} {r : Row}
    (h : r ∈ compactRows maxRow p hx) : r.2 ≠ [] :=
  chunks_ne_nil maxRow hm _ _ (newRows_chunk_mem h)

theorem exists_row_of_compactRows {maxRow : Nat} {p : Store} {hx : HashX} {r : Row} (h : r ∈ compactRows maxRow p hx) :
    ∃ e ∈ p.hist, e.1.1 = hx := by
  cases hr : rowsOf p.hist hx with
  | nil => rw [compactRows, getTxnums_eq, hr] at h; cases h
  | cons e _ => exact ⟨e, mem_rowsOf.mp (hr ▸ List.mem_cons_self)⟩

/-- `p'` is `p` with every hashX of the prefixes `lo … hi-1` compacted -/
structure CompactedOn (maxRow lo hi : Nat) (p p' : Store) : Prop where
  nodup : NodupKeys p'.hist
  inside : ∀ r : Row, lo ≤ prefixOf r.1.1 → prefixOf r.1.1 < hi → (r ∈ p'.hist ↔ r ∈ compactRows maxRow p r.1.1)
  outside : ∀ r : Row, ¬ (lo ≤ prefixOf r.1.1 ∧ prefixOf r.1.1 < hi) → (r ∈ p'.hist ↔ r ∈ p.hist)

theorem compactedOn_batch (maxRow : Nat) (p : Store) (hn : NodupKeys p.hist) (calls : List Call) (lo hi : Nat)
    (hok : CallsOK p.hist calls lo hi) (st : HState) :
    CompactedOn maxRow lo hi p (batchStore maxRow p calls st) := by
  obtain ⟨hT, hO⟩ := mem_histBatch_flatMap (hxOf := fun c : Call => c.1) p st hok.nodup
    (D := callDels maxRow) (P := callWrites maxRow)
    (fun c hc k hk => delsOf_hx (hok.rows_hx c hc) hk) (fun c _ e he => writesOf_hx he)
    (fun c _ => nodupKeys_writesOf _ _ _ _)
  -- a hashX of the range is called iff it has rows; one that has none has no compacted rows either
  have hcall : ∀ r : Row, r.1.1 ∉ calls.map (·.1) → lo ≤ prefixOf r.1.1 → prefixOf r.1.1 < hi →
      r ∉ p.hist ∧ r ∉ compactRows maxRow p r.1.1 := fun r hc h1 h2 =>
    ⟨fun he => hc (hok.complete r he h1 h2), fun hr => by
      obtain ⟨e, he, hx⟩ := exists_row_of_compactRows hr
      exact hc (hx ▸ hok.complete e he (hx ▸ h1) (hx ▸ h2))⟩
  refine ⟨nodupKeys_histBatch _ _ _ _ hn, fun r h1 h2 => ?_, fun r hout => ?_⟩
  · by_cases hc : r.1.1 ∈ calls.map (·.1)
    · obtain ⟨c, hc, hce⟩ := List.mem_map.mp hc
      have := rows_after_hashX hn maxRow c.1 r hce.symm
      rw [← (hok.rows c hc).1] at this
      have := (hT c hc r hce.symm).trans this
      rwa [(hok.rows c hc).1, hce] at this
    · exact (hO r hc).trans (iff_of_false (hcall r hc h1 h2).1 (hcall r hc h1 h2).2)
  · refine hO r fun hc => hout ?_
    obtain ⟨c, hc, hce⟩ := List.mem_map.mp hc
    exact hce ▸ (hok.rows c hc).2.2

theorem CompactedOn.row {maxRow lo hi : Nat} {p p' : Store} (hC : CompactedOn maxRow lo hi p p') {r : Row}
    (hr : r ∈ p'.hist) :
    (lo ≤ prefixOf r.1.1 ∧ prefixOf r.1.1 < hi ∧ r ∈ compactRows maxRow p r.1.1) ∨
    (r ∈ p.hist ∧ ¬ (lo ≤ prefixOf r.1.1 ∧ prefixOf r.1.1 < hi)) := by
  by_cases hin : lo ≤ prefixOf r.1.1 ∧ prefixOf r.1.1 < hi
  · exact Or.inl ⟨hin.1, hin.2, (hC.inside r hin.1 hin.2).mp hr⟩
  · exact Or.inr ⟨(hC.outside r hin).mp hr, hin⟩

theorem CompactedOn.getTxnums {maxRow lo hi : Nat} {p p' : Store} (hC : CompactedOn maxRow lo hi p p')
    (hm : 0 < maxRow) (hn : NodupKeys p.hist) (hx : HashX) : getTxnums p' hx none = getTxnums p hx none := by
  by_cases hr : lo ≤ prefixOf hx ∧ prefixOf hx < hi
  · rw [getTxnums_eq, rowsOf_char hC.nodup hx (compactRows maxRow p hx) (newRows_pairwise _ _ _), compactRows,
      newRows_flatMap, chunks_flatten maxRow hm]
    intro e
    constructor
    · intro he
      obtain ⟨h1, _⟩ := compactRows_bounds he
      exact ⟨(hC.inside e (h1 ▸ hr.1) (h1 ▸ hr.2)).mpr (h1 ▸ he), h1⟩
    · rintro ⟨he, rfl⟩
      exact (hC.inside e hr.1 hr.2).mp he
  · rw [getTxnums_eq, getTxnums_eq, rowsOf_congr hn hC.nodup hx]
    intro e he
    exact hC.outside e (he ▸ hr)

theorem flushCompaction_effect (m : Mem) (cursor : Int) (acc : CAcc) :
    (flushCompaction m cursor acc).1 =
      .histBatch acc.dels acc.writes (hstateOf (flushCompaction m cursor acc).2) := by
  unfold flushCompaction; split <;> rfl

/-- what a `_compact_history` call that returns has done: `k` prefixes from the cursor on are compacted (at
    least one, given a positive limit and a cursor before the end) by one write batch that carries the new
    in-memory state; `cfc'`, the new `comp_flush_count`, is the old one or the last id of a compacted hashX,
    whichever is larger -/
structure Batch (maxRow limit : Nat) (s : Sys) (e : Effect) (s' : Sys) (k : Nat) (cfc' : Int) : Prop where
  le : k ≤ (65536 - s.m.compCursor).toNat
  nonneg : 0 < k → 0 ≤ s.m.compCursor
  pos : 0 < limit → s.m.compCursor < 65536 → 0 < k
  mem : s'.m = (flushCompaction s.m (s.m.compCursor + k) { cfc := cfc' }).2
  eff : ∃ dels puts, e = .histBatch dels puts (hstateOf s'.m)
  store : s'.p = applyEffect s.p e
  rows : CompactedOn maxRow s.m.compCursor.toNat (s.m.compCursor.toNat + k) s.p s'.p
  cfc_le : s.m.compFlush ≤ cfc'
  cfc_rows : ∀ r ∈ s.p.hist, s.m.compCursor.toNat ≤ prefixOf r.1.1 → prefixOf r.1.1 < s.m.compCursor.toNat + k →
    ((nchunks maxRow s.p r.1.1 - 1 : Nat) : Int) ≤ cfc'
  cfc_eq : cfc' = s.m.compFlush ∨ ∃ hx, cfc' = ((nchunks maxRow s.p hx - 1 : Nat) : Int)

theorem compactHistory_ok (maxRow limit : Nat) (s : Sys) (e : Effect) (s' : Sys)
    (hn : NodupKeys s.p.hist) (h : compactHistory maxRow limit s = .ok (e, s')) :
    ∃ (k : Nat) (cfc' : Int), Batch maxRow limit s e s' k cfc' := by
  unfold compactHistory at h
  split at h
  · cases h
  · next cursor' acc' ws' hl =>
    simp only [Except.ok.injEq, Prod.mk.injEq] at h
    obtain ⟨rfl, rfl⟩ := h
    obtain ⟨k, rfl, k2, k3, k4, k5⟩ := histLoop_calls _ _ _ _ _ _ _ _ _ _ hl
    have hok := callsRange_ok s.p hn k s.m.compCursor.toNat
    obtain ⟨f1, f2, f3, f4, f5⟩ := foldCalls_ok maxRow _ _ _ hok.nodup hok.rows_hx (by simp) k5
    simp only [List.nil_append] at f1 f2
    have he := flushCompaction_effect s.m (s.m.compCursor + k) acc'
    -- a call gets the rows of its hashX, so it counts the chunks of that history
    have hrows : ∀ c ∈ callsRange s.p k s.m.compCursor.toNat, callRows maxRow c = nchunks maxRow s.p c.1 :=
      fun c hc => by unfold callRows nchunks chunksOf fullHist; rw [(hok.rows c hc).1, getTxnums_eq]
    refine ⟨k, acc'.cfc, k2, k3, fun hl hc => k4 (Int.lt_toNat.mpr (Int.sub_pos.mpr hc)) hl hc,
      by unfold flushCompaction; split <;> rfl, ⟨_, _, he⟩, rfl, ?_, f3, fun r hr h1 h2 => ?_, f5.imp_right ?_⟩
    · show CompactedOn _ _ _ _ (applyEffect s.p _)
      rw [he, f1, f2]
      exact compactedOn_batch maxRow s.p hn _ _ _ hok _
    · obtain ⟨c, hc, hce⟩ := List.mem_map.mp (hok.complete r hr h1 h2)
      rw [← hce, ← hrows c hc]
      exact f4 c hc
    · rintro ⟨c, hc, h⟩
      exact ⟨c.1, by rw [← hrows c hc]; exact h⟩

end EV.Compact
