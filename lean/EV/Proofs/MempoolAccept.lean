import EV.Proofs.MempoolBasic

/-!
`_accept_transactions` under a sound environment: every step either defers (KeyError) or accepts
with the *true* funding pairs; never an IndexError; `MpInv` is preserved.  `AcceptFacts` collects the
facts about one run of the loop, `CallFacts` those about one call.
-/
namespace EV.Mempool

/-- transactions only name outputs that exist: if the parent is a known transaction, the output
    index is within its outputs.  (What makes the uncaught `IndexError` impossible.) -/
def Valid (W : Hash → Option RawTx) : Prop :=
  ∀ h t, W h = some t → ∀ p ∈ (mkTx t).prevouts, ∀ t', W p.1 = some t' → p.2 < t'.outs.length

/-- the daemon and the index may answer late, early or not at all, but never falsely -/
structure EnvSound (W : Hash → Option RawTx) (fetch : Hash → Option RawTx)
    (lookup : Nat → List Prevout → List (Option Pair)) : Prop where
  /-- a raw transaction delivered for hash `h` is the transaction with id `h` -/
  fetch : ∀ h t, fetch h = some t → W h = some t
  valid : Valid W
  /-- `lookup_utxos` answers `None` or the true `(hashX, value)` of that output -/
  lookup : ∀ k ps p pr, (p, some pr) ∈ List.zip ps (lookup k ps) → truePair W p = some pr

variable {W : Hash → Option RawTx} {um : UtxoMap}

theorem resolve_spec {st : St} (hinv : MpInv W st) (hum : UmSound W um) (p : Prevout) :
    match resolve st.txs um p with
    | .found pr => truePair W p = some pr
    | .keyErr => umGet um p = none ∧ p.1 ∉ st.txs.map (·.1)
    | .indexErr => ∃ t', W p.1 = some t' ∧ ¬ p.2 < t'.outs.length := by
  unfold resolve
  cases h1 : umGet um p with
  | some pr => exact hum _ _ (umGet_some_mem h1)
  | none =>
    cases h2 : dget st.txs p.1 with
    | none => exact ⟨rfl, dget_none_iff.mp h2⟩
    | some tx =>
      obtain ⟨t, g1, _, g3, _⟩ := hinv.true _ (dget_some_mem h2)
      dsimp only
      cases h3 : tx.outPairs[p.2]? with
      | none => exact ⟨t, g1, Nat.not_lt.mpr (List.getElem?_eq_none_iff.mp (g3 ▸ h3))⟩
      | some pr =>
        dsimp only
        rw [truePair, g1]
        exact (g3 ▸ h3 : t.outs[p.2]? = some pr)

theorem resolveAll_cases {st : St} (hinv : MpInv W st) (hum : UmSound W um) (ps : List Prevout)
    (hv : ∀ p ∈ ps, ∀ t', W p.1 = some t' → p.2 < t'.outs.length) :
    (resolveAll st.txs um ps = .error .keyError ∧
        ∃ p ∈ ps, umGet um p = none ∧ p.1 ∉ st.txs.map (·.1)) ∨
      ∃ l, resolveAll st.txs um ps = .ok l ∧ l.map some = ps.map (truePair W) := by
  induction ps with
  | nil => exact Or.inr ⟨[], rfl, rfl⟩
  | cons p ps ih =>
    have hp := resolve_spec hinv hum p
    rw [resolveAll]
    cases h : resolve st.txs um p with
    | keyErr => rw [h] at hp; exact Or.inl ⟨rfl, p, List.mem_cons_self, hp⟩
    | indexErr =>
      rw [h] at hp
      obtain ⟨t', h1, h2⟩ := hp
      exact absurd (hv p List.mem_cons_self t' h1) h2
    | found pr =>
      rw [h] at hp
      rcases ih (fun p' hp' => hv p' (List.mem_cons_of_mem _ hp')) with ⟨h1, p', h2, h3⟩ | ⟨l, h1, h2⟩
      · exact Or.inl ⟨by simp only [h1], p', List.mem_cons_of_mem _ h2, h3⟩
      · exact Or.inr ⟨pr :: l, by simp only [h1], by rw [List.map_cons, List.map_cons, h2, hp]⟩

/-- the state after `txs[h] = tx; hashXs[...].add(h)` -/
def acceptInto (st : St) (h : Hash) (tx : MemPoolTx) : St :=
  { txs := dset st.txs h tx,
    hashXs := hxAddAll st.hashXs h ((tx.inPairs ++ tx.outPairs).map (·.1)) }

theorem mem_dset_true {st : St} {h : Hash} {tx : MemPoolTx} (hinv : MpInv W st) (ht : TrueTx W h tx)
    (e' : Hash × MemPoolTx) :
    e' ∈ dset st.txs h tx ↔ e' ∈ st.txs ∨ e' = (h, tx) := by
  obtain ⟨k', v'⟩ := e'
  rw [mem_dset hinv.txKeys, Prod.mk.injEq]
  constructor
  · rintro (h1 | ⟨_, h1⟩)
    · exact Or.inr h1
    · exact Or.inl h1
  · rintro (h1 | h1)
    · by_cases hk : k' = h
      · -- an entry already stored under `h` is the same true record: nothing is overwritten
        subst hk
        exact Or.inl ⟨rfl, TrueTx_unique (hinv.true _ h1) ht⟩
      · exact Or.inr ⟨hk, h1⟩
    · exact Or.inl h1

theorem MpInv_acceptInto {st : St} {h : Hash} {tx : MemPoolTx} (hinv : MpInv W st)
    (ht : TrueTx W h tx) : MpInv W (acceptInto st h tx) := by
  have hmem := mem_dset_true hinv ht
  refine ⟨nodup_keys_dset h tx hinv.txKeys, HxWF_hxAddAll h hinv.wf, fun x h' => ?_, fun e' he' => ?_⟩
  · rw [acceptInto, idx_hxAddAll, hinv.inverse]
    constructor
    · rintro (⟨tx', h1, h2⟩ | ⟨h1, h2⟩)
      · exact ⟨tx', (hmem _).mpr (Or.inl h1), h2⟩
      · exact ⟨tx, (hmem _).mpr (Or.inr (h1 ▸ rfl)), mem_txHashXs.mpr h2⟩
    · rintro ⟨tx', h1, h2⟩
      rcases (hmem _).mp h1 with h3 | h3
      · exact Or.inl ⟨tx', h3, h2⟩
      · cases h3; exact Or.inr ⟨rfl, mem_txHashXs.mp h2⟩
  · rcases (hmem _).mp he' with h1 | h1
    · exact hinv.true _ h1
    · rw [h1]; exact ht

theorem TrueTx_accepted {e : Hash × MemPoolTx} {l : List Pair} (he : Fetched W e)
    (hl : l.map some = e.2.prevouts.map (truePair W)) :
    TrueTx W e.1 (accepted e.2 l) := by
  obtain ⟨t, h1, h2⟩ := he
  exact ⟨t, h1, congrArg (·.prevouts) h2, congrArg (·.outPairs) h2, congrArg (·.size) h2, hl, rfl⟩

def ReadyAt (um : UtxoMap) (st : St) (e : Hash × MemPoolTx) : Prop :=
  ∀ p ∈ e.2.prevouts, (∃ pr, umGet um p = some pr) ∨ p.1 ∈ st.txs.map (·.1)

def deferAcc (a : Acc) (e : Hash × MemPoolTx) : Acc :=
  { st := a.st, deferred := a.deferred ++ [e], spent := a.spent, touched := a.touched }

def acceptAcc (a : Acc) (e : Hash × MemPoolTx) (l : List Pair) : Acc :=
  { st := acceptInto a.st e.1 (accepted e.2 l), deferred := a.deferred,
    spent := a.spent ++ e.2.prevouts, touched := a.touched ++ (l ++ e.2.outPairs).map (·.1) }

theorem acceptStep_cases {a : Acc} {e : Hash × MemPoolTx} (hinv : MpInv W a.st) (hum : UmSound W um)
    (hval : Valid W) (he : Fetched W e) :
    (¬ ReadyAt um a.st e ∧ acceptStep um a e = .ok (deferAcc a e)) ∨
    (∃ l, TrueTx W e.1 (accepted e.2 l) ∧ acceptStep um a e = .ok (acceptAcc a e l)) := by
  have ⟨t, ht, hmk⟩ := he
  rcases resolveAll_cases hinv hum e.2.prevouts (hmk ▸ hval e.1 t ht) with
    ⟨h1, p, hp, h2, h3⟩ | ⟨l, h1, h2⟩
  · refine Or.inl ⟨fun hr => ?_, by simp only [acceptStep, h1, deferAcc]⟩
    rcases hr p hp with ⟨pr, h4⟩ | h4
    · rw [h2] at h4; cases h4
    · exact h3 h4
  · exact Or.inr ⟨l, TrueTx_accepted he h2,
      by simp only [acceptStep, h1, acceptAcc, acceptInto, accepted]⟩

/-- what one run of the `for tx_hash, tx in tx_map.items()` loop over `L` does: it takes the
    accumulator `a` to `a'` and defers the entries `D` of `L` -/
structure AcceptFacts (W : Hash → Option RawTx) (um : UtxoMap) (a : Acc) (L : TxMap) (a' : Acc)
    (D : TxMap) : Prop where
  inv : MpInv W a'.st
  mono : ∀ e ∈ a.st.txs, e ∈ a'.st.txs
  newKeys : ∀ e' ∈ a'.st.txs, e' ∈ a.st.txs ∨ e'.1 ∈ L.map (·.1)
  touchedMono : ∀ x ∈ a.touched, x ∈ a'.touched
  touchedNew : ∀ e' ∈ a'.st.txs, e' ∈ a.st.txs ∨ ∀ x ∈ txHashXs e'.2, x ∈ a'.touched
  deferredEq : a'.deferred = a.deferred ++ D
  sub : D.Sublist L
  cover : ∀ e ∈ L, e.1 ∈ a'.st.txs.map (·.1) ∨ e ∈ D
  spent : (L.map (·.1)).Nodup →
    ∀ p ∈ a'.spent, p ∈ a.spent ∨ ∃ e ∈ L, p ∈ e.2.prevouts ∧ e.1 ∉ D.map (·.1)
  /-- a transaction that is ready when the loop starts is not deferred: the batch shrinks -/
  progress : (∃ e ∈ L, ReadyAt um a.st e) → D.length < L.length

theorem AcceptFacts.nil {a : Acc} (hinv : MpInv W a.st) :
    AcceptFacts W um a [] a [] where
  inv := hinv
  mono := fun _ h => h
  newKeys := fun _ h => Or.inl h
  touchedMono := fun _ h => h
  touchedNew := fun _ h => Or.inl h
  deferredEq := (List.append_nil _).symm
  sub := List.Sublist.refl _
  cover := fun _ h => nomatch h
  spent := fun _ _ hp => Or.inl hp
  progress := fun ⟨_, he, _⟩ => nomatch he

theorem AcceptFacts.defer {a a' : Acc} {e : Hash × MemPoolTx} {rest D : TxMap}
    (hnot : ¬ ReadyAt um a.st e) (F : AcceptFacts W um (deferAcc a e) rest a' D) :
    AcceptFacts W um a (e :: rest) a' (e :: D) where
  inv := F.inv
  mono := F.mono
  newKeys := fun e' h => (F.newKeys e' h).imp id (List.mem_cons_of_mem _)
  touchedMono := F.touchedMono
  touchedNew := F.touchedNew
  deferredEq := F.deferredEq.trans (List.append_assoc _ _ _)
  sub := F.sub.cons_cons e
  cover := fun e' he' => (List.mem_cons.mp he').elim (fun h => Or.inr (h ▸ List.mem_cons_self))
    fun h => (F.cover e' h).imp id (List.mem_cons_of_mem _)
  spent := by
    intro hn p hp
    have hn := List.nodup_cons.mp hn
    rcases F.spent hn.2 p hp with h2 | ⟨e2, h2, h3, h4⟩
    · exact Or.inl h2
    · refine Or.inr ⟨e2, List.mem_cons_of_mem _ h2, h3, fun h5 => ?_⟩
      rcases List.mem_cons.mp h5 with h6 | h6
      · exact hn.1 (h6 ▸ List.mem_map.mpr ⟨e2, h2, rfl⟩)
      · exact h4 h6
  progress := by
    rintro ⟨e0, he0, hr0⟩
    rcases List.mem_cons.mp he0 with h2 | h2
    · exact absurd (h2 ▸ hr0) hnot
    · exact Nat.succ_lt_succ (F.progress ⟨e0, h2, hr0⟩)

theorem AcceptFacts.accept {a a' : Acc} {e : Hash × MemPoolTx} {l : List Pair} {rest D : TxMap}
    (hinv : MpInv W a.st) (htrue : TrueTx W e.1 (accepted e.2 l))
    (F : AcceptFacts W um (acceptAcc a e l) rest a' D) :
    AcceptFacts W um a (e :: rest) a' D := by
  have hmem : ∀ e', e' ∈ (acceptAcc a e l).st.txs ↔ e' ∈ a.st.txs ∨ e' = (e.1, accepted e.2 l) :=
    mem_dset_true hinv htrue
  have hstored : (e.1, accepted e.2 l) ∈ a'.st.txs := F.mono _ ((hmem _).mpr (Or.inr rfl))
  exact {
    inv := F.inv
    mono := fun e' h => F.mono e' ((hmem e').mpr (Or.inl h))
    newKeys := fun e' h => (F.newKeys e' h).elim
      (fun h2 => ((hmem e').mp h2).imp id fun h3 => by rw [h3]; exact List.mem_cons_self)
      (fun h2 => Or.inr (List.mem_cons_of_mem _ h2))
    touchedMono := fun x h => F.touchedMono x (List.mem_append_left _ h)
    touchedNew := fun e' h => (F.touchedNew e' h).elim
      (fun h2 => ((hmem e').mp h2).imp id fun h3 x hx => by
        rw [h3] at hx
        exact F.touchedMono x (List.mem_append_right _ (mem_txHashXs.mp hx)))
      Or.inr
    deferredEq := F.deferredEq
    sub := F.sub.cons e
    cover := fun e' he' => (List.mem_cons.mp he').elim
      (fun h => Or.inl (h ▸ List.mem_map.mpr ⟨_, hstored, rfl⟩)) (F.cover e')
    spent := by
      intro hn p hp
      have hn := List.nodup_cons.mp hn
      rcases F.spent hn.2 p hp with h2 | ⟨e2, h2, h3, h4⟩
      · rcases List.mem_append.mp h2 with h2 | h2
        · exact Or.inl h2
        · refine Or.inr ⟨e, List.mem_cons_self, h2, fun h5 => ?_⟩
          obtain ⟨e3, h6, h7⟩ := List.mem_map.mp h5
          exact hn.1 (List.mem_map.mpr ⟨e3, F.sub.subset h6, h7⟩)
      · exact Or.inr ⟨e2, List.mem_cons_of_mem _ h2, h3, h4⟩
    progress := fun _ => Nat.lt_succ_of_le F.sub.length_le }

theorem acceptLoop_facts (hum : UmSound W um) (hval : Valid W) (L : TxMap) :
    ∀ (a : Acc), MpInv W a.st → (∀ e ∈ L, Fetched W e) →
      ∃ a' D, acceptLoop um a L = .ok a' ∧ AcceptFacts W um a L a' D := by
  induction L with
  | nil => exact fun a hinv _ => ⟨a, [], rfl, .nil hinv⟩
  | cons e rest ih =>
    intro a hinv hL
    have hrest : ∀ e' ∈ rest, Fetched W e' := fun e' h => hL e' (List.mem_cons_of_mem _ h)
    rw [acceptLoop]
    rcases acceptStep_cases hinv hum hval (hL e List.mem_cons_self) with
      ⟨hnot, hstep⟩ | ⟨l, htrue, hstep⟩
    · obtain ⟨a', D, h1, F⟩ := ih (deferAcc a e) hinv hrest
      exact ⟨a', e :: D, by rw [hstep]; exact h1, F.defer hnot⟩
    · obtain ⟨a', D, h1, F⟩ := ih (acceptAcc a e l) (MpInv_acceptInto hinv htrue) hrest
      exact ⟨a', D, by rw [hstep]; exact h1, F.accept hinv htrue⟩

structure CallFacts (W : Hash → Option RawTx) (st : St) (L : TxMap) (um : UtxoMap)
    (touched : List HashX) (r : AcceptResult) : Prop where
  inv : MpInv W r.st
  mono : ∀ e ∈ st.txs, e ∈ r.st.txs
  newKeys : ∀ e' ∈ r.st.txs, e' ∈ st.txs ∨ e'.1 ∈ L.map (·.1)
  touchedMono : ∀ x ∈ touched, x ∈ r.touched
  touchedNew : ∀ e' ∈ r.st.txs, e' ∈ st.txs ∨ ∀ x ∈ txHashXs e'.2, x ∈ r.touched
  sub : r.deferred.Sublist L
  cover : ∀ e ∈ L, e.1 ∈ r.st.txs.map (·.1) ∨ e ∈ r.deferred
  unspentSub : ∀ b ∈ r.unspent, b ∈ um
  unspentKeep : (L.map (·.1)).Nodup → ∀ b ∈ um,
    b ∈ r.unspent ∨ ∃ e ∈ L, b.1 ∈ e.2.prevouts ∧ e.1 ∉ r.deferred.map (·.1)
  progress : (∃ e ∈ L, ReadyAt um st e) → r.deferred.length < L.length

theorem acceptTransactions_facts (hum : UmSound W um) (hval : Valid W) {st : St} (hinv : MpInv W st)
    {L : TxMap} (hL : ∀ e ∈ L, Fetched W e) (touched : List HashX) :
    ∃ r, acceptTransactions st L um touched = .ok r ∧ CallFacts W st L um touched r := by
  obtain ⟨a', D, h1, F⟩ := acceptLoop_facts hum hval L
    { st := st, deferred := [], spent := [], touched := touched } hinv hL
  refine ⟨{ st := a'.st, deferred := a'.deferred,
            unspent := um.filter (fun e => !a'.spent.contains e.1), touched := a'.touched },
          by simp only [acceptTransactions, h1], ?_⟩
  have hD : a'.deferred = D := F.deferredEq
  exact {
    inv := F.inv, mono := F.mono, newKeys := F.newKeys, touchedMono := F.touchedMono,
    touchedNew := F.touchedNew
    sub := hD ▸ F.sub
    cover := hD ▸ F.cover
    unspentSub := fun b hb => (List.mem_filter.mp hb).1
    unspentKeep := by
      intro hn b hb
      by_cases hs : b.1 ∈ a'.spent
      · rcases F.spent hn _ hs with h2 | h2
        · cases h2
        · right; rw [hD]; exact h2
      · exact Or.inl (List.mem_filter.mpr ⟨hb, not_contains_iff.mpr hs⟩)
    progress := hD ▸ F.progress }

end EV.Mempool
