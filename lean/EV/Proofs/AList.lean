import EV.Model.Index
import EV.Proofs.Dict

/-! Association-list facts (`alookup`, `aerase`, `ainsert`). -/
namespace EV.Index

variable {κ ν : Type} [DecidableEq κ]

@[simp] theorem alookup_nil (k : κ) : alookup k ([] : List (κ × ν)) = none := rfl

theorem alookup_cons (k k' : κ) (v : ν) (l : List (κ × ν)) :
    alookup k ((k', v) :: l) = if k' = k then some v else alookup k l := rfl

theorem alookup_isLookup : IsLookup (alookup (κ := κ) (ν := ν)) := ⟨fun _ => rfl, fun _ _ _ _ => rfl⟩

theorem alookup_aerase (k k' : κ) (l : List (κ × ν)) :
    alookup k (aerase k' l) = if k' = k then none else alookup k l :=
  alookup_isLookup.erase k k' l

theorem alookup_ainsert (k k' : κ) (v : ν) (l : List (κ × ν)) :
    alookup k (ainsert k' v l) = if k' = k then some v else alookup k l :=
  alookup_isLookup.insert k k' v l

theorem alookup_some_mem {k : κ} {v : ν} {l : List (κ × ν)} (h : alookup k l = some v) :
    (k, v) ∈ l :=
  alookup_isLookup.some_mem h

theorem alookup_isSome_iff_mem_keys {k : κ} {l : List (κ × ν)} :
    (alookup k l).isSome ↔ k ∈ l.map (·.1) :=
  alookup_isLookup.isSome_iff

theorem alookup_none_of_not_mem_keys {k : κ} {l : List (κ × ν)} (h : k ∉ l.map (·.1)) :
    alookup k l = none :=
  alookup_isLookup.eq_none_iff.mpr h

theorem alookup_of_mem_nodup {k : κ} {v : ν} {l : List (κ × ν)} (hn : (l.map (·.1)).Nodup)
    (h : (k, v) ∈ l) : alookup k l = some v :=
  alookup_isLookup.of_mem hn h

theorem mem_aerase {k : κ} {l : List (κ × ν)} {e : κ × ν} :
    e ∈ aerase k l ↔ e ∈ l ∧ e.1 ≠ k := by
  simp [aerase, List.mem_filter]

theorem mem_ainsert {k : κ} {v : ν} {l : List (κ × ν)} {e : κ × ν} :
    e ∈ ainsert k v l ↔ e = (k, v) ∨ (e ∈ l ∧ e.1 ≠ k) := by
  simp [ainsert, mem_aerase]

theorem nodup_keys_aerase (k : κ) {l : List (κ × ν)} (hn : (l.map (·.1)).Nodup) :
    ((aerase k l).map (·.1)).Nodup := by
  simp only [aerase]
  exact List.Nodup.sublist (List.Sublist.map _ List.filter_sublist) hn

theorem nodup_keys_ainsert (k : κ) (v : ν) {l : List (κ × ν)} (hn : (l.map (·.1)).Nodup) :
    ((ainsert k v l).map (·.1)).Nodup := by
  simp only [ainsert, List.map_cons, List.nodup_cons]
  refine ⟨?_, nodup_keys_aerase k hn⟩
  intro h
  obtain ⟨e, he, hk⟩ := List.mem_map.mp h
  exact (mem_aerase.mp he).2 hk

def MapEq (a b : List (κ × ν)) : Prop := ∀ k, alookup k a = alookup k b

theorem MapEq.refl (a : List (κ × ν)) : MapEq a a := fun _ => rfl

theorem MapEq.symm {a b : List (κ × ν)} (h : MapEq a b) : MapEq b a := fun k => (h k).symm

theorem MapEq.trans {a b c : List (κ × ν)} (h1 : MapEq a b) (h2 : MapEq b c) : MapEq a c :=
  fun k => (h1 k).trans (h2 k)

theorem MapEq.aerase {a b : List (κ × ν)} (h : MapEq a b) (k : κ) :
    MapEq (Index.aerase k a) (Index.aerase k b) := by
  intro x; rw [alookup_aerase, alookup_aerase, h x]

theorem MapEq.ainsert {a b : List (κ × ν)} (h : MapEq a b) (k : κ) (v : ν) :
    MapEq (Index.ainsert k v a) (Index.ainsert k v b) := by
  intro x; rw [alookup_ainsert, alookup_ainsert, h x]

theorem MapEq.aerase_ainsert {a : List (κ × ν)} {k : κ} (v : ν) (h : alookup k a = none) :
    MapEq (Index.aerase k (Index.ainsert k v a)) a := by
  intro x
  rw [alookup_aerase, alookup_ainsert]
  by_cases hx : k = x
  · subst hx; simp [h]
  · simp [hx]

theorem MapEq.ainsert_aerase {a : List (κ × ν)} {k : κ} {v : ν} (h : alookup k a = some v) :
    MapEq (Index.ainsert k v (Index.aerase k a)) a := by
  intro x
  rw [alookup_ainsert, alookup_aerase]
  by_cases hx : k = x
  · subst hx; simp [h]
  · simp [hx]

theorem foldl_aerase_eq_filter (ks : List κ) (l : List (κ × ν)) :
    ks.foldl (fun t k => aerase k t) l = l.filter (fun e => !ks.contains e.1) := by
  induction ks generalizing l with
  | nil =>
    simp only [List.foldl_nil, List.contains_nil, Bool.not_false]
    rw [List.filter_eq_self.mpr]; intro a _; rfl
  | cons k ks ih =>
    rw [List.foldl_cons, ih, aerase, List.filter_filter]
    apply List.filter_congr
    intro e _
    by_cases h : e.1 = k <;> simp [h]

theorem mem_foldl_aerase (ks : List κ) (l : List (κ × ν)) (e : κ × ν) :
    e ∈ ks.foldl (fun t k => aerase k t) l ↔ e ∈ l ∧ e.1 ∉ ks := by
  simp [foldl_aerase_eq_filter]

theorem nodup_keys_foldl_aerase (ks : List κ) {l : List (κ × ν)} (hn : (l.map (·.1)).Nodup) :
    ((ks.foldl (fun t k => aerase k t) l).map (·.1)).Nodup :=
  hn.sublist ((foldl_sublist (fun _ _ => List.filter_sublist) ks l).map _)

theorem nodup_keys_foldl_ainsert (puts : List (κ × ν)) {l : List (κ × ν)}
    (hn : (l.map (·.1)).Nodup) :
    ((puts.foldl (fun t (k, v) => ainsert k v t) l).map (·.1)).Nodup :=
  List.foldlRecOn (motive := fun t : List (κ × ν) => (t.map (·.1)).Nodup) puts _ hn
    fun _ h p _ => nodup_keys_ainsert p.1 p.2 h

theorem mem_foldl_ainsert (puts : List (κ × ν)) (hp : (puts.map (·.1)).Nodup)
    (l : List (κ × ν)) (e : κ × ν) :
    e ∈ puts.foldl (fun t (k, v) => ainsert k v t) l ↔
      e ∈ puts ∨ (e ∈ l ∧ e.1 ∉ puts.map (·.1)) := by
  induction puts generalizing l with
  | nil => simp
  | cons p puts ih =>
    obtain ⟨k, v⟩ := p
    simp only [List.map_cons, List.nodup_cons] at hp
    simp only [List.foldl_cons, ih hp.2, mem_ainsert, List.mem_cons, List.map_cons, not_or]
    constructor
    · rintro (h | ⟨h | ⟨h1, h2⟩, h3⟩)
      · exact Or.inl (Or.inr h)
      · exact Or.inl (Or.inl h)
      · exact Or.inr ⟨h1, h2, h3⟩
    · rintro ((h | h) | ⟨h1, h2, h3⟩)
      · subst h; exact Or.inr ⟨Or.inl rfl, hp.1⟩
      · exact Or.inl h
      · exact Or.inr ⟨Or.inr ⟨h1, h2⟩, h3⟩

theorem alookup_append (k : κ) (a b : List (κ × ν)) :
    alookup k (a ++ b) = match alookup k a with
      | some v => some v
      | none => alookup k b := by
  simp only [alookup_isLookup.eq_find?, List.find?_append]
  cases a.find? (fun e => decide (e.1 = k)) <;> rfl
theorem alookup_foldl_ainsert (k : κ) (puts t : List (κ × ν)) :
    alookup k (puts.foldl (fun t (k, v) => ainsert k v t) t) =
      match alookup k puts.reverse with
      | some v => some v
      | none => alookup k t := by
  induction puts generalizing t with
  | nil => simp
  | cons p puts ih =>
    obtain ⟨k', v⟩ := p
    simp only [List.foldl_cons, List.reverse_cons, ih, alookup_append]
    cases alookup k puts.reverse with
    | some x => rfl
    | none =>
      simp only [alookup_ainsert, alookup_cons, alookup_nil]
      by_cases h : k' = k <;> simp [h]

theorem aerase_of_not_mem {k : κ} {l : List (κ × ν)} (h : k ∉ l.map (·.1)) : aerase k l = l :=
  List.filter_eq_self.mpr fun e he => by
    simpa using fun heq : e.1 = k => h (List.mem_map.mpr ⟨e, he, heq⟩)

theorem alookup_perm {l l' : List (κ × ν)} (hp : l.Perm l') (hn : (l.map (·.1)).Nodup) (k : κ) :
    alookup k l = alookup k l' := by
  rw [alookup_isLookup.eq_find?, alookup_isLookup.eq_find?, find?_key_perm (key := Prod.fst) hn hp]

theorem alookup_foldl_aerase_of_not_mem (ks : List κ) (k : κ) (hk : k ∉ ks)
    (l : List (κ × ν)) : alookup k (ks.foldl (fun t k => aerase k t) l) = alookup k l := by
  rw [foldl_aerase_eq_filter, alookup_isLookup.filter (fun a => !ks.contains a), if_pos (by simpa using hk)]

theorem keys_foldl_aerase (ks : List κ) (l : List (κ × ν)) (k : κ) :
    k ∈ (ks.foldl (fun t k => aerase k t) l).map (·.1) ↔ k ∈ l.map (·.1) ∧ k ∉ ks := by
  simp only [List.mem_map, mem_foldl_aerase]
  constructor
  · rintro ⟨e, ⟨he, hk⟩, rfl⟩; exact ⟨⟨e, he, rfl⟩, hk⟩
  · rintro ⟨⟨e, he, rfl⟩, hk⟩; exact ⟨e, ⟨he, hk⟩, rfl⟩

theorem mem_of_mem_foldl_ainsert (puts l : List (κ × ν)) :
    ∀ e ∈ puts.foldl (fun t (k, v) => ainsert k v t) l, e ∈ l ∨ e ∈ puts :=
  List.foldlRecOn (motive := fun t => ∀ e ∈ t, e ∈ l ∨ e ∈ puts) puts _ (fun _ he => .inl he)
    fun _ ht _ hp e he => (mem_ainsert.mp he).elim (fun h => .inr (h ▸ hp)) fun h => ht e h.1

end EV.Index
