import EV.Model.HeaderCache
import EV.Proofs.MerkleCache
import EV.Proofs.ListX
import EV.Proofs.StepX

/-!
C11, header proofs: one request of `EV.HeaderCache`.  `Move` lists what a step of its own (a read performed, a
read result delivered) can do to a request, for every `cfg`; `performReq_Move` and `deliverAll_Move` tie it to the
request functions, and what holds over such a step is proved by cases on it: the ghost history (`Move.seen`,
every `cfg`), `ReqOK` (`Move.ok`: needs the two `truncations` tests, `extFix` and `retry`), `HdrOK` (`Move.hdrOK`:
needs the check of the reply, `hdrCheck`, and `extFix` only to exclude the rule `pinned`).  The steps of the
environment are `reqOK_append/_lower/_trunc`, another request's delivery is `ReqOK.mono`.

`PcOK` says what is known at each wait point of a request *provided no truncation happened since
the counter was sampled* (`t = T` for the extension in flight, `t0 = T` for the iteration of
`branch_and_root`): everything read so far is a slice of the reference chain `ref`, the cache
already reaches `length`, the level prefix saved by `_level_for` is the level of `ref`.  A
truncation makes the guard false for ever (`t ≤ T`), which is exactly what the two `truncations`
tests of the code detect.  `ReqOK` adds the safety clause and the facts about the ghost history.

The last part (`HdrOK`, `HdrIn`) is about the headers of the reply, whatever cache and DB do: they
came from one read of a chain that was visible during the request, and a finished reply with a proof
passed the handler's consistency check (the check whose absence is F24).
-/
namespace EV.HeaderCache
open EV.Merkle

variable {Node : Type} (H : Node → Node → Node)

theorem srcSlice_of_prefix {src ref : List Node} (h : src <+: ref) (a n : Nat)
    (hn : n ≤ src.length - a) : srcSlice src a n = srcSlice ref a n := by
  obtain ⟨t, rfl⟩ := h
  simp only [srcSlice]
  by_cases h0 : n = 0
  · rw [h0, List.take_zero, List.take_zero]
  · -- a non-empty read inside `src` starts inside `src`
    have ha : a ≤ src.length := Nat.le_of_lt (Nat.lt_of_sub_pos (Nat.lt_of_lt_of_le (Nat.pos_of_ne_zero h0) hn))
    rw [List.drop_append_of_le_length ha, List.take_append_of_le_length (by rw [List.length_drop]; exact hn)]

theorem srcSlice_last {A hs : List Node} {a n : Nat} (h : hs = srcSlice A a n) (hne : hs ≠ []) :
    hs = (A.take (a + hs.length)).drop a ∧ hs.getLast? = A[a + hs.length - 1]? := by
  have hpos : 0 < hs.length := List.length_pos_iff.mpr hne
  have htake : hs = (A.drop a).take hs.length := by
    conv => lhs; rw [h, srcSlice]
    rw [List.take_eq_take_iff, h, srcSlice, List.length_take, Nat.min_assoc, Nat.min_self]
  have hlast : hs[hs.length - 1]? = ((A.drop a).take hs.length)[hs.length - 1]? :=
    congrArg (fun l => l[hs.length - 1]?) htake
  constructor
  · rw [List.drop_take, Nat.add_sub_cancel_left]; exact htake
  · rw [List.getLast?_eq_getElem?, hlast, List.getElem?_take_of_lt (Nat.sub_lt hpos Nat.one_pos), List.getElem?_drop,
      Nat.add_sub_assoc hpos]

/-- `hs` is what a read of `n` hashes from `a` returns on `ref`, and the read is not short (`readSrc` gives `.got`) -/
def Slice (ref : List Node) (a n : Nat) (hs : List Node) : Prop :=
  n ≤ ref.length - a ∧ hs = srcSlice ref a n

theorem Slice.mono {ref ref' : List Node} {a n : Nat} {hs : List Node} (h : Slice ref a n hs)
    (hp : ref <+: ref') : Slice ref' a n hs :=
  ⟨Nat.le_trans h.1 (Nat.sub_le_sub_right hp.length_le a), by rw [h.2]; exact srcSlice_of_prefix hp a n h.1⟩

theorem readSrc_slice {src ref : List Node} (hp : src <+: ref) {a n : Nat} {hs : List Node}
    (h : readSrc src a n = .got hs) : Slice ref a n hs := by
  unfold readSrc at h
  split at h
  · next hle =>
    injection h with h
    exact Slice.mono ⟨hle, h.symm⟩ hp
  · cases h

theorem leafStart_dh {c c' : Cache Node} (h : c'.depthHigher = c.depthHigher) (x : Nat) :
    c'.leafStart x = c.leafStart x := by simp only [Cache.leafStart, h]

theorem segLen_dh {c c' : Cache Node} (h : c'.depthHigher = c.depthHigher) : c'.segLen = c.segLen := by
  simp only [Cache.segLen, h]

theorem direct_eq (c : Cache Node) (ref hs : List Node) (len idx : Nat) (hsmall : len < c.segLen)
    (hidx : idx < len)
    (hsl : Slice ref (c.leafStart idx) (min c.segLen (len - c.leafStart idx)) hs) :
    hs = ref.take len :=
  hsl.2.trans (leaf_read_direct c ref len idx hsmall hidx)

theorem fromLevel_eq [DecidableEq Node] (c : Cache Node) (ref hs : List Node) (len idx : Nat)
    (hbig : ¬ len < c.segLen) (hidx : idx < len) (hlen : len ≤ ref.length)
    (hsl : Slice ref (c.leafStart idx) (min c.segLen (len - c.leafStart idx)) hs) :
    branchAndRootFromLevel H (.list (lvl H c.depthHigher (ref.take len))) (.list hs) (.int idx)
        c.depthHigher false =
      branchAndRoot H (ref.take len) (.int idx) none false :=
  hsl.2 ▸ leaf_read_level H false c ref len idx hbig hidx hlen

/-- what `_level_for` assembles: saved level prefix ++ level of the final partial segment -/
theorem level_rebuild (c : Cache Node) (ref : List Node) (len : Nat) :
    lvl H c.depthHigher (ref.take (c.leafStart len)) ++
        lvl H c.depthHigher (srcSlice ref (c.leafStart len) (min c.segLen (len - c.leafStart len))) =
      lvl H c.depthHigher (ref.take len) := by
  -- the final segment is partial: shorter than a segment
  rw [segLen_eq, Nat.min_eq_right (Nat.le_of_lt (sub_leafStart_lt c len)), leafStart_eq]
  exact lvl_take_split H _ _ len ref (leafStart_eq c len ▸ leafStart_le c len)

/-- the level prefix `_level_for` saves before its read -/
theorem pre_eq (c : Cache Node) (ref : List Node) (len : Nat) (hinv : CacheInv H c ref)
    (hlen : len ≤ c.length) :
    c.level.take (len >>> c.depthHigher) = lvl H c.depthHigher (ref.take (c.leafStart len)) :=
  Nat.shiftRight_eq_div_pow .. ▸ hinv.level_take H len (Nat.le_trans (leafStart_le c len) hlen)

/-- the two assignments at the end of `_extend_to`, when its test passes, are the atomic
    `_extend_to` of the C12 model on the reference chain -/
theorem write_eq {c : Cache Node} (ref : List Node) {lv : List Node} {len : Nat} (hlt : c.length < len)
    (hlv : Merkle.level H (srcSlice ref (c.leafStart c.length) (len - c.leafStart c.length))
      c.depthHigher = .ok lv) :
    writeExt c (c.leafStart c.length) len lv = (c.extendTo H ref len).1 := by
  unfold writeExt Cache.extendTo
  simp only [Nat.not_le_of_gt hlt, if_false, hlv]

theorem writeExt_length (c : Cache Node) (start len : Nat) (lv : List Node) :
    (writeExt c start len lv).length = len := rfl

theorem writeExt_ok {c : Cache Node} {ref hs : List Node} {len : Nat} (hinv : CacheInv H c ref)
    (hsl : Slice ref (c.leafStart c.length) (len - c.leafStart c.length) hs) (hlt : c.length < len) :
    CacheInv H (writeExt c (c.leafStart c.length) len (lvl H c.depthHigher hs)) ref := by
  -- the read starts below `len`, so it reaching `len - start` hashes means `ref` reaches `len`
  have hstart : c.leafStart c.length < len := Nat.lt_of_le_of_lt (leafStart_le c c.length) hlt
  have hin : c.leafStart c.length < ref.length :=
    Nat.lt_of_sub_pos (Nat.lt_of_lt_of_le (Nat.sub_pos_of_lt hstart) hsl.1)
  have hlen : len ≤ ref.length := (Nat.sub_le_sub_iff_right (Nat.le_of_lt hin)).mp hsl.1
  rw [write_eq H ref hlt (hsl.2 ▸ level_eq H hs _)]
  exact (extendTo_inv H c ref len hinv hlen).2.1

def PcOK (c : Cache Node) (T : Nat) (ref : List Node) (len idx t0 : Nat) : PC Node → Prop
  | .hdr _ => True
  | .ext t cl start rd =>
    t ≤ T ∧ start = c.leafStart cl ∧ cl < len ∧
      (t = T → ∀ hs, rd = .got hs → Slice ref start (len - start) hs)
  | .leaf rd =>
    t0 = T → len ≤ c.length ∧
      ∀ hs, rd = .got hs → Slice ref (c.leafStart idx) (min c.segLen (len - c.leafStart idx)) hs
  | .lvl pre leaf rd =>
    t0 = T → len ≤ c.length ∧ ¬ len < c.segLen ∧
      Slice ref (c.leafStart idx) (min c.segLen (len - c.leafStart idx)) leaf ∧
      pre = lvl H c.depthHigher (ref.take (c.leafStart len)) ∧
      ∀ hs, rd = .got hs → Slice ref (c.leafStart len) (min c.segLen (len - c.leafStart len)) hs
  | .done _ => True

/-- `c` the cache, `T` the truncation counter, `src` the visible chain, `ref` the reference chain the
    cache is judged against -/
structure ReqOK (c : Cache Node) (T : Nat) (src ref : List Node) (r : Req Node) : Prop where
  t0 : r.t0 ≤ T
  idx : r.proving = true → r.index < r.length
  pc : PcOK H c T ref r.length r.index r.t0 r.pc
  safe : r.Safe H
  head : r.active = true → r.seen.head? = some src
  /-- the linearization witness: a chain the request has seen reaches the checkpoint — the visible one,
      or the reference chain (the chain before a half-done back-out) — so an answer computed from `ref`
      is the answer for a chain in `seen` -/
  chain : r.proving = true → (r.length ≤ src.length ∨ ref ∈ r.seen)
  /-- while no back-out has overlapped the request, the chains it has seen only grew
      (`C11_header_current` rests on this) -/
  nobo : r.bo = false → ∀ S ∈ r.seen, ∀ h, r.seen.head? = some h → S <+: h

variable {c c' : Cache Node} {T T' : Nat} {src src' ref ref' : List Node} {r : Req Node}

theorem PcOK.carry {len idx t0 : Nat} {pc : PC Node} (hd : c'.depthHigher = c.depthHigher)
    (ht0 : t0 ≤ T) (hT : T ≤ T')
    (hsame : T' = T → c.length ≤ c'.length ∧ ref <+: ref' ∧ c.length ≤ ref.length)
    (h : PcOK H c T ref len idx t0 pc) : PcOK H c' T' ref' len idx t0 pc := by
  -- a guard `t = T'` with `t ≤ T` says the counter did not move
  have hold : ∀ {t : Nat}, t ≤ T → t = T' → T' = T := fun ht e => Nat.le_antisymm (e ▸ ht) hT
  cases pc with
  | ext t cl start rd =>
    simp only [PcOK, leafStart_dh hd] at h ⊢
    exact ⟨Nat.le_trans h.1 hT, h.2.1, h.2.2.1, fun e hs hrd =>
      (h.2.2.2 (e.trans (hold h.1 e)) hs hrd).mono (hsame (hold h.1 e)).2.1⟩
  | leaf rd =>
    simp only [PcOK, leafStart_dh hd, segLen_dh hd] at h ⊢
    intro e
    obtain ⟨hl, hp, _⟩ := hsame (hold ht0 e)
    obtain ⟨h1, h2⟩ := h (e.trans (hold ht0 e))
    exact ⟨Nat.le_trans h1 hl, fun hs hrd => (h2 hs hrd).mono hp⟩
  | lvl pre leaf rd =>
    simp only [PcOK, leafStart_dh hd, segLen_dh hd, hd] at h ⊢
    intro e
    obtain ⟨hl, hp, hc⟩ := hsame (hold ht0 e)
    obtain ⟨h1, h2, h3, h4, h5⟩ := h (e.trans (hold ht0 e))
    refine ⟨Nat.le_trans h1 hl, h2, h3.mono hp, ?_, fun hs hrd => (h5 hs hrd).mono hp⟩
    rw [h4, take_of_prefix hp (Nat.le_trans (leafStart_le c len) (Nat.le_trans h1 hc))]
  | done r => trivial
  | hdr rd => trivial

theorem ReqOK.mono (hd : c'.depthHigher = c.depthHigher) (hl : c.length ≤ c'.length)
    (hc : c.length ≤ ref.length) (h : ReqOK H c T src ref r) : ReqOK H c' T src ref r :=
  { h with pc := h.pc.carry H hd h.t0 (Nat.le_refl _) fun _ => ⟨hl, List.prefix_refl _, hc⟩ }

@[simp] theorem fixed_extFix : Cfg.fixed.extFix = true := rfl
@[simp] theorem fixed_retry : Cfg.fixed.retry = true := rfl
@[simp] theorem fixed_lowerFirst : Cfg.fixed.lowerFirst = true := rfl

theorem proving_active (h : r.proving = true) : r.active = true := by
  obtain ⟨len, idx, t0, pc, seen, bo, kind, first, count, hdrs⟩ := r
  cases pc <;> first | rfl | cases h

theorem reqOK_done (res : Res Node) (hsafe : Req.Safe H { r with pc := .done res })
    (h : ReqOK H c T src ref r) :
    ReqOK H c T src ref { r with pc := .done res } :=
  ⟨h.t0, nofun, trivial, hsafe, nofun, nofun, h.nobo⟩

theorem reqOK_atHdr (hs : List Node) (i : Nat) (rd : Rd Node) (hhead : r.seen.head? = some src)
    (h : ReqOK H c T src ref r) : ReqOK H c T src ref { r with hdrs := hs, index := i, pc := .hdr rd } :=
  ⟨h.t0, nofun, trivial, trivial, fun _ => hhead, nofun, h.nobo⟩

def DeliverOK (c : Cache Node) (T : Nat) (src ref : List Node) (x : Cache Node × Req Node) : Prop :=
  CacheInv H x.1 ref ∧ x.1.depthHigher = c.depthHigher ∧ c.length ≤ x.1.length ∧
    ReqOK H x.1 T src ref x.2

theorem DeliverOK.same (hinv : CacheInv H c ref) (h : ReqOK H c T src ref r) :
    DeliverOK H c T src ref (c, r) :=
  ⟨hinv, rfl, Nat.le_refl _, h⟩

theorem see_active {S : List Node} {r : Req Node} (h : r.active = true) :
    r.see S = { r with seen := S :: r.seen } := by simp [Req.see, h]

theorem see_inactive {S : List Node} {r : Req Node} (h : r.active = false) : r.see S = r := by
  simp [Req.see, h]

theorem markBo_active {r : Req Node} (h : r.active = true) : r.markBo = { r with bo := true } := by
  simp [Req.markBo, h]

theorem markBo_inactive {r : Req Node} (h : r.active = false) : r.markBo = r := by
  simp [Req.markBo, h]

/-- `r'` is `r` one step later, `V` the visible chain after the step -/
def Req.Sees (V : List Node) (r r' : Req Node) : Prop :=
  r'.seen = r.seen ∨ (r'.seen = V :: r.seen ∧ r.active = true)

theorem see_sees (S : List Node) (r : Req Node) : r.Sees S (r.see S) := by
  unfold Req.see; split
  · next h => exact Or.inr ⟨rfl, h⟩
  · exact Or.inl rfl

theorem markBo_seen (r : Req Node) : r.markBo.seen = r.seen := by
  unfold Req.markBo; split <;> rfl

theorem reqOK_inactive (hin : r.active = false) (hT : T ≤ T') (h : ReqOK H c T src ref r) :
    ReqOK H c' T' src' ref' r := by
  have hno : ∀ {P : Prop}, r.active = true → P := fun ha => by rw [hin] at ha; cases ha
  have hno' : ∀ {P : Prop}, r.proving = true → P := fun ha => hno (proving_active ha)
  refine ⟨Nat.le_trans h.t0 hT, hno', ?_, h.safe, hno, hno', h.nobo⟩
  obtain ⟨len, idx, t0, pc, seen, bo, kind, first, count, hdrs⟩ := r
  cases pc with
  | done res => trivial
  | _ => cases hin

theorem safe_of_active (h : r.active = true) : r.Safe H := by
  obtain ⟨len, idx, t0, pc, seen, bo, kind, first, count, hdrs⟩ := r
  cases pc with
  | done res => cases h
  | _ => trivial

/-- new blocks (no back-out half done, so the reference chain is the visible chain) -/
theorem reqOK_append (ns : List Node) (hc : c.length ≤ src.length) (h : ReqOK H c T src src r) :
    ReqOK H c T (src ++ ns) (src ++ ns) (r.see (src ++ ns)) := by
  cases hact : r.active with
  | true =>
    rw [see_active hact]
    refine ⟨h.t0, h.idx, h.pc.carry H rfl h.t0 (Nat.le_refl _) fun _ => ⟨Nat.le_refl _, List.prefix_append _ _, hc⟩, safe_of_active H hact,
      fun _ => rfl, fun _ => Or.inr (List.mem_cons_self ..), ?_⟩
    intro hbo S hS hd hhd
    simp only [List.head?_cons, Option.some.injEq] at hhd
    subst hhd
    rcases List.mem_cons.mp hS with rfl | hS
    · exact List.prefix_refl _
    · exact (h.nobo hbo S hS src (h.head hact)).trans (List.prefix_append _ _)
  | false =>
    rw [see_inactive hact]
    exact reqOK_inactive H hact (Nat.le_refl _) h

/-- first half of a back-out of the current code: the visible chain is cut, the reference chain stays -/
theorem reqOK_lower (n : Nat) (h : ReqOK H c T src src r) :
    ReqOK H c T (src.take n) src ((r.see (src.take n)).markBo) := by
  cases hact : r.active with
  | true =>
    rw [see_active hact, markBo_active (by exact hact)]
    refine ⟨h.t0, h.idx, h.pc, safe_of_active H hact, fun _ => rfl,
      fun _ => Or.inr (List.mem_cons_of_mem _ (List.mem_of_mem_head? (h.head hact))), ?_⟩
    intro hbo
    cases hbo
  | false =>
    rw [see_inactive hact, markBo_inactive hact]
    exact reqOK_inactive H hact (Nat.le_refl _) h

/-- second half of a back-out of the current code: `truncate` and the counter; the reference chain
    becomes the visible chain -/
theorem reqOK_trunc (hd : c'.depthHigher = c.depthHigher) (h : ReqOK H c T src ref r) :
    ReqOK H c' (T + 1) src src r.markBo := by
  cases hact : r.active with
  | true =>
    rw [markBo_active hact]
    refine ⟨Nat.le_succ_of_le h.t0, h.idx, h.pc.carry H hd h.t0 (Nat.le_succ T) fun e => absurd e (Nat.succ_ne_self T),
      safe_of_active H hact, h.head,
      fun _ => Or.inr (List.mem_of_mem_head? (h.head hact)), ?_⟩
    intro hbo
    cases hbo
  | false =>
    rw [markBo_inactive hact]
    exact reqOK_inactive H hact (Nat.le_succ _) h

theorem reqOK_new {b : Bool} {kind : Handler} {first count cp : Nat} :
    ReqOK H c T src ref (newReq T src b kind first count cp) := by
  refine ⟨Nat.le_refl _, nofun, trivial, trivial, fun _ => rfl, nofun, ?_⟩
  intro _ S hS hd hhd
  simp only [newReq, List.mem_singleton] at hS
  simp only [newReq, List.head?_cons, Option.some.injEq] at hhd
  subst hS hhd
  exact List.prefix_refl _

/-- a program counter inside `_merkle_proof` past the range check, or its end with an answer or an
    exception -/
def PC.proofish : PC Node → Prop
  | .hdr _ => False
  | .done .plain => False
  | .done .refused => False
  | _ => True

theorem proving_pc (h : r.proving = true) :
    r.pc.proofish ∧ (∀ res, r.pc ≠ .done res) ∧ ∀ rd, r.pc ≠ .hdr rd := by
  obtain ⟨len, idx, t0, pc, seen, bo, kind, first, count, hdrs⟩ := r
  cases pc with
  | done res => cases h
  | hdr rd => cases h
  | _ => exact ⟨trivial, fun _ hc => (by cases hc), fun _ hc => (by cases hc)⟩

theorem branchNodes_map (nodes : List Node) : branchNodes (nodes.map Elt.node) = nodes := by
  induction nodes with
  | nil => rfl
  | cons x rest ih => simp only [List.map_cons, branchNodes, ih]

theorem folds_of_not_answer (h : ∀ br root, r.pc ≠ .done (.answer br root)) : r.Folds H := by
  unfold Req.Folds
  split
  · next br root hpc => exact absurd hpc (h br root)
  · trivial

theorem afterProof_cases [DecidableEq Node] (cfg : Cfg) (r : Req Node) :
    (afterProof H cfg r = r ∧ (cfg.hdrCheck = true → r.Folds H)) ∨
    afterProof H cfg r = { r with pc := .hdr .issued } ∨
    ∃ e, afterProof H cfg r = { r with pc := .done (.error e) } := by
  unfold afterProof
  split
  · next br root hpc =>
    split
    · split
      · exact .inr (.inl rfl)
      · next h hh =>
        split
        · next e he => exact .inr (.inr ⟨_, rfl⟩)
        · next x hx =>
          split
          · next hxr =>
            refine .inl ⟨rfl, fun _ => ?_⟩
            unfold Req.Folds
            rw [hpc]
            simp only [hh]
            rw [hx, hxr]
          · exact .inr (.inl rfl)
    · next hchk => exact .inl ⟨rfl, fun h => absurd h hchk⟩
  · next hpc => exact .inl ⟨rfl, fun _ => folds_of_not_answer H hpc⟩

structure HdrOK (r : Req Node) : Prop where
  folds : r.Folds H
  hsrc : r.pc.proofish → ∃ A ∈ r.seen, r.hdrs = srcSlice A r.first r.count
  hplain : r.pc = .done .plain → ∃ A ∈ r.seen, r.hdrs = srcSlice A r.first r.count
  hrd : ∀ hs, r.pc = .hdr (.got hs) → ∃ A ∈ r.seen, hs = srcSlice A r.first r.count
  hidx : r.hdrs = [] ∨ r.index = r.first + r.hdrs.length - 1
  one : r.kind = .header → r.count = 1

/-- the part of `HdrOK` that does not depend on `pc` and `t0` -/
def HdrIn (r : Req Node) : Prop :=
  (∃ A ∈ r.seen, r.hdrs = srcSlice A r.first r.count) ∧
    (r.hdrs = [] ∨ r.index = r.first + r.hdrs.length - 1) ∧ (r.kind = .header → r.count = 1)

theorem HdrOK.hdrIn (h : HdrOK H r) (hp : r.pc.proofish) : HdrIn r :=
  ⟨h.hsrc hp, h.hidx, h.one⟩

theorem hdrOK_quiet {p : PC Node} (hp : p = .hdr .issued ∨ p = .done .refused)
    (hidx : r.hdrs = [] ∨ r.index = r.first + r.hdrs.length - 1) (hone : r.kind = .header → r.count = 1) :
    HdrOK H { r with pc := p } := by
  rcases hp with rfl | rfl
  all_goals exact ⟨trivial, nofun, nofun, nofun, hidx, hone⟩

theorem hdrOK_src (hf : r.Folds H) (hnh : ∀ rd, r.pc ≠ .hdr rd) (hin : HdrIn r) : HdrOK H r :=
  ⟨hf, fun _ => hin.1, fun _ => hin.1, fun _ hc => absurd hc (hnh _), hin.2.1, hin.2.2⟩

theorem hdrOK_proving (hr : r.proving = true) (hin : HdrIn r) : HdrOK H r :=
  have ⟨_, hd, hh⟩ := proving_pc hr
  hdrOK_src H (folds_of_not_answer H fun _ _ => hd _) hh hin

theorem hdrOK_new {T : Nat} {src : List Node} {b : Bool} {kind : Handler} {first count cp : Nat}
    (hone : kind = .header → count = 1) : HdrOK H (newReq T src b kind first count cp) :=
  hdrOK_quiet H (r := newReq T src b kind first count cp) (.inl rfl) (.inl rfl) hone

theorem hdrOK_see (S : List Node) (h : HdrOK H r) : HdrOK H (r.see S) := by
  unfold Req.see
  split
  · have up {hs : List Node} : (∃ A ∈ r.seen, hs = srcSlice A r.first r.count) →
        ∃ A ∈ S :: r.seen, hs = srcSlice A r.first r.count :=
      fun ⟨A, hA, h1⟩ => ⟨A, List.mem_cons_of_mem _ hA, h1⟩
    exact ⟨h.folds, fun hp => up (h.hsrc hp), fun hp => up (h.hplain hp), fun hs hc => up (h.hrd hs hc),
      h.hidx, h.one⟩
  · exact h

theorem hdrOK_markBo (h : HdrOK H r) : HdrOK H r.markBo := by
  unfold Req.markBo
  split
  · exact ⟨h.folds, h.hsrc, h.hplain, h.hrd, h.hidx, h.one⟩
  · exact h

/-- where `_extend_to` stands after its test of `self.length`: back in the caller, at its leaf read, or at its own
    read -/
def Entered (c : Cache Node) (T len : Nat) (pc : PC Node) : Prop :=
  (pc = .leaf .issued ∧ len ≤ c.length) ∨
    (pc = .ext T c.length (c.leafStart c.length) .issued ∧ c.length < len)

theorem enterExtend_eq (c : Cache Node) (T : Nat) (r : Req Node) :
    ∃ pc, Entered c T r.length pc ∧ enterExtend c T r = { r with pc := pc } := by
  unfold enterExtend
  split
  · next h => exact ⟨_, .inl ⟨rfl, h⟩, rfl⟩
  · next h => exact ⟨_, .inr ⟨rfl, Nat.lt_of_not_le h⟩, rfl⟩

theorem Entered.pcOK {len idx t0 : Nat} {pc : PC Node} (h : Entered c T len pc) : PcOK H c T ref len idx t0 pc := by
  rcases h with ⟨rfl, hle⟩ | ⟨rfl, hlt⟩
  · exact fun _ => ⟨hle, nofun⟩
  · exact ⟨Nat.le_refl _, rfl, hlt, fun _ => nofun⟩

theorem Entered.proving {len : Nat} {pc : PC Node} (h : Entered c T len pc) {r : Req Node} (hr : r.pc = pc) :
    r.proving = true := by
  rcases h with ⟨rfl, _⟩ | ⟨rfl, _⟩ <;> rw [Req.proving, hr]

theorem ReqOK.goto (hr : r.proving = true) (h : ReqOK H c T src ref r) {t0 : Nat} {pc : PC Node} (ht : t0 ≤ T)
    (hpc : PcOK H c' T ref r.length r.index t0 pc) (hr' : Req.proving { r with t0 := t0, pc := pc } = true) :
    ReqOK H c' T src ref { r with t0 := t0, pc := pc } :=
  ⟨ht, fun _ => h.idx hr, hpc, safe_of_active H (proving_active hr'), fun _ => h.head (proving_active hr),
    fun _ => h.chain hr, h.nobo⟩

section
variable [DecidableEq Node]

/-- the three places where `branch_and_root` has its result in hand: direct path, cached level, level rebuilt -/
inductive Computes (c : Cache Node) (r : Req Node) : Except PyExc (List (Elt Node) × Node) → Prop
  | direct {hs : List Node} : r.pc = .leaf (.got hs) → r.length < c.segLen →
      Computes c r (branchAndRoot H hs (.int r.index) none false)
  | cached {hs : List Node} : r.pc = .leaf (.got hs) → ¬ r.length < c.segLen → r.length = c.length →
      Computes c r (branchAndRootFromLevel H (.list c.level) (.list hs) (.int r.index) c.depthHigher false)
  | rebuilt {pre leaf hs : List Node} : r.pc = .lvl pre leaf (.got hs) →
      Computes c r (branchAndRootFromLevel H (.list (pre ++ lvl H c.depthHigher hs)) (.list leaf) (.int r.index)
        c.depthHigher false)

/-- What one step of its own (a read performed, a read result delivered) does to request `r`, given the cache `c`,
    the truncation counter `T` and the visible chain `src` of that moment: the cache and the request afterwards.
    Every result is an explicit update of `r`, so what a step leaves alone is left alone by `rfl`.  `stay` is
    allowed in every state: `Move` contains the request functions (`performReq_Move`, `deliverAll_Move`), it is
    not equivalent to them.  `pinned` says nothing: the pinned `_extend_to` is spoken of by `Move.seen` only. -/
inductive Move (cfg : Cfg) (c : Cache Node) (T : Nat) (src : List Node) (r : Req Node) :
    Cache Node → Req Node → Prop
  | stay : Move cfg c T src r c r
  | fail (e : Err) : r.proving = true → Move cfg c T src r c { r with pc := .done (.error e) }
  | readHdr : r.pc = .hdr .issued →
      Move cfg c T src r c { r with pc := .hdr (.got (srcSlice src r.first r.count)) }
  | readExt {t cl start : Nat} : r.pc = .ext t cl start .issued →
      Move cfg c T src r c { r with pc := .ext t cl start (readSrc src start (r.length - start)) }
  | readLeaf : r.pc = .leaf .issued →
      Move cfg c T src r c
        { r with pc := .leaf (readSrc src (c.leafStart r.index) (min c.segLen (r.length - c.leafStart r.index))) }
  | readLvl {pre leaf : List Node} : r.pc = .lvl pre leaf .issued →
      Move cfg c T src r c
        { r with pc := .lvl pre leaf
                   (readSrc src (c.leafStart r.length) (min c.segLen (r.length - c.leafStart r.length))) }
  | noHeader : Move cfg c T src r c { r with pc := .done .refused }
  | plain {hs : List Node} {i : Nat} : r.pc = .hdr (.got hs) → (hs = [] ∨ i = r.first + hs.length - 1) →
      Move cfg c T src r c { r with hdrs := hs, index := i, pc := .done .plain }
  | outside {hs : List Node} {i : Nat} : r.pc = .hdr (.got hs) → (hs = [] ∨ i = r.first + hs.length - 1) →
      Move cfg c T src r c { r with hdrs := hs, index := i, pc := .done .refused }
  | enter {hs : List Node} {i : Nat} {pc : PC Node} : r.pc = .hdr (.got hs) →
      (hs = [] ∨ i = r.first + hs.length - 1) → i < r.length ∧ r.length ≤ src.length → Entered c T r.length pc →
      Move cfg c T src r c { r with hdrs := hs, index := i, t0 := T, pc := pc }
  | reenter {t0 : Nat} {pc : PC Node} : r.proving = true → t0 = r.t0 ∨ t0 = T → Entered c T r.length pc →
      Move cfg c T src r c { r with t0 := t0, pc := pc }
  | write {start : Nat} {hs : List Node} {pc : PC Node} : r.pc = .ext T c.length start (.got hs) →
      Entered (writeExt c start r.length (lvl H c.depthHigher hs)) T r.length pc →
      Move cfg c T src r (writeExt c start r.length (lvl H c.depthHigher hs)) { r with pc := pc }
  | pinned {c' : Cache Node} {pc : PC Node} : ¬ cfg.extFix = true → Move cfg c T src r c' { r with pc := pc }
  | toLvl {hs : List Node} : r.pc = .leaf (.got hs) → ¬ r.length < c.segLen →
      Move cfg c T src r c { r with pc := .lvl (c.level.take (r.length >>> c.depthHigher)) hs .issued }
  | answer {x : List (Elt Node) × Node} : Computes H c r (.ok x) → (cfg.retry = true → T = r.t0) →
      (cfg.hdrCheck = true → Req.Folds H { r with pc := .done (.answer x.1 x.2) }) →
      Move cfg c T src r c { r with pc := .done (.answer x.1 x.2) }
  | reread : r.proving = true → Move cfg c T src r c { r with pc := .hdr .issued }

variable {cfg : Cfg} {r' : Req Node}

theorem performReq_Move (cfg : Cfg) (c : Cache Node) (T : Nat) (src : List Node) (r : Req Node) :
    Move H cfg c T src r c (performReq c src r) := by
  obtain ⟨len, idx, t0, pc, seen, bo, kind, first, count, hdrs⟩ := r
  cases pc with
  | done res => exact .stay
  | hdr rd => cases rd with
    | issued => exact .readHdr rfl
    | _ => exact .stay
  | ext t cl start rd => cases rd with
    | issued => exact .readExt rfl
    | _ => exact .stay
  | leaf rd => cases rd with
    | issued => exact .readLeaf rfl
    | _ => exact .stay
  | lvl pre leaf rd => cases rd with
    | issued => exact .readLvl rfl
    | _ => exact .stay

theorem afterProof_enterExtend (cfg : Cfg) (c' : Cache Node) (T : Nat) (r : Req Node) :
    afterProof H cfg (enterExtend c' T r) = enterExtend c' T r := by
  obtain ⟨pc, hE, he⟩ := enterExtend_eq c' T r
  rw [he]
  rcases hE with ⟨rfl, _⟩ | ⟨rfl, _⟩ <;> rfl

theorem Move.entered {r₁ : Req Node}
    (mk : ∀ {pc}, Entered c' T r₁.length pc → Move H cfg c T src r c' { r₁ with pc := pc }) :
    Move H cfg c T src r c' (enterExtend c' T r₁) := by
  obtain ⟨pc, hE, he⟩ := enterExtend_eq c' T r₁
  rw [he]
  exact mk hE

theorem finish_Move {res : Except PyExc (List (Elt Node) × Node)} (hr : r.proving = true)
    (hc : Computes H c r res) : Move H cfg c T src r c (afterProof H cfg (finish cfg c T r res)) := by
  unfold finish
  cases res with
  | error e => exact .fail _ hr
  | ok x =>
    dsimp only
    split
    · rw [beginIter, afterProof_enterExtend]
      exact .entered H (.reenter hr (.inr rfl))
    · next hcond =>
      rcases afterProof_cases H cfg { r with pc := .done (.answer x.1 x.2) } with ⟨he, hf⟩ | he | ⟨e, he⟩
      all_goals rw [he]
      · exact .answer hc (fun hret => by simpa [hret] using hcond) hf
      · exact .reread hr
      · exact .fail e hr

theorem afterHdr_Move {hs : List Node} (hpc : r.pc = .hdr (.got hs)) :
    Move H cfg c T src r c (afterHdr c T src.length r hs) := by
  have henter : ∀ i, (hs = [] ∨ i = r.first + hs.length - 1) →
      Move H cfg c T src r c (enterProof c T src.length { r with hdrs := hs, index := i }) := by
    intro i hi
    unfold enterProof
    refine ite_ind (fun hr => ?_) fun _ => .outside hpc hi
    rw [beginIter]
    exact .entered H (.enter hpc hi hr)
  unfold afterHdr
  split
  · refine ite_ind (fun _ => .noHeader) fun hlen => ?_
    have hi : hs = [] ∨ r.first = r.first + hs.length - 1 := .inr (by rw [Decidable.not_not.mp hlen]; rfl)
    exact ite_ind (fun _ => .plain hpc hi) fun _ => henter _ hi
  · exact ite_ind (fun _ => .plain hpc (.inr rfl)) fun _ => henter _ (.inr rfl)

theorem deliverAll_Move (cfg : Cfg) (c : Cache Node) (T : Nat) (src : List Node) (r : Req Node) :
    Move H cfg c T src r (deliverAll H cfg c T src.length r).1 (deliverAll H cfg c T src.length r).2 := by
  -- a request inside the proof: `deliverReq`, then the check of the reply
  let Q : Cache Node × Req Node → Prop := fun x => Move H cfg c T src r x.1 (afterProof H cfg x.2)
  obtain ⟨len, idx, t0, pc, seen, bo, kind, first, count, hdrs⟩ := r
  cases pc with
  | done res => exact .stay
  | hdr rd => cases rd with
    | got hs => exact afterHdr_Move H rfl
    | _ => exact .stay
  | ext t cl start rd => cases rd with
    | issued => exact .stay
    | short => exact .fail _ rfl
    | got hs =>
      show Q (deliverReq H cfg c T _)
      simp only [deliverReq, level_eq]
      refine ite_ind (P := Q) (fun _ => ite_ind (P := Q) (fun hg => ?_) fun _ => ?_) fun hfix =>
        ite_ind (P := Q) (fun _ => Move.pinned hfix) fun _ =>
          ite_ind (P := Q) (fun _ => Move.pinned hfix) fun _ => Move.pinned hfix
      · obtain ⟨rfl, rfl⟩ := hg
        show Move _ _ _ _ _ _ _ (afterProof _ _ _)
        rw [afterProof_enterExtend]
        exact .entered H (.write rfl)
      · show Move _ _ _ _ _ _ _ (afterProof _ _ _)
        rw [afterProof_enterExtend]
        exact .entered H (.reenter rfl (.inl rfl))
  | leaf rd => cases rd with
    | issued => exact .stay
    | short => exact .fail _ rfl
    | got hs =>
      show Q (deliverReq H cfg c T _)
      simp only [deliverReq]
      exact ite_ind (P := Q) (fun hsmall => finish_Move H rfl (.direct rfl hsmall)) fun hsmall =>
        ite_ind (P := Q) (fun heq => finish_Move H rfl (.cached rfl hsmall heq)) fun _ => Move.toLvl rfl hsmall
  | lvl pre leaf rd => cases rd with
    | issued => exact .stay
    | short => exact .fail _ rfl
    | got hs =>
      show Q (deliverReq H cfg c T _)
      simp only [deliverReq, level_eq]
      exact finish_Move H rfl (.rebuilt rfl)

theorem Move.seen (h : Move H cfg c T src r c' r') : r'.seen = r.seen := by
  cases h <;> rfl

theorem Computes.proving {res : Except PyExc (List (Elt Node) × Node)} (h : Computes H c r res) :
    r.proving = true := by
  cases h with
  | direct hp | cached hp | rebuilt hp => rw [Req.proving, hp]

/-- the header part of a request is settled when its header read is delivered; the steps of the proof leave it
    alone, and an answer has passed the check of the reply -/
theorem Move.hdrOK (hm : Move H cfg c T src r c' r') (hfix : cfg.extFix = true) (hchk : cfg.hdrCheck = true)
    (hhead : r.active = true → r.seen.head? = some src) (h : HdrOK H r) : HdrOK H r' := by
  have hin : r.proving = true → HdrIn r := fun hr => h.hdrIn H (proving_pc hr).1
  have hat : ∀ {p : PC Node}, r.pc = p → p.proofish → HdrIn r := fun hp hq => h.hdrIn H (hp ▸ hq)
  cases hm with
  | stay => exact h
  | fail e hr => exact hdrOK_src H trivial nofun (hin hr)
  | readHdr hpc =>
    refine ⟨trivial, nofun, nofun, fun hs hc => ?_, h.hidx, h.one⟩
    obtain rfl : srcSlice src r.first r.count = hs := Rd.got.inj (PC.hdr.inj hc)
    exact ⟨src, List.mem_of_mem_head? (hhead (by rw [Req.active, hpc])), rfl⟩
  | readExt hpc | readLeaf hpc | readLvl hpc | toLvl hpc => exact hdrOK_proving H rfl (hat hpc trivial)
  | noHeader => exact hdrOK_quiet H (.inr rfl) h.hidx h.one
  | plain hpc hi => exact hdrOK_src H trivial nofun ⟨h.hrd _ hpc, hi, h.one⟩
  | outside hpc hi => exact hdrOK_quiet H (r := { r with hdrs := _, index := _ }) (.inr rfl) hi h.one
  | enter hpc hi _ hE => exact hdrOK_proving H (hE.proving rfl) ⟨h.hrd _ hpc, hi, h.one⟩
  | reenter hr _ hE => exact hdrOK_proving H (hE.proving rfl) (hin hr)
  | write hpc hE => exact hdrOK_proving H (hE.proving rfl) (hat hpc trivial)
  | pinned hf => exact absurd hfix hf
  | answer hc _ hf => exact hdrOK_src H (hf hchk) nofun (hin hc.proving)
  | reread => exact hdrOK_quiet H (.inl rfl) h.hidx h.one

/-- with no truncation since the top of the iteration, the result in hand is the from-scratch one -/
theorem Computes.scratch {res : Except PyExc (List (Elt Node) × Node)} (hc : Computes H c r res)
    (hinv : CacheInv H c ref) (h : ReqOK H c T src ref r) (ht : r.t0 = T) :
    r.length ≤ ref.length ∧ res = branchAndRoot H (ref.take r.length) (.int r.index) none false := by
  have hpc := h.pc
  have hidx := h.idx hc.proving
  cases hc with
  | direct hp hsmall =>
    rw [hp] at hpc
    obtain ⟨a1, a2⟩ := hpc ht
    exact ⟨Nat.le_trans a1 hinv.len, by rw [direct_eq c ref _ r.length r.index hsmall hidx (a2 _ rfl)]⟩
  | cached hp hbig heq =>
    rw [hp] at hpc
    obtain ⟨a1, a2⟩ := hpc ht
    have hlen := Nat.le_trans a1 hinv.len
    refine ⟨hlen, ?_⟩
    rw [hinv.level, ← heq]
    exact fromLevel_eq H c ref _ r.length r.index hbig hidx hlen (a2 _ rfl)
  | rebuilt hp =>
    rw [hp] at hpc
    obtain ⟨a1, a2, a3, a4, a5⟩ := hpc ht
    have hlen := Nat.le_trans a1 hinv.len
    refine ⟨hlen, ?_⟩
    rw [a4, (a5 _ rfl).2, level_rebuild H c ref r.length]
    exact fromLevel_eq H c ref _ r.length r.index a2 hidx hlen a3

/-- **one step of a request** (current code): the cache stays consistent with the reference chain, only grows,
    and the request's knowledge is re-established at its next wait point — or it ends with an error, with a safe
    answer, or starts over -/
theorem Move.ok (hm : Move H cfg c T src r c' r') (hfix : cfg.extFix = true) (hretry : cfg.retry = true)
    (hinv : CacheInv H c ref) (hp : src <+: ref) (h : ReqOK H c T src ref r) :
    DeliverOK H c T src ref (c', r') := by
  have hpc := h.pc
  cases hm with
  | stay => exact .same H hinv h
  | fail e hr => exact .same H hinv (reqOK_done H _ trivial h)
  | readHdr hp1 => exact .same H hinv (reqOK_atHdr H r.hdrs r.index _ (h.head (by rw [Req.active, hp1])) h)
  | readExt hp1 =>
    rw [hp1] at hpc
    exact .same H hinv (h.goto H (by rw [Req.proving, hp1]) h.t0
      ⟨hpc.1, hpc.2.1, hpc.2.2.1, fun _ _ hgot => readSrc_slice hp hgot⟩ rfl)
  | readLeaf hp1 =>
    rw [hp1] at hpc
    exact .same H hinv (h.goto H (by rw [Req.proving, hp1]) h.t0
      (fun ht => ⟨(hpc ht).1, fun _ hgot => readSrc_slice hp hgot⟩) rfl)
  | readLvl hp1 =>
    rw [hp1] at hpc
    refine .same H hinv (h.goto H (by rw [Req.proving, hp1]) h.t0 (fun ht => ?_) rfl)
    obtain ⟨a1, a2, a3, a4, _⟩ := hpc ht
    exact ⟨a1, a2, a3, a4, fun _ hgot => readSrc_slice hp hgot⟩
  | noHeader => exact .same H hinv (reqOK_done H .refused trivial h)
  | plain hp1 =>
    exact .same H hinv (reqOK_done H .plain trivial (reqOK_atHdr H _ _ .issued (h.head (by rw [Req.active, hp1])) h))
  | outside hp1 =>
    exact .same H hinv
      (reqOK_done H .refused trivial (reqOK_atHdr H _ _ .issued (h.head (by rw [Req.active, hp1])) h))
  | @enter hs i pc hp1 _ hr hE =>
    exact .same H hinv ⟨Nat.le_refl _, fun _ => hr.1, hE.pcOK H, safe_of_active H (proving_active (hE.proving rfl)),
      fun _ => h.head (by rw [Req.active, hp1]), fun _ => .inl hr.2, h.nobo⟩
  | reenter hr ht hE =>
    exact .same H hinv (h.goto H hr (ht.elim (· ▸ h.t0) (· ▸ Nat.le_refl _)) (hE.pcOK H) (hE.proving rfl))
  | write hp1 hE =>
    rw [hp1] at hpc
    obtain ⟨_, rfl, a3, a4⟩ := hpc
    exact ⟨writeExt_ok H hinv (a4 rfl _ rfl) a3, rfl, Nat.le_of_lt a3,
      h.goto H (by rw [Req.proving, hp1]) h.t0 (hE.pcOK H) (hE.proving rfl)⟩
  | pinned hf => exact absurd hfix hf
  | toLvl hp1 hbig =>
    rw [hp1] at hpc
    refine .same H hinv (h.goto H (by rw [Req.proving, hp1]) h.t0 (fun ht => ?_) rfl)
    obtain ⟨a1, a2⟩ := hpc ht
    exact ⟨a1, hbig, a2 _ rfl, pre_eq H c ref r.length hinv a1, nofun⟩
  | @answer x hc hret _ =>
    have hr := hc.proving
    obtain ⟨hlen, hx⟩ := hc.scratch H hinv h (hret hretry).symm
    refine .same H hinv (reqOK_done H _ ?_ h)
    show ∃ S ∈ r.seen, r.length ≤ S.length ∧
      branchAndRoot H (S.take r.length) (.int r.index) none false = .ok (x.1, x.2)
    rcases h.chain hr with hcn | hcn
    · refine ⟨src, List.mem_of_mem_head? (h.head (proving_active hr)), hcn, ?_⟩
      rw [← take_of_prefix hp hcn, ← hx]
    · exact ⟨ref, hcn, hlen, hx.symm⟩
  | reread hr => exact .same H hinv (reqOK_atHdr H r.hdrs r.index .issued (h.head (proving_active hr)) h)

end

end EV.HeaderCache
