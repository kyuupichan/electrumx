import EV.Proofs.ShutdownTask

/-!
Task-level shutdown model: the control-flow invariants behind `ValidOps2` — a back-out job always finds
the index fully flushed and is handed the tip — and behind `ok`: whatever the environment, nothing fails
unless a job raised (`ErrInv`).
-/
namespace EV.ShutdownTask
open EV.Index

variable {cfg : Cfg} {fl st st' : St} {e : Ev}

/-- the block of a back-out in flight: section created, job not yet returned -/
def pendingBackup : Option Inner → Option Block
  | some (.wantLock (.backup b)) => some b
  | some (.job _ (.backup b)) => some b
  | _ => none

/-- a back-out section that has not run its job yet was created for the block at the tip
    (`reorg_chain` compares the hash with `state.tip`; nothing moves the tip in between, as every
    writer is an inner task and there is only one besides the handler's) -/
def BackupTip (st : St) : Prop := ∀ b, pendingBackup st.inner = some b → b.hash = st.sys.m.st.tip

theorem backupTip_step (hd : BackupTip st) (h : Step cfg fl st e st') : BackupTip st' := by
  cases h
  case start sec _ ht _ => intro b hb; cases sec <;> cases hb; exact ht _ rfl
  case innerStart sec hin _ => exact fun b hb => hd b (by rw [hin]; cases sec <;> exact hb)
  -- the other rules leave inner task and index alone, or leave no back-out pending
  all_goals first | exact hd | exact fun _ hb => nomatch hb

/-- every indexed block is committed (`DB.state` at the tip), in terms of the run's bookkeeping -/
def Fl (t : Track) : Prop := t.dbLen = t.chain.length

/-- control points of `reorg_chain` after its initial flush, between its sections -/
def outerFl : Outer → Bool
  | .idle .reorgHashes | .idle (.backups _) | .secReady .reorgHashes none
  | .secReady (.backups _) none => true
  | _ => false

def innerFl : Option Inner → Bool
  | some (.wantLock (.backup _)) | some (.job _ (.backup _)) | some (.jobDone _ (.backup _) none)
  | some (.jobDone _ (.flush true) none) => true
  | _ => false

/-- `t0`: the bookkeeping of the index the task started on, whatever it is (a full flush or a back-out
    leaves every bookkeeping fully flushed) -/
def FlushedRegion (cfg : Cfg) (st : St) : Prop :=
  outerFl st.outer = true ∨ innerFl st.inner = true → ∀ t0, Fl (Track.run cfg t0 (okOps st.log))

theorem fl_flushTrue (cfg : Cfg) (t0 : Track) (ops : List IOp2) :
    Fl (Track.run cfg t0 (ops ++ [.flush true])) := by
  rw [Track.run_append]; rfl

theorem fl_backup (cfg : Cfg) (t0 : Track) (ops : List IOp2) (b : Block) :
    Fl (Track.run cfg t0 (ops ++ [.backup b])) := by
  rw [Track.run_append]
  show (Track.run cfg t0 ops).chain.length - 1 = (Track.run cfg t0 ops).chain.dropLast.length
  simp

theorem jobFor_adv {sec : Sec} {b : Block} (h : JobFor sec (.adv b)) : sec = .adv b := by
  cases sec <;> simp_all [JobFor]

theorem jobFor_flush_false {sec : Sec} (h : JobFor sec (.flush false)) : ∃ b, sec = .adv b := by
  cases sec <;> simp_all [JobFor]

theorem jobFor_backup {sec : Sec} {b : Block} (h : JobFor sec (.backup b)) : sec = .backup b := by
  cases sec <;> simp_all [JobFor]

theorem outerFl_plain {o : Outer} (h : outerFl o = true) : o.plain = true := by
  cases o <;> first | rfl | cases h

theorem Move.outerFl {o o' : Outer} (m : Move o e o') (h : outerFl o' = true) : outerFl o = true := by
  cases m
  case reorgRange | endReorg => rfl
  case resume p => cases p <;> exact h
  all_goals cases h

theorem Start.outerFl {o : Outer} {p : Pt} {sec : Sec} (s : Start o e p sec)
    (h : innerFl (some (.wantLock sec)) = true) : outerFl o = true := by
  cases s <;> first | rfl | cases h

theorem flushedRegion_step (w : Shape st) (hc : FlushedRegion cfg st)
    (h : Step cfg fl st e st') : FlushedRegion cfg st' := by
  have busy : ∀ {i}, st.inner = some i → ¬ outerFl st.outer = true :=
    fun hin h => nomatch hin.symm.trans (w.inner_none (outerFl_plain h))
  unfold FlushedRegion at hc ⊢
  cases h
  case pressure | forceReorg => exact hc
  -- outer or inner task moves on: into the region only from inside it
  case cancelStart | cancel | hSkip => exact fun hp => hc (hp.imp (fun h => nomatch h) id)
  case move ho m => exact fun hp => hc (hp.imp (fun h => ho ▸ m.outerFl h) id)
  case start ho _ s => exact fun hp => hc (.inl (ho ▸ hp.elim (fun h => nomatch h) s.outerFl))
  case innerStart sec hin _ =>
    exact fun hp => hc (hp.imp id fun h => by rw [hin]; cases sec <;> exact h)
  case hStart | secFlush | secDrop => exact fun hp => hc (hp.imp id (fun h => nomatch h))
  case handlerEnd err _ => rintro (hp | hp) <;> cases err <;> cases hp
  case secEnd sec j err p hin ho =>
    -- inside `reorg_chain` the section the outer task awaits is a `flush(True)` or a back-out, and
    -- it has succeeded
    intro hp
    replace hp : outerFl (.secReady p err) = true := hp.elim id (fun h => nomatch h)
    have hj : JobFor sec j := w.wf _ hin
    obtain ⟨_, ho', hsf⟩ := (w.outer_of_inner hin).resolve_right fun h => nomatch ho.symm.trans h
    cases ho.symm.trans ho'
    refine hc (.inr (hin ▸ ?_))
    cases p <;> cases err <;> cases sec <;> first | (cases hj; rfl) | exact hsf.elim | cases hp
  -- a job ends: only its result counts
  case jobSkip hin => exact fun hp => hp.elim (fun h => (busy hin h).elim) (fun h => nomatch h)
  case jobErr j _ _ hin _ _ =>
    rintro (hp | hp)
    · exact (busy hin hp).elim
    · cases j with
      | flush a => cases a <;> cases hp
      | _ => cases hp
  case jobOk j _ _ hin _ _ =>
    rintro (hp | hp)
    · exact (busy hin hp).elim
    · intro t0
      show Fl (Track.run cfg t0 (okOps (st.log ++ [(j.op _, true)])))
      rw [okOps_append, okOps_single_true]
      cases j with
      | adv b => cases hp
      | flush a => cases a <;> first | exact fl_flushTrue cfg t0 _ | cases hp
      | backup b => exact fl_backup cfg t0 _ b

def Failed (log : List (Op × Bool)) : Prop := ∃ e ∈ log, e.2 = false

theorem Failed.append {a : List (Op × Bool)} (h : Failed a) (b : List (Op × Bool)) : Failed (a ++ b) :=
  h.imp fun _ he => ⟨List.mem_append_left _ he.1, he.2⟩

theorem outer_of_job (w : Shape st) {i : Inner} (hin : st.inner = some i) :
    st.outer ≠ .died ∧ st.outer ≠ .start := by
  rcases w.outer_of_inner hin with ⟨p, h, -⟩ | h <;> rw [h] <;> exact ⟨nofun, nofun⟩

/-- No failure without a job that raised, whatever the environment: `ok` is cleared, an inner task or a
    section ends with an exception, the task dies (other than by a request before `begin`, when no job
    has run) only after a `false` entry of the log. -/
structure ErrInv (st : St) : Prop where
  ok : st.ok = false → Failed st.log
  inner : ∀ sec j e, st.inner = some (.jobDone sec j (some e)) → Failed st.log
  outer : ∀ p e, st.outer = .secReady p (some e) → Failed st.log
  died : st.outer = .died → st.log = [] ∨ Failed st.log
  start : st.outer = .start → st.log = []

theorem errInv_init (s0 : Sys) : ErrInv { sys := s0 } :=
  ⟨(fun h => nomatch h), (fun _ _ _ h => nomatch h), (fun _ _ h => nomatch h), (fun h => nomatch h),
    fun _ => rfl⟩

theorem errInv_step (w : Shape st) (a : ErrInv st) (h : Step cfg fl st e st') : ErrInv st' := by
  cases h
  case jobOk hin _ _ =>
    obtain ⟨hd, hst⟩ := outer_of_job w hin
    exact ⟨fun h => (a.ok h).append _, (fun _ _ _ h => nomatch h),
      fun p e h => (a.outer p e h).append _, fun h => absurd h hd, fun h => absurd h hst⟩
  case jobErr j _ d hin _ _ =>
    have f : Failed (st.log ++ [(j.op d, false)]) :=
      ⟨_, List.mem_append_right _ (List.mem_singleton.mpr rfl), rfl⟩
    exact ⟨fun _ => f, fun _ _ _ _ => f, fun _ _ _ => f, fun _ => .inr f,
      fun h => absurd h (outer_of_job w hin).2⟩
  case cancelStart ho =>
    exact ⟨a.ok, a.inner, (fun _ _ h => nomatch h), fun _ => .inl (a.start ho), (fun h => nomatch h)⟩
  case move ho m =>
    cases m
    case resumeErr =>
      exact ⟨a.ok, a.inner, (fun _ _ h => nomatch h), fun _ => .inr (a.outer _ _ ho), (fun h => nomatch h)⟩
    all_goals exact ⟨a.ok, a.inner, (fun _ _ h => nomatch h), (fun h => nomatch h), (fun h => nomatch h)⟩
  case handlerEnd err hin =>
    cases err with
    | none =>
      exact ⟨a.ok, (fun _ _ _ h => nomatch h), (fun _ _ h => nomatch h), (fun h => nomatch h),
        (fun h => nomatch h)⟩
    | some e =>
      exact ⟨a.ok, (fun _ _ _ h => nomatch h), (fun _ _ h => nomatch h),
        fun _ => .inr (a.inner _ _ _ hin), (fun h => nomatch h)⟩
  case secEnd hin _ =>
    exact ⟨a.ok, (fun _ _ _ h => nomatch h), fun _ _ h => by cases h; exact a.inner _ _ _ hin,
      (fun h => nomatch h), (fun h => nomatch h)⟩
  -- the other rules leave each of inner and outer task alone or put it at a point that is no failure
  all_goals
    refine ⟨a.ok, ?_, ?_, ?_, ?_⟩
    · first | exact a.inner | exact fun _ _ _ h => nomatch h
    · first | exact a.outer | exact fun _ _ h => nomatch h
    · first | exact a.died | exact fun h => nomatch h
    · first | exact a.start | exact fun h => nomatch h

end EV.ShutdownTask
