import EV.Proofs.TxCodecCanon

/-! The streaming loops of `OnDiskBlock` on a well-formed block file: the inner parse loop, the
refill loop of `iter_txs`, `_chunk_offsets` (before and after the F3 fix), and the per-chunk loop of
`iter_txs_reversed`.  Both refill loops keep one invariant (`Win`: what is buffered behind the cursor,
followed by what is left in the file, is the stream of the transactions still to come); what
`_chunk_offsets` hands to `iter_txs_reversed` is the `boundaries` of some grouping of the transactions,
and the reverse loop is right for every grouping. -/
namespace EV.TxCodec

def stream (txs : List Tx) : Bytes := (txs.map serializeRaw).flatten

/-- what `iter_txs` yields for a transaction: the tx and the bytes that are hashed -/
def itemOf (t : Tx) : Item := (t, serializeRaw t)

@[simp] theorem stream_nil : stream [] = [] := rfl
@[simp] theorem stream_cons (t : Tx) (ts : List Tx) : stream (t :: ts) = serializeRaw t ++ stream ts := by
  simp [stream]
theorem stream_append (a b : List Tx) : stream (a ++ b) = stream a ++ stream b := by
  simp [stream]

theorem serializeRaw_length_ge (t : Tx) : 10 ≤ (serializeRaw t).length := by
  have h1 := packVarint_length_pos t.inputs.length
  have h2 := packVarint_length_pos t.outputs.length
  simp only [serializeRaw, List.length_append, leBytes_length]
  omega

theorem length_le_stream (txs : List Tx) : txs.length ≤ (stream txs).length := by
  induction txs with
  | nil => simp
  | cons t ts ih =>
    have := serializeRaw_length_ge t
    simp only [stream_cons, List.length_cons, List.length_append]; omega

def firstFits (k : Nat) : List Tx → Bool
  | [] => false
  | t :: _ => decide ((serializeRaw t).length ≤ k)

/-- Of `todo`, with the first `k` bytes of its stream in the buffer, the inner loop parses `done`: the
    transactions that lie within the `k` bytes; the one after them, if any, does not. -/
structure Parsed (k : Nat) (todo done rest : List Tx) : Prop where
  split : todo = done ++ rest
  fits : (stream done).length ≤ k
  next : ∀ t ts, rest = t :: ts → k < (stream done).length + (serializeRaw t).length

theorem Parsed.lt {k : Nat} {todo done rest : List Tx} (h : Parsed k todo done rest) (hr : rest ≠ []) :
    k < (stream todo).length := by
  obtain ⟨t, ts, rfl⟩ := List.exists_cons_of_ne_nil hr
  have := h.next t ts rfl
  rw [h.split, stream_append, stream_cons]
  simp only [List.length_append]; omega

theorem Parsed.firstFits {k : Nat} {todo done rest : List Tx} (h : Parsed k todo done rest) :
    firstFits k todo = decide (done.length ≠ 0) := by
  rw [h.split]
  cases done with
  | nil =>
    cases rest with
    | nil => rfl
    | cons t ts =>
      have := h.next t ts rfl
      rw [stream_nil, List.length_nil] at this
      exact decide_eq_false (by omega)
  | cons d ds =>
    have := h.fits
    rw [stream_cons, List.length_append] at this
    exact (decide_eq_true (by omega : (serializeRaw d).length ≤ k)).trans (decide_eq_true (Nat.succ_ne_zero _)).symm

theorem caughtIter_of_soft {e : PyExc} (h : Soft e) : caughtIter e = true := by
  rcases h with rfl | rfl <;> decide

theorem caughtOff_of_soft {e : PyExc} (h : Soft e) : caughtOff e = true := by
  rcases h with rfl | rfl <;> decide

/-- what the streaming proofs need of a reader (`read_tx` and `read_tx_and_hash` both qualify) -/
structure GoodReader {α : Type} (reader : Reader α) (item : Tx → α) : Prop where
  full : ∀ buf c t, At buf c (serializeRaw t) → WfTx t →
    reader buf c = .ok (item t, c + (serializeRaw t).length)
  trunc : ∀ buf c t n, At buf c (serializeRaw t) → WfTx t → n < c + (serializeRaw t).length →
    c + (serializeRaw t).length ≤ B63 → ∃ err, reader (buf.take n) c = .error err ∧ Soft err
  atEnd : ∀ buf c, buf.length ≤ c → c < B63 → ∃ err, reader buf c = .error err ∧ Soft err

theorem readTx_atEnd (buf : Bytes) (c : Nat) (h : buf.length ≤ c) (hc : c < B63) :
    ∃ err, readTx buf c = .error err ∧ Soft err := by
  refine ⟨unpackErr c, ?_, unpackErr_soft hc⟩
  unfold readTx readLeI32; rw [if_neg (by omega)]

theorem goodReader_readTx : GoodReader readTx id where
  full := fun _ _ _ h hw => readTx_at h hw
  trunc := fun _ _ _ _ h hw hn hb => by
    obtain ⟨err, e1, e2⟩ := readTx_truncated (readTx_at h hw) hn
    exact ⟨err, e1, e2 hb⟩
  atEnd := readTx_atEnd

theorem goodReader_readTxAndHash : GoodReader readTxAndHash itemOf where
  full := fun buf c t h hw => by
    rw [readTxAndHash_ok (readTx_at h hw), h.slice, itemOf]
  trunc := fun buf c t n h hw hn hb => by
    obtain ⟨err, e1, e2⟩ := readTx_truncated (readTx_at h hw) hn
    exact ⟨err, readTxAndHash_err e1, e2 hb⟩
  atEnd := fun buf c h hc => by
    obtain ⟨err, e1, e2⟩ := readTx_atEnd buf c h hc
    exact ⟨err, readTxAndHash_err e1, e2⟩

/-- The state of a refill loop against what is still to be read: the buffer from the cursor on, followed
    by the unread part of the file, is `s`; reading it keeps every cursor below `2^63`. -/
structure Win (raw : Bytes) (c : Nat) (rest s : Bytes) : Prop where
  le : c ≤ raw.length
  eq : raw.drop c ++ rest = s
  lt : c + s.length < B63

namespace Win
variable {raw rest a b : Bytes} {c : Nat}

/-- the buffer is a truncation of `raw ++ rest`, in which `a` stands whole -/
theorem at_file (h : Win raw c rest (a ++ b)) : At (raw ++ rest) c a :=
  ⟨raw.take c, b, by rw [← h.eq, ← List.append_assoc, List.take_append_drop], List.length_take_of_le h.le⟩

theorem step (h : Win raw c rest (a ++ b)) (hl : c + a.length ≤ raw.length) :
    Win raw (c + a.length) rest b :=
  ⟨hl, by rw [← List.drop_drop, ← List.drop_append_of_le_length (by rw [List.length_drop]; omega), h.eq,
    List.drop_left], by rw [Nat.add_assoc, ← List.length_append]; exact h.lt⟩

theorem at_buf (h : Win raw c rest (a ++ b)) (hl : c + a.length ≤ raw.length) : At raw c a := by
  have := At.of_slice (Nat.le_add_right c a.length) hl
  rwa [slice, Nat.add_sub_cancel_left, ← List.take_append_of_le_length (l₂ := rest)
    (by rw [List.length_drop]; omega), h.eq, List.take_left] at this

theorem length (h : Win raw c rest a) : raw.length + rest.length = c + a.length := by
  rw [← h.eq, List.length_append, List.length_drop, ← Nat.add_assoc, Nat.add_sub_cancel' h.le]

end Win

theorem parseRun_spec {α : Type} {reader : Reader α} {item : Tx → α} (G : GoodReader reader item)
    {raw rest : Bytes} (txs : List Tx) (hw : ∀ t ∈ txs, WfTx t) :
    ∀ (c fuel : Nat), Win raw c rest (stream txs) → raw.length < fuel + c →
      ∃ done rest' err, Parsed (raw.length - c) txs done rest' ∧ Soft err ∧
        parseRun reader raw fuel c = ⟨done.map item, c + (stream done).length, err⟩ := by
  induction txs with
  | nil =>
    intro c fuel h hf
    obtain ⟨f, rfl⟩ := Nat.exists_eq_add_one_of_ne_zero (fun h0 : fuel = 0 => by have := h.le; omega)
    obtain ⟨err, e1, e2⟩ := G.atEnd raw c
      (List.drop_eq_nil_iff.mp (List.append_eq_nil_iff.mp h.eq).1) h.lt
    exact ⟨[], [], err, ⟨rfl, Nat.zero_le _, nofun⟩, e2, by simp [parseRun, e1]⟩
  | cons t ts ih =>
    intro c fuel h hf
    obtain ⟨f, rfl⟩ := Nat.exists_eq_add_one_of_ne_zero (fun h0 : fuel = 0 => by have := h.le; omega)
    have hlen := serializeRaw_length_ge t
    rw [stream_cons] at h
    by_cases hk : c + (serializeRaw t).length ≤ raw.length
    · have e1 := G.full _ _ _ (h.at_buf hk) (hw t (by simp))
      obtain ⟨done, rest', err, hp, s1, e2⟩ := ih (fun x hx => hw x (by simp [hx])) _ f (h.step hk)
        (by omega)
      have h1 := hp.fits
      refine ⟨t :: done, rest', err, ⟨by rw [hp.split]; rfl, ?_, fun t' ts' h => ?_⟩, s1, ?_⟩
      · rw [stream_cons, List.length_append]; omega
      · have := hp.next t' ts' h
        rw [stream_cons, List.length_append]; omega
      · simp only [stream_cons, parseRun, e1, e2, Run.cons, List.map_cons, List.length_append, Nat.add_assoc]
    · -- `t` is cut: the buffer is a truncation of `raw ++ rest`, which holds all of `t`
      obtain ⟨err, e1, s1⟩ := G.trunc _ _ _ raw.length h.at_file (hw t (by simp)) (by omega)
        (Nat.le_trans (Nat.add_le_add_left (by rw [List.length_append]; exact Nat.le_add_right _ _) c)
          (Nat.le_of_lt h.lt))
      rw [List.take_left] at e1
      refine ⟨[], t :: ts, err, ⟨rfl, Nat.zero_le _, fun t' _ h => ?_⟩, s1, by simp [parseRun, e1]⟩
      cases h
      rw [stream_nil, List.length_nil]; omega

/-- One refill of either loop: the inner loop consumed `done` and a transaction is left.  Then the file is
    not at its end, and dropping what was consumed and appending the next chunk gives the same situation
    for `rest'`, at cursor 0. -/
theorem Win.refill {chunk : Nat} (hc : 1 ≤ chunk) {raw rest : Bytes} {c : Nat} {done rest' : List Tx}
    (h : Win raw c rest (stream (done ++ rest'))) (hp : Parsed (raw.length - c) (done ++ rest') done rest')
    (hr : rest' ≠ []) :
    (rest.take chunk).isEmpty = false ∧ (rest.drop chunk).length < rest.length ∧
    Win (raw.drop (c + (stream done).length) ++ rest.take chunk) 0 (rest.drop chunk) (stream rest') := by
  have hfit := hp.fits
  have hle := h.le
  have hpos : 0 < rest.length := by have := hp.lt hr; have := h.length; omega
  rw [stream_append] at h
  refine ⟨?_, by rw [List.length_drop]; omega, Nat.zero_le _, ?_, ?_⟩
  · rw [List.isEmpty_eq_false_iff, Ne, List.take_eq_nil_iff]
    rintro (h0 | h0)
    · omega
    · rw [h0] at hpos; exact absurd hpos (by decide)
  · rw [List.drop_zero, List.append_assoc, List.take_append_drop]
    exact (h.step (by omega)).eq
  · exact Nat.lt_of_le_of_lt (by
      rw [Nat.zero_add, List.length_append]
      exact Nat.le_trans (Nat.le_add_left _ _) (Nat.le_add_left _ _)) h.lt

theorem iterLoop_spec (chunk : Nat) (hc : 1 ≤ chunk) (N : Nat) :
    ∀ (fuel count : Nat) (todo : List Tx) (raw : Bytes) (c : Nat) (rest : Bytes),
      (∀ t ∈ todo, WfTx t) → count + todo.length = N → Win raw c rest (stream todo) → rest.length < fuel →
      iterLoop chunk N fuel raw c rest count = ⟨todo.map itemOf, none⟩ := by
  intro fuel
  induction fuel with
  | zero => intro count todo raw c rest _ _ _ hf; omega
  | succ f ih =>
    intro count todo raw c rest hw hN hwin hf
    obtain ⟨done, rest', err, hp, hs, hrun⟩ := parseRun_spec goodReader_readTxAndHash todo hw c
      (raw.length + 1) hwin (Nat.lt_add_right c (Nat.lt_succ_self _))
    simp only [iterLoop, hrun, caughtIter_of_soft hs, Bool.not_true, Bool.false_eq_true, if_false,
      List.length_map]
    have hsplit := hp.split
    subst hsplit
    rw [List.length_append, ← Nat.add_assoc] at hN
    by_cases hdone : count + done.length = N
    · rw [if_pos hdone, List.eq_nil_of_length_eq_zero (by omega : rest'.length = 0), List.append_nil]
    · obtain ⟨r1, r2, r3⟩ := hwin.refill hc hp (fun h => hdone (by rw [h] at hN; exact hN))
      rw [if_neg hdone, r1]
      have := ih (count + done.length) rest' _ 0 _ (fun t ht => hw t (List.mem_append_right _ ht)) hN r3
        (Nat.lt_of_lt_of_le r2 (Nat.le_of_lt_succ hf))
      simp only [Bool.false_eq_true, if_false, this, GenRes.prepend, List.map_append]

/-- the first chunk of a file body `count ++ S`: the count is read from it, and the loops start behind it -/
theorem Win.first {n chunk : Nat} (S : Bytes) (hn : n < 18446744073709551616)
    (hc : (packVarint n).length ≤ chunk) (hb : (packVarint n).length + S.length < B63) :
    ¬ ((packVarint n ++ S).take chunk).isEmpty = true ∧
    readVarint ((packVarint n ++ S).take chunk) 0 = .ok (n, (packVarint n).length) ∧
    Win ((packVarint n ++ S).take chunk) (packVarint n).length ((packVarint n ++ S).drop chunk) S := by
  have hv := packVarint_length_pos n
  have hl : (packVarint n).length ≤ ((packVarint n ++ S).take chunk).length := by
    rw [List.length_take, List.length_append]; omega
  refine ⟨fun he => ?_, ?_, hl, ?_, hb⟩
  · rw [List.isEmpty_iff.mp he] at hl
    exact absurd (Nat.le_trans hv hl) (by decide)
  · exact regular_readVarint.take chunk (by simpa using readVarint_at (At.intro [] (packVarint n) S) hn) hc
  · rw [← List.drop_append_of_le_length hl, List.take_append_drop, List.drop_left]

/-- `__enter__` and the first read on a block file: the header, then the body `count ++ stream`, whose
    first chunk is what `Win.first` says; the last three conjuncts are what `iterLoop_spec` and
    `offLoop_spec` ask of their start state: the file length as fuel, the `2^63` bound, `1 ≤ chunk`. -/
theorem blockFile_open (hdr : Bytes) (txs : List Tx) (chunk : Nat) (hh : hdr.length = 80)
    (hc : (packVarint txs.length).length ≤ chunk) (hb : (blockFile hdr txs).length < B63) :
    (blockFile hdr txs).take 80 = hdr ∧ ¬ hdr.isEmpty = true ∧
    (blockFile hdr txs).drop 80 = packVarint txs.length ++ stream txs ∧
    txs.length < 18446744073709551616 ∧
    ((packVarint txs.length ++ stream txs).drop chunk).length < (blockFile hdr txs).length ∧
    (packVarint txs.length).length + (stream txs).length < B63 ∧ 1 ≤ chunk := by
  have hlen : (blockFile hdr txs).length = 80 + ((packVarint txs.length).length + (stream txs).length) := by
    simp [blockFile, stream, hh]
  have hv := packVarint_length_pos txs.length
  have hn := length_le_stream txs
  refine ⟨?_, ?_, ?_, by unfold B63 at hb; omega, by rw [List.length_drop, List.length_append]; omega,
    by omega, by omega⟩
  · unfold blockFile; rw [← hh, List.take_left]
  · cases hdr with
    | nil => cases hh
    | cons => exact nofun
  · unfold blockFile stream; rw [← hh, List.drop_left]

theorem iterTxs_blockFile (hdr : Bytes) (txs : List Tx) (chunk : Nat)
    (hh : hdr.length = 80) (hw : ∀ t ∈ txs, WfTx t) (hc : (packVarint txs.length).length ≤ chunk)
    (hb : (blockFile hdr txs).length < B63) :
    iterTxs chunk (blockFile hdr txs) = ⟨txs.map itemOf, none⟩ := by
  obtain ⟨p1, p2, p3, hn, hfuel, hB, hc1⟩ := blockFile_open hdr txs chunk hh hc hb
  obtain ⟨q1, q2, q3⟩ := Win.first (stream txs) hn hc hB
  unfold iterTxs
  rw [p1, p3, if_neg p2, if_neg q1, q2]
  exact iterLoop_spec chunk hc1 txs.length _ 0 txs _ _ _ hw (Nat.zero_add _) q3 hfuel

/-- the offsets appended for consecutive groups of transactions, the first starting at `o` -/
def boundaries : Nat → List (List Tx) → List Nat
  | _, [] => []
  | o, g :: gs => (o + (stream g).length) :: boundaries (o + (stream g).length) gs

/-- loop invariant of `_chunk_offsets`: the loop returns the offsets so far followed by the
    boundaries of some grouping of `todo` (one group per chunk that held a whole transaction),
    counted from `base + cursor`, the file offset of the next transaction.  Before the F3 fix
    (`fixed = false`) a first chunk without a whole transaction loses the cursor: the boundaries
    are then counted from `base`, and stay short by the cursor to the end – in later rounds the
    cursor is 0 whenever nothing was parsed, so the two variants agree from there on. -/
theorem offLoop_spec (fixed : Bool) (chunk : Nat) (hc : 1 ≤ chunk) :
    ∀ (fuel : Nat) (todo : List Tx) (raw : Bytes) (c : Nat) (rest : Bytes) (base : Nat) (offs : List Nat),
      (∀ t ∈ todo, WfTx t) → Win raw c rest (stream todo) → rest.length < fuel →
      ∃ groups : List (List Tx), groups.flatten = todo ∧ (∀ g ∈ groups, g ≠ []) ∧
        offLoop fixed chunk fuel raw c rest base (todo.length : Int) offs =
        .ok (offs ++ boundaries (base + if fixed = true ∨ firstFits (raw.length - c) todo = true then c else 0) groups) := by
  intro fuel
  induction fuel with
  | zero => intro todo raw c rest base offs _ _ hf; omega
  | succ f ih =>
    intro todo raw c rest base offs hw hwin hf
    obtain ⟨done, rest', err, hp, hs, hrun⟩ := parseRun_spec goodReader_readTx todo hw c
      (raw.length + 1) hwin (Nat.lt_add_right c (Nat.lt_succ_self _))
    have hsplit := hp.split
    subst hsplit
    have hne : done.length ≠ 0 → done ≠ [] := fun h e => h (by rw [e]; rfl)
    simp only [offLoop, hrun, caughtOff_of_soft hs, Bool.not_true, Bool.false_eq_true, if_false,
      List.length_map, hp.firstFits]
    by_cases hdone : rest' = []
    · subst hdone
      rw [List.append_nil, if_pos (Int.sub_self _)]
      by_cases h0 : done.length = 0
      · refine ⟨[], ?_, nofun, ?_⟩
        · rw [List.eq_nil_of_length_eq_zero h0]; rfl
        · simp [h0, boundaries]
      · refine ⟨[done], by simp, ?_, ?_⟩
        · intro g hg
          rw [List.mem_singleton.mp hg]
          exact hne h0
        · rw [if_pos h0, if_pos (Or.inr (decide_eq_true h0))]
          simp only [boundaries, Nat.add_assoc]
    · obtain ⟨r1, r2, r3⟩ := hwin.refill hc hp hdone
      have hrl : rest'.length ≠ 0 := fun h => hdone (List.eq_nil_of_length_eq_zero h)
      have hcount : ((done ++ rest').length : Int) - (done.length : Int) = (rest'.length : Int) := by
        rw [List.length_append]; omega
      rw [hcount, if_neg (by rw [Int.natCast_eq_zero]; exact hrl), r1]
      obtain ⟨groups, hg, hgne, hres⟩ := ih rest' _ 0 _
        (if (fixed || decide (done.length ≠ 0)) = true
          then base + (c + (stream done).length) else base)
        (if done.length ≠ 0 then offs ++ [base + (c + (stream done).length)] else offs)
        (fun t ht => hw t (List.mem_append_right _ ht)) r3 (Nat.lt_of_lt_of_le r2 (Nat.le_of_lt_succ hf))
      simp only [Nat.add_zero, ite_self] at hres
      simp only [Bool.false_eq_true, if_false, hres]
      by_cases h0 : done.length = 0
      · -- nothing parsed in this round: with `fixed = false` the cursor is lost
        refine ⟨groups, by rw [hg, List.eq_nil_of_length_eq_zero h0, List.nil_append], hgne, ?_⟩
        cases fixed <;> simp [List.eq_nil_of_length_eq_zero h0]
      · refine ⟨done :: groups, by rw [List.flatten_cons, hg], ?_, ?_⟩
        · intro g hg
          rcases List.mem_cons.mp hg with rfl | hg
          · exact hne h0
          · exact hgne g hg
        · simp only [h0, ne_eq, not_false_eq_true, if_true, decide_true, Bool.or_true, or_true, boundaries,
            List.append_assoc, List.singleton_append, Nat.add_assoc]

theorem readAll_spec (g : List Tx) (hw : ∀ t ∈ g, WfTx t) :
    ∀ (pre : Bytes) (fuel : Nat), g.length ≤ fuel →
      readAll (pre ++ stream g) (pre.length + (stream g).length) fuel pre.length = .ok (g.map itemOf) := by
  induction g with
  | nil =>
    intro pre fuel _
    cases fuel <;> simp [readAll]
  | cons t ts ih =>
    intro pre fuel hf
    obtain ⟨f, rfl⟩ := Nat.exists_eq_add_one_of_ne_zero (Nat.ne_zero_of_lt hf)
    have hlen := serializeRaw_length_ge t
    have hat : At (pre ++ (serializeRaw t ++ stream ts)) pre.length (serializeRaw t) := At.intro _ _ _
    have e1 := goodReader_readTxAndHash.full _ _ _ hat (hw t (by simp))
    have e2 := ih (fun x hx => hw x (by simp [hx])) (pre ++ serializeRaw t) f
      (by simp only [List.length_cons] at hf; omega)
    simp only [List.append_assoc, List.length_append, Nat.add_assoc] at e2
    simp only [stream_cons, readAll, List.length_append, e1, e2, List.map_cons]
    rw [if_pos (by omega)]

theorem chunkItems_good (data : Bytes) (a : Nat) (g : List Tx)
    (hw : ∀ t ∈ g, WfTx t) (hat : At data a (stream g)) :
    chunkItems data a (a + (stream g).length) = .ok (g.map itemOf) := by
  have hs := hat.slice
  have hr := readAll_spec g hw [] (stream g).length (length_le_stream g)
  simp only [List.nil_append, List.length_nil, Nat.zero_add] at hr
  rw [chunkItems, hs, Nat.add_sub_cancel_left, if_neg (by omega), if_neg (not_not_intro rfl), hr]

theorem revChunks_append (data : Bytes) (l1 l2 : List (Nat × Nat)) (xs : List Item)
    (h : revChunks data l1 = ⟨xs, none⟩) :
    revChunks data (l1 ++ l2) = (revChunks data l2).prepend xs := by
  induction l1 generalizing xs with
  | nil =>
    obtain ⟨rfl, _⟩ := GenRes.mk.inj h
    rw [List.nil_append]
    cases revChunks data l2; rfl
  | cons p ps ih =>
    rw [List.cons_append, revChunks_cons]
    rw [revChunks_cons] at h
    cases hc : chunkItems data p.1 p.2 with
    | error e => rw [hc] at h; cases h
    | ok ys =>
      rw [hc] at h
      obtain ⟨h3, h4⟩ := GenRes.mk.inj h
      rw [ih _ (show revChunks data ps = ⟨(revChunks data ps).items, none⟩ by rw [← h4]), ← h3]
      simp only [GenRes.prepend, List.append_assoc]

theorem revChunks_boundaries (data : Bytes) (gs : List (List Tx)) :
    ∀ (o : Nat), (∀ t ∈ gs.flatten, WfTx t) → At data o (stream gs.flatten) →
      revChunks data ((o :: boundaries o gs).zip (boundaries o gs)).reverse =
        ⟨(gs.flatten.map itemOf).reverse, none⟩ := by
  induction gs with
  | nil => intro o _ _; simp [boundaries, revChunks]
  | cons g gs ih =>
    intro o hw hat
    simp only [List.flatten_cons, stream_append] at hat
    have h1 := ih (o + (stream g).length) (fun t ht => hw t (by simp only [List.flatten_cons, List.mem_append]; exact Or.inr ht))
      hat.right
    have h2 := chunkItems_good data o g
      (fun t ht => hw t (by simp only [List.flatten_cons, List.mem_append]; exact Or.inl ht)) hat.left
    simp only [boundaries, List.zip_cons_cons, List.reverse_cons]
    rw [revChunks_append data _ _ _ h1, revChunks_cons, h2]
    simp [GenRes.prepend, revChunks]

theorem firstFits_min (k : Nat) (txs : List Tx) : firstFits (min k (stream txs).length) txs = firstFits k txs := by
  cases txs with
  | nil => rfl
  | cons t ts =>
    rw [stream_cons, List.length_append]
    exact decide_eq_decide.mpr ⟨fun h => Nat.le_trans h (Nat.min_le_left _ _),
      fun h => Nat.le_min.mpr ⟨h, Nat.le_add_right _ _⟩⟩

/-- `_chunk_offsets` on a block file, both variants: the position after the count, then the
    boundaries of a grouping of the transactions – counted from 80 instead of `80 + v` (`v` the
    length of the count) before the F3 fix when the first chunk holds no whole transaction -/
theorem chunkOffsetsG_blockFile (fixed : Bool) (hdr : Bytes) (txs : List Tx) (chunk : Nat)
    (hh : hdr.length = 80) (hw : ∀ t ∈ txs, WfTx t) (hc : (packVarint txs.length).length ≤ chunk)
    (hb : (blockFile hdr txs).length < B63) :
    ∃ groups : List (List Tx), groups.flatten = txs ∧ (∀ g ∈ groups, g ≠ []) ∧
      chunkOffsetsG fixed chunk (blockFile hdr txs) =
        .ok ((80 + (packVarint txs.length).length) :: boundaries (80 +
          if fixed = true ∨ firstFits (chunk - (packVarint txs.length).length) txs = true
          then (packVarint txs.length).length else 0) groups) := by
  obtain ⟨p1, p2, p3, hn, hfuel, hB, hc1⟩ := blockFile_open hdr txs chunk hh hc hb
  obtain ⟨q1, q2, q3⟩ := Win.first (stream txs) hn hc hB
  obtain ⟨groups, hg, hne, hoff⟩ := offLoop_spec fixed chunk hc1 (blockFile hdr txs).length txs _ _ _
    80 [80 + (packVarint txs.length).length] hw q3 hfuel
  refine ⟨groups, hg, hne, ?_⟩
  unfold chunkOffsetsG
  rw [p1, p3, if_neg p2, if_neg (not_not_intro hh), if_neg q1, q2]
  rwa [List.length_take, List.length_append, ← Nat.sub_min_sub_right, Nat.add_sub_cancel_left, firstFits_min]
    at hoff

/-- `iter_txs_reversed` on a block file is correct for the code in /repo, and before the F3 fix
    too as long as the first chunk holds a whole transaction -/
theorem iterTxsReversedG_blockFile (fixed : Bool) (hdr : Bytes) (txs : List Tx) (chunk : Nat)
    (hh : hdr.length = 80) (hw : ∀ t ∈ txs, WfTx t) (hc : (packVarint txs.length).length ≤ chunk)
    (hb : (blockFile hdr txs).length < B63)
    (hfix : fixed = true ∨ firstFits (chunk - (packVarint txs.length).length) txs = true) :
    iterTxsReversedG fixed chunk (blockFile hdr txs) = ⟨(txs.map itemOf).reverse, none⟩ := by
  obtain ⟨groups, hg, _, hoff⟩ := chunkOffsetsG_blockFile fixed hdr txs chunk hh hw hc hb
  have hat : At (blockFile hdr txs) (80 + (packVarint txs.length).length) (stream groups.flatten) := by
    rw [hg]
    refine ⟨hdr ++ packVarint txs.length, [], ?_, by simp [hh]⟩
    simp [blockFile, stream]
  unfold iterTxsReversedG
  rw [hoff, if_pos hfix]
  simp only [List.tail_cons]
  rw [revChunks_boundaries _ groups _ (by rw [hg]; exact hw) hat, hg]

/-- the range `iter_txs_reversed` reads first is that of the last group; it starts at a boundary
    counted from `o`, or at `o'` if there is one group only -/
theorem zip_boundaries_reverse (gs : List (List Tx)) : ∀ (o' o : Nat), gs ≠ [] → (∀ g ∈ gs, g ≠ []) →
    ∃ j rest, j < gs.flatten.length ∧ ((o' :: boundaries o gs).zip (boundaries o gs)).reverse =
      (if j = 0 then o' else o + (stream (gs.flatten.take j)).length,
        o + (stream gs.flatten).length) :: rest := by
  induction gs with
  | nil => intro _ _ h; exact absurd rfl h
  | cons g gs ih =>
    intro o' o _ hne
    have hg : g.length ≠ 0 := fun h => hne g (by simp) (List.eq_nil_of_length_eq_zero h)
    cases gs with
    | nil => exact ⟨0, [], by simp only [List.flatten_cons, List.flatten_nil, List.append_nil]; omega,
        by simp [boundaries]⟩
    | cons g' gs' =>
      obtain ⟨j, rest, hj, hr⟩ := ih (o + (stream g).length) (o + (stream g).length) (by simp)
        (fun x hx => hne x (List.mem_cons_of_mem _ hx))
      rw [boundaries, List.zip_cons_cons, List.reverse_cons, hr,
        show (g :: g' :: gs').flatten = g ++ (g' :: gs').flatten from List.flatten_cons]
      refine ⟨g.length + j, rest ++ [(o', o + (stream g).length)], ?_, ?_⟩
      · rw [List.length_append]; omega
      · rw [if_neg (show ¬ g.length + j = 0 by omega), List.take_length_add_append, stream_append, stream_append]
        by_cases h0 : j = 0
        · simp [h0, Nat.add_assoc]
        · simp only [if_neg h0, List.length_append, Nat.add_assoc, List.cons_append]

/-- **F3 in general.**  Before the fix, on a well-formed block file whose first chunk holds
    the count but no whole transaction, every offset after the first is short by `v`, the length of
    the count.  So the range `iter_txs_reversed` reads first (transactions `j` onwards, some `j`)
    starts `v` bytes before the `j`-th transaction and ends `v` bytes before the end of the file
    (if it is the only range, it starts at the right place and is just `v` bytes short). -/
theorem iterTxsReversed_orig_blockFile (hdr : Bytes) (txs : List Tx) (chunk : Nat)
    (hh : hdr.length = 80) (hw : ∀ t ∈ txs, WfTx t) (hc : (packVarint txs.length).length ≤ chunk)
    (hb : (blockFile hdr txs).length < B63) (hne : txs ≠ [])
    (hfit : firstFits (chunk - (packVarint txs.length).length) txs = false) :
    ∃ j rest, j < txs.length ∧ Orig.iterTxsReversed chunk (blockFile hdr txs) =
      revChunks (blockFile hdr txs)
        ((if j = 0 then 80 + (packVarint txs.length).length else 80 + (stream (txs.take j)).length,
          80 + (stream txs).length) :: rest) := by
  obtain ⟨groups, hg, hgne, hoff⟩ := chunkOffsetsG_blockFile false hdr txs chunk hh hw hc hb
  rw [if_neg (by simp [hfit]), Nat.add_zero] at hoff
  obtain ⟨j, rest, hj, hr⟩ := zip_boundaries_reverse groups (80 + (packVarint txs.length).length) 80
    (fun h => hne (by rw [← hg, h]; rfl)) hgne
  rw [hg] at hj hr
  refine ⟨j, rest, hj, ?_⟩
  unfold Orig.iterTxsReversed iterTxsReversedG
  rw [hoff]
  simp only [List.tail_cons, hr]

end EV.TxCodec
