import EV.Model.System
import EV.Proofs.StepX

/-!
What the three invariants of the coherence model (`EV/Model/System.lean`) share: the point update `modifyAt` of
the per-session and per-script-hash tables and of the task lists, and `step` taken apart once, into the rules of
`Step`.  The status invariant (`System`), the tip invariant (`SystemTip`) and the invariant of the current code
(`SystemFix`) are each one case analysis over these rules.
-/
namespace EV.System

theorem getElem?_modifyAt {α : Type} (l : List α) (i : Nat) (f : α → α) (j : Nat) :
    (modifyAt l i f)[j]? = if j = i then l[j]?.map f else l[j]? := by
  unfold modifyAt
  rw [List.getElem?_map, List.getElem?_zipIdx]
  cases l[j]? with
  | none => simp
  | some a => by_cases h : j = i <;> simp [h]

theorem length_modifyAt {α : Type} (l : List α) (i : Nat) (f : α → α) :
    (modifyAt l i f).length = l.length := by
  simp [modifyAt]

theorem getD_modifyAt {α : Type} (l : List α) (i : Nat) (f : α → α) (j : Nat) (d : α) :
    (modifyAt l i f).getD j d = if j = i ∧ i < l.length then f (l.getD j d) else l.getD j d := by
  simp only [List.getD_eq_getElem?_getD, getElem?_modifyAt]
  by_cases h : j = i
  · subst h
    by_cases hl : j < l.length
    · simp [hl]
    · simp [hl]
  · simp [h]

theorem getD_modifyAt_ne {α : Type} (l : List α) (i : Nat) (g : α → α) (j : Nat) (d : α) (h : j ≠ i) :
    (modifyAt l i g).getD j d = l.getD j d := by
  rw [getD_modifyAt, if_neg (fun hh => h hh.1)]

theorem mem_modifyAt {α : Type} {l : List α} {i : Nat} {f : α → α} {a : α}
    (h : a ∈ modifyAt l i f) : a ∈ l ∨ ∃ b ∈ l, a = f b := by
  obtain ⟨j, hj⟩ := List.mem_iff_getElem?.mp h
  rw [getElem?_modifyAt] at hj
  split at hj
  · cases hb : l[j]? with
    | none => rw [hb] at hj; simp at hj
    | some b =>
      rw [hb] at hj; simp at hj
      exact Or.inr ⟨b, List.mem_iff_getElem?.mpr ⟨j, hb⟩, hj.symm⟩
  · exact Or.inl (List.mem_iff_getElem?.mpr ⟨j, hj⟩)

theorem mem_modifyAt_of_mem {α : Type} {l : List α} (i : Nat) (f : α → α) {a : α}
    (h : a ∈ l) : a ∈ modifyAt l i f ∨ f a ∈ modifyAt l i f := by
  obtain ⟨j, hj⟩ := List.mem_iff_getElem?.mp h
  by_cases hji : j = i
  · exact Or.inr (List.mem_iff_getElem?.mpr ⟨j, by rw [getElem?_modifyAt, if_pos hji, hj]; rfl⟩)
  · exact Or.inl (List.mem_iff_getElem?.mpr ⟨j, by rw [getElem?_modifyAt, if_neg hji, hj]⟩)

/-- `step` as a relation: one rule per way an event is taken, keeping of its guard only what some invariant
reads, so `Step` is weaker than `step` (`subMiss`, `again`, `retry` lack the negated guard that selects them,
`readDo` and `hdrDo` take any index `j`).  `idle`: the guard fails and nothing happens; a `getHistory` answered
from the cache is `idle` too. -/
inductive Step (f : Flags) (st : St) : Ev → St → Prop
  | idle (ev : Ev) : Step f st ev st
  | change (x : Nat) : Step f st (.change x)
      { st with conf := modifyAt st.conf x (· + 1),
                carrier := if st.carrier.contains x then st.carrier else st.carrier ++ [x] }
  | mpChange (x m : Nat) : Step f st (.mpChange x m)
      { st with mem := modifyAt st.mem x (fun _ => m),
                carrier := if st.carrier.contains x then st.carrier else st.carrier ++ [x] }
  | flip (x m : Nat) : memOf st x ≠ 0 → Step f st (.flip x m)
      { st with mem := modifyAt st.mem x (fun _ => m),
                flipped := if st.flipped.contains x then st.flipped else st.flipped ++ [x] }
  | advance (d : Nat) : Step f st (.advance d)
      { st with chain := st.chain ++ [d], seen := st.seen ++ [(st.chain.length, d)], tipDone := false }
  | backup : 1 < st.chain.length → Step f st .backup { st with chain := st.chain.dropLast, tipDone := false }
  | reorgSignal : Step f st .reorgSignal { st with reorgCount := st.reorgCount + 1 }
  | suspended (h : Nat) (xs : List Nat) : Step f st (.notify h xs)
      { st with notifyCount := st.notifyCount + 1,
                carrier := st.carrier.filter (fun x => !xs.contains x),
                notifiedReorgCount := st.reorgCount,
                flipped := [],
                tipDone := decide (dbHeight st ≤ h) && st.hreads.all (goodRead st),
                hreads := st.hreads ++ [{ h := min h (dbHeight st), xs := xs, flips := st.flipped }] }
  | direct (h : Nat) (xs : List Nat) : Step f st (.notify h xs)
      (finishNotify f { st with notifyCount := st.notifyCount + 1,
                                carrier := st.carrier.filter (fun x => !xs.contains x) } xs false)
  | subHit (s x : Nat) {c : Nat} : lookup x st.cache = some c →
      Step f st (.subscribe s x) (resume f st x c (.sub s x))
  | subMiss (s x : Nat) : Step f st (.subscribe s x)
      { st with tasks := st.tasks ++ [{ hx := x, countAtStart := st.notifyCount, cont := .sub s x }] }
  | unsubscribe (s x : Nat) : Step f st (.unsubscribe s x)
      { st with subs := modifyAt st.subs s (fun l => l.filter (· != x)),
                ms := modifyAt st.ms s (dictErase x) }
  | closeSession (s : Nat) : Step f st (.closeSession s) { st with alive := modifyAt st.alive s (fun _ => false) }
  | subscribeHeaders (s : Nat) : Step f st (.subscribeHeaders s)
      { st with hdrSub := modifyAt st.hdrSub s (fun _ => true),
                heldHdr := modifyAt st.heldHdr s (fun _ => some st.hsub) }
  | getMiss (s x : Nat) : Step f st (.getHistory s x)
      { st with tasks := st.tasks ++ [{ hx := x, countAtStart := st.notifyCount, cont := .query }] }
  | evict (x : Nat) : Step f st (.evict x) { st with cache := st.cache.filter (fun e => e.1 != x) }
  | readDo (i j : Nat) : Step f st (.readDo i)
      { st with tasks := modifyAt st.tasks j (fun t => { t with value := some (confOf st t.hx) }) }
  | again (i : Nat) {j : Nat} {t : Task} : st.tasks[j]? = some t → Step f st (.readFinish i)
      { st with tasks := st.tasks.eraseIdx j ++
          [{ hx := t.hx, countAtStart := st.notifyCount, cont := t.cont }] }
  | accept (i : Nat) {j : Nat} {t : Task} {v : Nat} : st.tasks[j]? = some t → t.value = some v →
      (f.checkCount = true → t.countAtStart = st.notifyCount) → Step f st (.readFinish i)
      (resume f { st with tasks := st.tasks.eraseIdx j, cache := put t.hx v st.cache } t.hx v t.cont)
  | hdrDo (i j : Nat) : Step f st (.hdrDo i)
      { st with hreads := modifyAt st.hreads j (fun r => { r with value := some st.chain[r.h]? }) }
  | arrived (i : Nat) {j : Nat} {r : HRead} {d : Nat} : st.hreads[j]? = some r → r.value = some (some d) →
      Step f st (.hdrFinish i)
      (finishNotify f { st with hreads := st.hreads.eraseIdx j, hsub := (r.h, d),
                                notifiedHeight := r.h } r.xs true)
  | raised (i : Nat) {j : Nat} {r : HRead} : st.hreads[j]? = some r → r.value = some none →
      f.raiseOnRace = true → Step f st (.hdrFinish i)
      { st with hreads := st.hreads.eraseIdx j, lost := st.lost ++ r.xs ++ r.flips }
  | retry (i : Nat) {j : Nat} {r : HRead} : st.hreads[j]? = some r → r.value = some none →
      Step f st (.hdrFinish i)
      { st with hreads := st.hreads.eraseIdx j ++
          [{ h := min r.h (dbHeight st), xs := r.xs, flips := r.flips }] }

theorem Step.of_step (f : Flags) (st : St) (ev : Ev) : Step f st ev (step f st ev) := by
  cases ev with
  | change x => exact .change x
  | mpChange x m => exact .mpChange x m
  | flip x m => exact ite_ind (fun h => .flip x m (bne_iff_ne.mp (Bool.and_eq_true_iff.mp h).1)) fun _ => .idle _
  | advance d => exact .advance d
  | backup => exact ite_ind (fun _ => .idle _) fun h => .backup (Nat.lt_of_not_le h)
  | reorgSignal => exact .reorgSignal
  | notify h xs => exact ite_ind (fun _ => .suspended h xs) fun _ => .direct h xs
  | subscribe s x =>
    show Step f st _ (startRead f st x (.sub s x))
    unfold startRead
    split
    · next hl => exact .subHit s x hl
    · exact .subMiss s x
  | unsubscribe s x => exact .unsubscribe s x
  | closeSession s => exact .closeSession s
  | subscribeHeaders s => exact .subscribeHeaders s
  | getHistory s x =>
    show Step f st _ (startRead f st x .query)
    unfold startRead
    split
    · exact .idle _
    · exact .getMiss s x
  | evict x => exact .evict x
  | readDo i =>
    simp only [step]
    split
    · exact .idle _
    · exact .readDo i _
  | readFinish i =>
    simp only [step]
    cases nthIdx st.tasks true i with
    | none => exact .idle _
    | some j =>
      simp only
      cases hj : st.tasks[j]? with
      | none => exact .idle _
      | some t =>
        simp only
        cases hv : t.value with
        | none => exact .idle _
        | some v =>
          simp only
          split
          · exact .again i hj
          · next h =>
            refine .accept i hj hv (fun hc => ?_)
            simpa only [hc, Bool.true_and, bne_iff_ne, ne_eq, Decidable.not_not] using h
  | hdrDo i =>
    simp only [step]
    split
    · exact .idle _
    · exact .hdrDo i _
  | hdrFinish i =>
    simp only [step]
    cases nthIdxH st.hreads true i with
    | none => exact .idle _
    | some j =>
      simp only
      cases hj : st.hreads[j]? with
      | none => exact .idle _
      | some r =>
        simp only
        cases hv : r.value with
        | none => exact .idle _
        | some v =>
          cases v with
          | some d => exact .arrived i hj hv
          | none =>
            simp only
            split
            · next h =>
              simp only [Bool.and_eq_true] at h
              exact .raised i hj hv h.1
            · exact .retry i hj hv

end EV.System
