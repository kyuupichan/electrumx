import EV.Proofs.ShutdownTaskCancel

/-!
Task-level shutdown model: the invariants that hold whatever the environment, together (`Inv`); in a valid
environment no job raises and the jobs, in the order in which they ended, form a `ValidOps2` run (`Good`, a
predicate of the log).
-/
namespace EV.ShutdownTask
open EV.Index

/-- What the environment has to guarantee for one job, given the bookkeeping `t` of the jobs before
it.  For an advance: the block's transactions are valid on top of the surviving chain (that the
block links to the tip is checked by `advance_block` itself).  For a back-out: the daemon serves,
for the tip's hash, the block that was indexed under it; the tip is above height 0; its undo
information is retained (C15: reorganisations within the window).  That the index is fully flushed
at that moment is NOT assumed: it follows from the task's control flow. -/
def OkEnv (cfg : Cfg) (t : Track) : IOp2 → Prop
  | .adv b _ => EV.Index.ValidTxs cfg.act t.chain.length (EV.Spec.specChain cfg.act t.chain) b.txs
  | .backup b =>
    (match t.chain.getLast? with
     | some last => last.hash = b.hash → last = b
     | none => True) ∧
    2 ≤ t.chain.length ∧ (t.chain.length - 1) ∈ t.kept
  | _ => True

def EnvOk (cfg : Cfg) : Track → List IOp2 → Prop
  | _, [] => True
  | t, op :: r => OkEnv cfg t op ∧ EnvOk cfg (t.step cfg op) r

instance decOkEnv (cfg : Cfg) (t : Track) : ∀ op, Decidable (OkEnv cfg t op)
  | .adv _ _ => by unfold OkEnv; exact inferInstance
  | .flush _ => isTrue trivial
  | .backup b => by
    unfold OkEnv
    cases t.chain.getLast? <;> exact inferInstance
  | .reopen => isTrue trivial

instance decEnvOk (cfg : Cfg) : ∀ (t : Track) (ops : List IOp2), Decidable (EnvOk cfg t ops)
  | _, [] => isTrue trivial
  | t, op :: r =>
    have := decEnvOk cfg (t.step cfg op) r
    by unfold EnvOk; exact inferInstance

theorem envOk_append (cfg : Cfg) (t : Track) (a b : List IOp2) :
    EnvOk cfg t (a ++ b) ↔ EnvOk cfg t a ∧ EnvOk cfg (t.run cfg a) b := by
  induction a generalizing t with
  | nil => simp [EnvOk, Track.run]
  | cons op r ih => simp only [List.cons_append, EnvOk, Track.run_cons, ih, and_assoc]

variable {s0 : Sys} {t0 : Track} {cfg : Cfg} {fl st st' : St} {e : Ev}

structure Inv (s0 : Sys) (cfg : Cfg) (st : St) : Prop where
  shape : Shape st
  seq : Seq s0 cfg st
  tip : BackupTip st
  fl : FlushedRegion cfg st
  after : AfterCancel st
  err : ErrInv st
  cancelWf : CancelWf st

theorem inv_init (s0 : Sys) (cfg : Cfg) : Inv s0 cfg { sys := s0 } :=
  ⟨.start, rfl, (fun _ hb => nomatch hb), fun hp => hp.elim (fun h => nomatch h) (fun h => nomatch h),
    afterCancel_init s0, errInv_init s0, (fun _ h => nomatch h)⟩

theorem inv_step (i : Inv s0 cfg st) (h : Step cfg fl st e st') : Inv s0 cfg st' :=
  ⟨shape_step i.shape h, seq_step i.seq h, backupTip_step i.tip h, flushedRegion_step i.shape i.fl h,
    afterCancel_step i.shape i.after h, errInv_step i.shape i.err h, cancelWf_step i.shape i.cancelWf h⟩

structure Good (t0 : Track) (cfg : Cfg) (log : List (Op × Bool)) : Prop where
  valid : ValidOps2 cfg t0 (att log)
  allOk : ∀ e ∈ log, e.2 = true

theorem Good.not_failed {log : List (Op × Bool)} (g : Good t0 cfg log) : ¬ Failed log :=
  fun ⟨e, he, hf⟩ => nomatch (g.allOk e he).symm.trans hf

theorem runOps2_att (i : Inv s0 cfg st) (g : Good t0 cfg st.log) :
    runOps2 cfg s0 (att st.log) = .ok st.sys := by
  rw [← okOps_eq_att g.allOk]; exact i.seq

theorem trackInv_of_good (ti0 : TrackInv cfg t0 s0) (i : Inv s0 cfg st) (g : Good t0 cfg st.log) :
    TrackInv cfg (Track.run cfg t0 (att st.log)) st.sys :=
  ti0.of_run g.valid (runOps2_att i g)

/-- the form in which `Good` is an invariant of runs: the environment hypothesis is made of the log of
    the end state only, and `EnvOk` passes to prefixes (`envOk_append`) -/
def GoodIf (t0 : Track) (cfg : Cfg) (log : List (Op × Bool)) : Prop :=
  EnvOk cfg t0 (att log) → Good t0 cfg log

/-- `OkEnv` says less than `BackupOk`: that a back-out finds the index fully flushed (`FlushedRegion`)
    and that the hash it is handed is the tip's (`BackupTip`) follow from the control flow -/
theorem job_admissible (ti0 : TrackInv cfg t0 s0) (i : Inv s0 cfg st) (v : GoodIf t0 cfg st.log)
    {sec : Sec} {j : JobK} (hin : st.inner = some (.job sec j))
    (hc : ∀ b, j = .adv b → b.prev = st.sys.m.st.tip) (dH : Int) {ok : Bool}
    (henv : EnvOk cfg t0 (att (st.log ++ [(j.op dH, ok)]))) :
    Good t0 cfg st.log ∧ TrackInv cfg (Track.run cfg t0 (att st.log)) st.sys ∧
      OkOp cfg (Track.run cfg t0 (att st.log)) (j.op dH).to2 := by
  rw [att_append, att_single, envOk_append] at henv
  have g := v henv.1
  have ti := trackInv_of_good ti0 i g
  refine ⟨g, ti, ?_⟩
  replace henv := henv.2.1
  cases j with
  | adv b => exact ⟨by rw [← ti.inv.base.tip]; exact hc b rfl, henv⟩
  | flush a => trivial
  | backup b =>
    have hfl : Fl (Track.run cfg t0 (att st.log)) := by
      rw [← okOps_eq_att g.allOk]
      exact i.fl (.inr (by rw [hin]; rfl)) t0
    have htip : b.hash = st.sys.m.st.tip := i.tip b (by rw [hin]; rfl)
    obtain ⟨hdet, hlen, hkept⟩ := henv
    apply backupOk_iff.mpr
    refine ⟨hfl, ?_, hlen, hkept⟩
    cases hl : (Track.run cfg t0 (att st.log)).chain.getLast? with
    | none =>
      rw [List.getLast?_eq_none_iff] at hl
      rw [hl] at hlen; simp at hlen
    | some last =>
      have h2 := ti.inv.base.tip
      rw [hl] at h2 hdet
      simp at h2 hdet
      rw [hdet (by rw [htip, h2])]

/-- only a job's end extends the log; in an admissible environment `jobErr` does not occur:
    `trackInv_step` says the operation succeeds -/
theorem goodIf_step (ti0 : TrackInv cfg t0 s0) (i : Inv s0 cfg st) (v : GoodIf t0 cfg st.log)
    (h : Step cfg fl st e st') : GoodIf t0 cfg st'.log := by
  cases h
  case jobOk hin hc _ =>
    intro henv
    obtain ⟨g, -, hok⟩ := job_admissible ti0 i v hin hc _ henv
    refine ⟨?_, fun e he => ?_⟩
    · dsimp only
      rw [att_append, att_single]
      exact (validOps2_append cfg t0 _ _).mpr ⟨g.valid, hok, trivial⟩
    · rcases List.mem_append.mp he with he | he
      · exact g.allOk e he
      · cases List.mem_singleton.mp he; rfl
  case jobErr hin hc hs =>
    intro henv
    obtain ⟨-, ti, hok⟩ := job_admissible ti0 i v hin hc _ henv
    obtain ⟨s1, h1, -⟩ := trackInv_step ti _ hok
    rw [h1] at hs
    cases hs
  all_goals exact v

end EV.ShutdownTask
