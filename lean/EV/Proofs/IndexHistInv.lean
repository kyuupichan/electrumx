import EV.Proofs.IndexHist

/-!
The history invariant: for every script hash, the rows in flush-id order followed by the unflushed
tail are exactly the specification's history — preserved by `advance_block` (`add_unflushed`),
by every `History.flush` (history-only or full), and by `History.backup`.
-/
namespace EV.Index
open EV.Spec

structure HistInv (S : St) (p : Store) (unf : List (HashX × List Nat)) (histFlush : Nat) : Prop where
  wf : HistWF p.hist histFlush
  unfKeys : (unf.map (·.1)).Nodup
  eq : ∀ hx, getTxnums p hx none ++ unfOf unf hx = historyOf S hx

theorem histInv_congr {S : St} {p p' : Store} {unf : List (HashX × List Nat)} {fc : Nat}
    (h : HistInv S p unf fc) (hh : p'.hist = p.hist) : HistInv S p' unf fc :=
  ⟨hh ▸ h.wf, h.unfKeys, fun hx => getTxnums_congr hh hx none ▸ h.eq hx⟩

theorem histInv_init : HistInv {} {} [] 0 :=
  ⟨⟨by simp, by simp⟩, by simp, by intro hx; simp [getTxnums, unfOf, historyOf]⟩

theorem touched_length_foldl (act height : Nat) (S : St) (txs : List Tx)
    (hlen : S.touched.length = S.txs.length) :
    (txs.foldl (applyTx act height) S).touched.length = (txs.foldl (applyTx act height) S).txs.length := by
  rw [foldl_touched, foldl_txs]
  simp [blockTouched_length, hlen]

theorem histInv_advance {S : St} {p : Store} {unf : List (HashX × List Nat)} {fc : Nat}
    (hinv : HistInv S p unf fc) (hlen : S.touched.length = S.txs.length)
    (act height : Nat) (txs : List Tx) :
    HistInv (txs.foldl (applyTx act height) S) p
      (addUnflushed unf (blockTouched act height S txs) S.txs.length) fc := by
  refine ⟨hinv.wf, nodup_keys_addUnflushed _ _ _ hinv.unfKeys, ?_⟩
  intro hx
  rw [unfOf_addUnflushed, historyOf_foldl act height S txs hlen hx, ← List.append_assoc, hinv.eq hx]

theorem histInv_flush {S : St} (s : Sys) (hinv : HistInv S s.p s.m.unflushed s.m.histFlush) :
    HistInv S (applyEffect s.p (histFlushEffect s)) [] (s.m.histFlush + 1) := by
  refine ⟨histWF_histFlush s hinv.wf, by simp, ?_⟩
  intro hx
  rw [getTxnums_histFlush s hinv.wf hinv.unfKeys hx]
  simpa [unfOf_nil] using hinv.eq hx

theorem histInv_backup {S : St} (s : Sys) (act height : Nat) (txs : List Tx) (touched : List HashX)
    (hlen : S.touched.length = S.txs.length)
    (hinv : HistInv (txs.foldl (applyTx act height) S) s.p [] s.m.histFlush)
    (htouched : ∀ hx ∈ (blockTouched act height S txs).flatten, hx ∈ touched) :
    HistInv S (applyEffect s.p (histBackupEffect s touched S.txs.length)) [] (s.m.histFlush + 1) := by
  have hasc : ∀ hx, (getTxnums s.p hx none).Pairwise (· < ·) := by
    intro hx
    have := hinv.eq hx
    rw [unfOf_nil, List.append_nil] at this
    rw [this]; exact historyOf_pairwise _ _
  refine ⟨histWF_histBackup_succ s touched S.txs.length hinv.wf, by simp, ?_⟩
  intro hx
  rw [getTxnums_histBackup' s touched S.txs.length hinv.wf.keys hx (hasc hx)]
  have heq := hinv.eq hx
  rw [unfOf_nil, List.append_nil] at heq ⊢
  rw [heq]
  split
  · rw [historyOf_foldl act height S txs hlen hx]
    apply filter_lt_append
    · intro a ha; have := historyOf_lt S hx a ha; omega
    · exact touchNums_ge _ _ hx
  · next hnot =>
    exact historyOf_foldl_untouched act height S txs hlen hx fun hm => hnot (htouched hx hm)

theorem getTxnums_flushed {S : St} {p : Store} {fc : Nat} (hinv : HistInv S p [] fc) (hx : HashX)
    (limit : Option Nat) :
    getTxnums p hx limit =
      match limit with
      | none => historyOf S hx
      | some k => (historyOf S hx).take k := by
  have heq := hinv.eq hx
  rw [unfOf_nil, List.append_nil] at heq
  cases limit with
  | none => exact heq
  | some k => rw [getTxnums_some, heq]

end EV.Index
