import EV.Proofs.HeaderCache
import EV.Proofs.StepX

/-!
C11, header proofs: the global invariant of `EV.HeaderCache` under the current code (`Cfg.fixed`),
preserved by every event — any number of requests, any interleaving.

`Step` spells out what each event does when its guard holds; every statement about one step of the
model, here and in `Props/C11`, is proved by cases on it.
-/
namespace EV.HeaderCache
open EV.Merkle

variable {Node : Type} (H : Node → Node → Node)

/-- the cache is judged against the ghost reference chain `ref`, which is the visible chain except
    between the two halves of a back-out (there: the chain before the back-out) -/
structure Inv (s : St Node) : Prop where
  cache : CacheInv H s.c s.ref
  pre : s.src <+: s.ref
  quiet : s.pending = none → s.ref = s.src
  half : ∀ n, s.pending = some n → s.src = s.ref.take n ∧ 0 < n ∧ n < s.ref.length
  reqs : ∀ r ∈ s.reqs, ReqOK H s.c s.truncations s.src s.ref r
  /-- the header part of every request / reply (F24) -/
  hdrs : ∀ r ∈ s.reqs, HdrOK H r

section
variable [DecidableEq Node]

/-- What one event does when its guard holds.  The two effects of a back-out on readers, `lower` (the
    visible chain is cut) and `trunc` (`truncate` and the counter), come in the order `cfg.lowerFirst`
    gives; a read performed and a read result delivered are one rule, `own`: a `Move` of that request;
    `skip`, `start` and `own` are allowed for every event: `Step` contains `step`, it is not equivalent
    to it.  `step_Step` is the only place where `step` is taken apart. -/
inductive Step (cfg : Cfg) (s : St Node) : Ev Node → St Node → Prop
  | skip (ev : Ev Node) : Step cfg s ev s
  | start (ev : Ev Node) (kind : Handler) (first count cp : Nat) : (kind = .header → count = 1) →
      Step cfg s ev
        { s with reqs := s.reqs ++ [newReq s.truncations s.src s.pending.isSome kind first count cp] }
  | own (ev : Ev Node) {i : Nat} {r r' : Req Node} {c' : Cache Node} : s.reqs[i]? = some r →
      Move H cfg s.c s.truncations s.src r c' r' → Step cfg s ev { s with c := c', reqs := s.reqs.set i r' }
  | lowerBegin (n : Nat) : cfg.lowerFirst = true → s.pending = none ∧ 0 < n ∧ n < s.src.length →
      Step cfg s (.boBegin n)
        { s with src := s.src.take n, pending := some n,
                 reqs := s.reqs.map (fun r => (r.see (s.src.take n)).markBo) }
  | truncEnd {n : Nat} : cfg.lowerFirst = true → s.pending = some n →
      Step cfg s .boEnd
        { s with c := (s.c.truncate (.int n)).1, truncations := s.truncations + 1, pending := none,
                 ref := s.src, reqs := s.reqs.map Req.markBo }
  | truncBegin (n : Nat) : ¬cfg.lowerFirst = true → s.pending = none ∧ 0 < n ∧ n < s.src.length →
      Step cfg s (.boBegin n)
        { s with c := (s.c.truncate (.int n)).1, truncations := s.truncations + 1, pending := some n,
                 reqs := s.reqs.map Req.markBo }
  | lowerEnd {n : Nat} : ¬cfg.lowerFirst = true → s.pending = some n →
      Step cfg s .boEnd
        { s with src := s.src.take n, pending := none, ref := s.src.take n,
                 reqs := s.reqs.map (fun r => (r.see (s.src.take n)).markBo) }
  | append (ns : List Node) : s.pending = none →
      Step cfg s (.append ns)
        { s with src := s.src ++ ns, ref := s.src ++ ns, reqs := s.reqs.map (Req.see (s.src ++ ns)) }

theorem step_Step (cfg : Cfg) (s : St Node) (ev : Ev Node) : Step H cfg s ev (step H cfg s ev) := by
  cases ev with
  | header height cp => exact .start _ .header height 1 cp fun _ => rfl
  | headers first count cp => exact .start _ .headers first count cp nofun
  | perform i =>
    show Step H cfg s _ (match s.reqs[i]? with | none => s | some r => _)
    cases hr : s.reqs[i]? with
    | none => exact .skip _
    | some r => exact .own _ hr (performReq_Move H cfg s.c s.truncations s.src r)
  | deliver i =>
    show Step H cfg s _ (match s.reqs[i]? with | none => s | some r => _)
    cases hr : s.reqs[i]? with
    | none => exact .skip _
    | some r => exact .own _ hr (deliverAll_Move H cfg s.c s.truncations s.src r)
  | boBegin n =>
    exact ite_ind (fun hg => ite_ind (.lowerBegin n · hg) (.truncBegin n · hg)) fun _ => .skip _
  | boEnd =>
    show Step H cfg s _ (match s.pending with | none => s | some n => _)
    cases hp : s.pending with
    | none => exact .skip _
    | some n => exact ite_ind (.truncEnd · hp) (.lowerEnd · hp)
  | append ns => exact ite_ind (.append ns) fun _ => .skip _

theorem Step.hist {cfg : Cfg} {s s' : St Node} {ev : Ev Node} (h : Step H cfg s ev s') :
    Continues (Req.Sees s'.src) (fun r => r.seen = [s'.src]) s.reqs s'.reqs := by
  have hR : ∀ {V} (r : Req Node), r.Sees V r := fun _ => .inl rfl
  cases h with
  | skip => exact .refl hR
  | start => exact .push hR rfl
  | own _ hj hm => exact .set hR hj (.inl (hm.seen H))
  | lowerBegin | lowerEnd => exact .map fun r => by rw [Req.Sees, markBo_seen]; exact see_sees _ r
  | truncBegin | truncEnd => exact .map fun r => .inl (markBo_seen r)
  | append => exact .map (see_sees _)

theorem Inv.step {s s' : St Node} {ev : Ev Node} (h : Step H Cfg.fixed s ev s') (hinv : Inv H s) : Inv H s' := by
  obtain ⟨c, T, src, pending, reqs, ref⟩ := s
  cases h with
  | skip => exact hinv
  | start ev kind first count cp hone =>
    exact { hinv with
      reqs := List.forall_mem_append.mpr ⟨hinv.reqs, List.forall_mem_singleton.mpr (reqOK_new H)⟩
      hdrs := List.forall_mem_append.mpr ⟨hinv.hdrs, List.forall_mem_singleton.mpr (hdrOK_new H hone)⟩ }
  | @own _ i r r' c' hr hmv =>
    have hm := List.mem_of_getElem? hr
    obtain ⟨d1, d2, d3, d4⟩ := hmv.ok H rfl rfl hinv.cache hinv.pre (hinv.reqs r hm)
    exact { hinv with
      cache := d1
      reqs := forall_mem_set (fun r' h => (hinv.reqs r' h).mono H d2 d3 hinv.cache.len) d4
      hdrs := forall_mem_set hinv.hdrs (hmv.hdrOK H rfl rfl (hinv.reqs r hm).head (hinv.hdrs r hm)) }
  | lowerBegin n _ hg =>
    obtain rfl : ref = src := hinv.quiet hg.1
    exact ⟨hinv.cache, List.take_prefix _ _, nofun, fun n' hn' => Option.some.inj hn' ▸ ⟨rfl, hg.2⟩,
      List.forall_mem_map.mpr fun r hr => reqOK_lower H n (hinv.reqs r hr),
      List.forall_mem_map.mpr fun r hr => hdrOK_markBo H (hdrOK_see H _ (hinv.hdrs r hr))⟩
  | @truncEnd n _ hp =>
    obtain ⟨rfl, h2, h3⟩ : src = ref.take n ∧ _ := hinv.half n hp
    obtain ⟨t1, t2, t3, _⟩ := truncate_length c (n : Int) (Int.natCast_pos.mpr h2)
    have hle : (c.truncate (.int n)).1.length ≤ n := by simpa using t2
    refine ⟨?_, List.prefix_refl _, fun _ => rfl, nofun,
      List.forall_mem_map.mpr fun r hr => reqOK_trunc H t3 (hinv.reqs r hr),
      List.forall_mem_map.mpr fun r hr => hdrOK_markBo H (hinv.hdrs r hr)⟩
    -- the truncated cache reaches at most `n` hashes, where the two chains agree
    apply (truncate_inv H c ref (.int n) hinv.cache).congr H
    · rw [List.length_take_of_le (Nat.le_of_lt h3)]; exact hle
    · rw [List.take_take, Nat.min_eq_left hle]
  | truncBegin _ hl | lowerEnd hl => exact absurd rfl hl
  | append ns hg =>
    obtain rfl : ref = src := hinv.quiet hg
    have hcl : c.length ≤ ref.length := hinv.cache.len
    refine ⟨?_, List.prefix_refl _, fun _ => rfl, fun n' hn' => (nomatch hg.symm.trans hn'),
      List.forall_mem_map.mpr fun r hr => reqOK_append H ns hcl (hinv.reqs r hr),
      List.forall_mem_map.mpr fun r hr => hdrOK_see H _ (hinv.hdrs r hr)⟩
    apply hinv.cache.congr H
    · rw [List.length_append]; exact Nat.le_add_right_of_le hcl
    · rw [List.take_append_of_le_length hcl]

end

/-- **the invariant is inductive** (current code): every event preserves it -/
theorem inv_step [DecidableEq Node] (s : St Node) (ev : Ev Node) (hinv : Inv H s) :
    Inv H (step H Cfg.fixed s ev) :=
  hinv.step H (step_Step H _ s ev)

theorem inv_run [DecidableEq Node] (s : St Node) (evs : List (Ev Node)) (hinv : Inv H s) :
    Inv H (run H Cfg.fixed s evs) :=
  foldl_inv (inv_step H) evs hinv

/-- `cache` is what C12 `cache_init` gives -/
structure Init (s : St Node) : Prop where
  cache : CacheInv H s.c s.src
  ref : s.ref = s.src
  pending : s.pending = none
  reqs : s.reqs = []

theorem Init.inv {s : St Node} (h : Init H s) : Inv H s :=
  ⟨by rw [h.ref]; exact h.cache, by rw [h.ref]; exact List.prefix_refl _, fun _ => h.ref,
    fun n hn => (by rw [h.pending] at hn; cases hn), fun r hr => (by rw [h.reqs] at hr; cases hr),
    fun r hr => (by rw [h.reqs] at hr; cases hr)⟩

end EV.HeaderCache
