import EV.Props.C03
import EV.Props.C03run
import EV.Props.C15

/-!
# C03 — the forced range with its side condition; one natural reorganisation, composed

`C03_reorg_range_forced` is the else-branch of the definition and holds for every `k`, also `k > n`, where it
"proves" `calcReorgRange _ _ 3 7 = (-3, 7)`.  Only with `k ≤ n` is the range the last `k` blocks with
`start ≥ 1` (height 0 is never backed out).  Otherwise `start ≤ 0`: the code then calls
`fs_block_hashes(start, count)` and fails (`DBError` from `read_headers`, or the `assert` / `ChainError`
of `backup_block` at height 0); that exception escapes `fetch_and_process_blocks`.  `rpc_reorg` bounds
`count` only by `non_negative_integer`.  Not modelled beyond this statement.

`C03_natural_reorg` composes "which blocks" (`calcReorgRange_exact`), "can they be backed out"
(`C15run_window`) and "what is left" (the whole-run invariant) for ONE natural reorganisation after
catching up from the empty index.  Uncomposed (by hand / suites `sync`, `system`): that `reorg_chain`
performs exactly the back-outs `backOuts chain count` for the range it computed (flush, fetch the hashes
of the range, back out in reverse order — modelled only as the event `reorg bs` / `reorgRange bs` with `bs`
an input in `EV.SyncLoopT` / `EV.ShutdownTask`); that the daemon does not change chain between the calls
of one `_calc_reorg_range`; detection (tip check, mid-batch); and every LATER reorganisation: `C15run_window`
needs a back-out-free run, and the hypothesis `hold` of `C15run_window_from` is discharged by nothing
after a reorganisation (it is false in `C15run_counterexample_lowered_tip`).
-/
namespace EV.Index
open EV.Spec

/-- **C03 (forced range, inside the chain).**  For a forced reorganisation of `k` blocks with
`k ≤ n` at height `n`: the range is `(start, k)` with `start = n + 1 − k ≥ 1` — exactly the last
`k` blocks, none of them height 0 (`k = 0`: the empty range above the tip). -/
theorem C03_reorg_range_forced' (mine daemon : Nat → Reorg.Hash) (n k : Nat) (hkn : k ≤ n) :
    ∃ start : Nat, Reorg.calcReorgRange mine daemon n k = ((start : Int), (k : Int)) ∧
      1 ≤ start ∧ start + k = n + 1 := by
  obtain ⟨d, rfl⟩ := Nat.exists_eq_add_of_le' hkn
  refine ⟨d + 1, ?_, Nat.le_add_left 1 d, Nat.add_right_comm d 1 k⟩
  rw [Reorg.calcReorgRange_forced, Int.natCast_add, Int.add_sub_cancel]
  rfl

/-- **C03 (forced range, out of range).**  For `k > n` the computed start is `n + 1 − k ≤ 0`: the
range reaches height 0 or below.  (`k = 0`: the empty range `(n + 1, 0)`.) -/
theorem C03_reorg_range_forced_out_of_range (mine daemon : Nat → Reorg.Hash) (n k : Nat) (hk : n < k) :
    (Reorg.calcReorgRange mine daemon n k).1 = (n : Int) + 1 - k ∧
    (Reorg.calcReorgRange mine daemon n k).1 ≤ 0 := by
  rw [Reorg.calcReorgRange_forced]
  show (n : Int) - k + 1 = n + 1 - k ∧ (n : Int) - k + 1 ≤ 0
  omega

/-- the two cases on instances: `k > n` gives a start below 0, `k ≤ n` the last `k` blocks -/
example : Reorg.calcReorgRange (fun h => h) (fun h => h) 3 (7 : Nat) = (-3, 7) ∧
    Reorg.calcReorgRange (fun h => h) (fun h => h) 8 (3 : Nat) = (6, 3) := by decide +kernel

/-- the hash of the block at height `h` of a chain (`db.fs_block_hashes`), 0 beyond it -/
def hashAt (chain : List Block) (h : Nat) : Reorg.Hash := (chain[h]?.map (·.hash)).getD 0

/-- **C03 (one natural reorganisation after catch-up, composed).**  Index any valid back-out-free
run from the empty index (advances with daemon heights `≤ H`, flushes, restarts) ending caught up at
height `H` on chain `c`.  Let the daemon then be on a chain that agrees with `c` below height `f` and
differs from `f` on (`ForkAt`), with `1 ≤ f ≤ H`, the depth `H − f + 1` within the reorg limit and
the chain at least twice as high as the fork is deep.  Then

* `_calc_reorg_range` (natural, `count = −1`) returns exactly `(f, H − f + 1)`;
* after the full flush `reorg_chain` starts with, backing out that many blocks, tip first, is a valid
  continuation of the run: no back-out fails;
* the result is a fully flushed state satisfying the whole-run invariant for `c.take f` — the common
  prefix — so that advancing the daemon's blocks from `f` on is again covered by the run theorem
  (`C03run_steps` / `C03run_refinement`) and a final full flush gives the observables of
  `C03run_observables`. -/
theorem C03_natural_reorg (cfg : Cfg) (ops : List IOp2) (hv : ValidOps2 cfg {} ops) (hnb : NoBackup ops)
    (H : Nat) (hH : (chainOf2 [] 0 ops).length = H + 1) (hd : DaemonLe H ops)
    (daemon : Nat → Reorg.Hash) (f : Nat)
    (hfork : Reorg.ForkAt (hashAt (chainOf2 [] 0 ops)) daemon f)
    (hf1 : 1 ≤ f) (hfH : f ≤ H) (hcond : 2 * (H - f + 1) ≤ H) (hlim : H - f + 1 ≤ cfg.reorgLimit) :
    Reorg.calcReorgRange (hashAt (chainOf2 [] 0 ops)) daemon H (-1) = ((f : Int), (H : Int) - f + 1) ∧
    ValidOps2 cfg {} (ops ++ [.flush true] ++ backOuts (chainOf2 [] 0 ops) (H - f + 1)) ∧
    ∃ s' K', runOps2 cfg {} (ops ++ [.flush true] ++ backOuts (chainOf2 [] 0 ops) (H - f + 1)) = .ok s' ∧
      FullInv' cfg ((chainOf2 [] 0 ops).take f) K' s' ∧ s'.m.dbst.height = s'.m.st.height := by
  obtain ⟨h1, s', K', h2, h3, h4⟩ :=
    C15run_window cfg ops hv hnb H hH hd (H - f + 1) hlim
      (Nat.sub_lt (Nat.lt_of_lt_of_le hf1 hfH) hf1)
  have hfe : H + 1 - (H - f + 1) = f := by omega
  rw [hfe] at h3
  exact ⟨Reorg.calcReorgRange_exact hfork hf1 hfH hcond, h1, s', K', h2, h3, h4⟩

/-- non-vacuity: reorg limit 2; five blocks indexed with exact daemon heights; the daemon forks at
    height 4 (depth 1; `2·1 ≤ 4`) -/
def nrCfg : Cfg := { act := 0, reorgLimit := 2 }
def nrGen : TxIn := ⟨0, 4294967295⟩
def nrB (h : Nat) : Block := ⟨100 + h, if h = 0 then 0 else 99 + h, 1000 + h, 80, [⟨11 + h, [nrGen], [⟨5, 1, .normal⟩]⟩]⟩
def nrOps : List IOp2 := [.adv (nrB 0) 0, .adv (nrB 1) 1, .adv (nrB 2) 2, .flush false, .adv (nrB 3) 3, .adv (nrB 4) 4]

example : ValidOps2 nrCfg {} nrOps ∧ (chainOf2 [] 0 nrOps).length = 4 + 1 ∧
    Reorg.calcReorgRange (hashAt (chainOf2 [] 0 nrOps)) (fun h => if h < 4 then 100 + h else 900 + h) 4 (-1)
      = (4, 1) := by
  decide +kernel

example : Reorg.ForkAt (hashAt (chainOf2 [] 0 nrOps)) (fun h => if h < 4 then 100 + h else 900 + h) 4 := by
  constructor
  · decide +kernel
  · intro h hh
    have hc : chainOf2 [] 0 nrOps = [nrB 0, nrB 1, nrB 2, nrB 3, nrB 4] := by decide +kernel
    rw [hc, if_neg (Nat.not_lt.mpr hh)]
    rcases Nat.eq_or_lt_of_le hh with rfl | h5
    · decide
    · -- beyond the chain `hashAt` is 0
      have : ([nrB 0, nrB 1, nrB 2, nrB 3, nrB 4] : List Block)[h]? = none := List.getElem?_eq_none h5
      rw [hashAt, this]
      exact Nat.ne_of_lt (Nat.lt_of_lt_of_le (by decide : 0 < 900) (Nat.le_add_right 900 h))

example : NoBackup nrOps ∧ DaemonLe (4 : Nat) nrOps := by
  constructor
  · intro b hb; simp [nrOps] at hb
  · intro b d hb
    simp only [nrOps, List.mem_cons, IOp2.adv.injEq, List.not_mem_nil, or_false, reduceCtorEq,
      false_or] at hb
    rcases hb with ⟨-, rfl⟩ | ⟨-, rfl⟩ | ⟨-, rfl⟩ | ⟨-, rfl⟩ | ⟨-, rfl⟩ <;> decide

end EV.Index
