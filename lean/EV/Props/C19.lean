import EV.Proofs.Peers
import EV.Proofs.PeersCons

/-!
# C19 — only verified, public, recently good peers are advertised, spread over networks

> For any set of known peers in any state, the peer list given to clients contains only peers that
> were verified recently, are not marked bad and are publicly routable (plus the server's own
> recently verified identities), never more than two such peers per external address bucket, and a
> bounded number of onion peers; a peer built from an arbitrary announced feature dictionary always
> has ports that are valid or absent and is treated as public only if its host is a syntactically
> valid hostname or a routable, non-private address.

Model: `EV/Model/Peers.lean` — literal models of `PeerManager.on_peers_subscribe` /
`_get_recent_good_peers` (`electrumx/server/peers.py`) and of `Peer.__init__`,
`peers_from_features`, `_port`, `_integer`, `_string`, `pruning`, `_protocol_version_string`,
`is_valid`, `is_public` (`electrumx/lib/peer.py`), tied to the real classes by the `peers`
correspondence suite on every run.

Quantification: every list of peer views (any states, any sharing of buckets, our own identities
inside or outside the peer set), every requester kind, every outcome of every `random.shuffle`
call (`IsShuffle`: each call returns a permutation of its argument); every decoded JSON value
`J` as feature dictionary, every source string.  Nothing is bounded.

The returned Python `set` is a list without repeated identities in the model; "number of returned
peers such that …" is `List.countP`.
-/
namespace EV.Peers

/-- **C19 (sound).**  Every peer in the answer of `on_peers_subscribe` is one of the server's own
identities verified less than `STALE_SECS` ago, or a known peer verified less than `STALE_SECS`
ago that is not marked bad and is public. -/
theorem C19_sound (now : Int) (peers myselves : List PeerV) (isTor : Bool)
    (shuf : Nat → List PeerV → List PeerV) (hshuf : IsShuffle shuf) :
    ∀ r ∈ onPeersSubscribe now peers myselves isTor shuf,
      (r ∈ myselves ∧ r.lastGood > now - EV.Gen.staleSecs) ∨
      (r ∈ peers ∧ r.lastGood > now - EV.Gen.staleSecs ∧ r.bad = false ∧ r.isPublic = true) := by
  intro r hr
  rcases mem_setUpdate hr with h | h
  · rcases mem_clearPart hshuf.sub h with h | h
    · exact Or.inl (mem_initSet h)
    · exact Or.inr (mem_recentGood h.1)
  · exact Or.inr (mem_recentGood (mem_onionPicks hshuf.sub h).1)

/-- **C19 (the answer is a set).**  No peer object is advertised twice — the counts in
`C19_bucket` / `C19_onion` count distinct objects.  Holds for any `shuf` whatsoever. -/
theorem C19_nodup (now : Int) (peers myselves : List PeerV) (isTor : Bool)
    (shuf : Nat → List PeerV → List PeerV) :
    ((onPeersSubscribe now peers myselves isTor shuf).map (·.id)).Nodup :=
  setUpdate_nodup _ (pickBuckets_nodup shuf _ 0 (setUpdate_nodup _ List.nodup_nil))

/-- `gen_consts.py` could observe the caps on the running code (the method still has the shape
"`N` per bucket; `cap_tor` resp. `max(floor, n // d)` onion peers"); otherwise the `Gen` values
are sentinels and nothing below may be relied on. -/
theorem caps_observed : EV.Gen.peersCapsObserved = true := by decide

/-- The literal the property text fixes ("never more than two"), read off the running code by
`gen_consts.py` (it observes how many of 40 eligible same-bucket peers the real method returns). -/
theorem bucketCap_is_two : EV.Gen.bucketCap = 2 := by decide

/-- **C19 (bucket).**  For every external address bucket `b`, at most **two** returned clearnet
peers other than the server's own identities have bucket `b`.  (Instance of the parametric
`bucket_le_cap` at the literal `2`: editing `bucket_peers[:2]` regenerates `Gen.bucketCap` and this
theorem stops checking while `bucket_le_cap` still holds.) -/
theorem C19_bucket (now : Int) (peers myselves : List PeerV) (isTor : Bool)
    (shuf : Nat → List PeerV → List PeerV) (hshuf : IsShuffle shuf) (b : String) :
    (onPeersSubscribe now peers myselves isTor shuf).countP
      (fun r => !r.isTor && decide (r.bucket = b) && !isMyself myselves r) ≤ 2 := by
  have h := bucket_le_cap now peers myselves isTor shuf hshuf.sub b
  rw [bucketCap_is_two] at h
  exact h

/-- **C19 (onion).**  The number of returned onion peers other than the server's own identities is
at most `cap_tor` for a Tor requester and `max(floor, n // div)` otherwise, where `n` is the size of
the clearnet part of the answer (`clearPart`: own identities + bucket picks) and the three
constants are the ones observed on the running code (50, 10, 4 at the pinned commit). -/
theorem C19_onion (now : Int) (peers myselves : List PeerV) (isTor : Bool)
    (shuf : Nat → List PeerV → List PeerV) (hshuf : IsShuffle shuf) :
    (onPeersSubscribe now peers myselves isTor shuf).countP
      (fun r => r.isTor && !isMyself myselves r) ≤
    if isTor then EV.Gen.onionCapTor
    else max EV.Gen.onionFloor ((clearPart now peers myselves shuf).length / EV.Gen.onionDiv) :=
  onion_le_max now peers myselves isTor shuf hshuf.sub

/-- What "the clearnet part" in `C19_onion` is: the answer is the clearnet part followed by onion
picks only, and every member of the clearnet part is an own identity or a clearnet peer. -/
theorem C19_onion_split (now : Int) (peers myselves : List PeerV) (isTor : Bool)
    (shuf : Nat → List PeerV → List PeerV) (hshuf : IsShuffle shuf) :
    (∃ extra, onPeersSubscribe now peers myselves isTor shuf
        = clearPart now peers myselves shuf ++ extra ∧ ∀ e ∈ extra, e.isTor = true) ∧
    ∀ c ∈ clearPart now peers myselves shuf, c ∈ myselves ∨ c.isTor = false := by
  constructor
  · obtain ⟨extra, h1, h2⟩ := setUpdate_eq_append (onionPicks now peers myselves isTor shuf)
      (clearPart now peers myselves shuf)
    exact ⟨extra, h1, fun e he => (mem_onionPicks hshuf.sub (h2.subset he)).2⟩
  · intro c hc
    rcases mem_clearPart hshuf.sub hc with h | h
    · exact Or.inl (mem_initSet h).1
    · exact Or.inr h.2

/-- **C19 (ports).**  For every decoded JSON value announced as feature dictionary and every
source, `Peer.peers_from_features` does not raise, and every peer it builds has a TCP port and an
SSL port that are absent or satisfy `0 < port < 65536` (and a pruning value absent or positive).
Hypothesis `PyStrOK`: CPython's `str(i)` succeeds for `0` and for every `i` that `int(s)` can
produce (it is the only operation in `Peer.__init__` that could raise: `version_string`). -/
theorem C19_ports (P : Py) (hP : PyStrOK P) (features : J) (source : String) :
    ∃ ps, peersFromFeatures P features source = .ok ps ∧
      ∀ p ∈ ps, (∀ v, p.tcpPort = some v → 0 < v ∧ v < 65536) ∧
                (∀ v, p.sslPort = some v → 0 < v ∧ v < 65536) ∧
                (∀ v, p.pruning = some v → 0 < v) := by
  obtain ⟨ps, hps⟩ := peersFromFeatures_ok hP features source
  exact ⟨ps, hps, (peersFromFeatures_spec P features source).1 ps hps⟩

/-- **C19 (ports), without any assumption on CPython**: whatever `int(str)` / `str(int)` do, every
peer that is built has valid-or-absent ports, and the only exception that can escape is the
`ValueError` of `str(int)`. -/
theorem C19_ports_any (P : Py) (features : J) (source : String) :
    (∀ ps, peersFromFeatures P features source = .ok ps →
      ∀ p ∈ ps, (∀ v, p.tcpPort = some v → 0 < v ∧ v < 65536) ∧
                (∀ v, p.sslPort = some v → 0 < v ∧ v < 65536)) ∧
    (∀ e, peersFromFeatures P features source = .error e → e = .valueError) := by
  have h := peersFromFeatures_spec P features source
  refine ⟨fun ps hps p hp => ?_, fun e he => (h.2 e he).1⟩
  have hok := h.1 ps hps p hp
  exact ⟨hok.1, hok.2.1⟩

/-- **C19 (public).**  A peer is treated as public only if its host does not parse as an IP
address, is a syntactically valid hostname and is not `localhost`; or parses as an address that is
(global or private), not multicast, not unspecified and not private.  `ipaddress` and
`aiorpcx.is_valid_hostname` are the parameters `N`. -/
theorem C19_public (N : Net) (p : Peer) (h : p.isPublic N = true) :
    (N.ipOf p.host = none ∧ N.validHostname p.host = true ∧ p.host ≠ "localhost") ∨
    (∃ a, N.ipOf p.host = some a ∧ (a.isGlobal = true ∨ a.isPrivate = true) ∧
      a.isMulticast = false ∧ a.isUnspecified = false ∧ a.isPrivate = false) := by
  cases hip : N.ipOf p.host with
  | none =>
    simp only [Peer.isPublic, isPublicHost, isValidHost, hip, Bool.and_eq_true, bne_iff_ne,
      ne_eq] at h
    exact Or.inl ⟨rfl, h⟩
  | some a =>
    simp only [Peer.isPublic, isPublicHost, isValidHost, hip, Bool.and_eq_true, Bool.or_eq_true,
      Bool.not_eq_true', Bool.or_eq_false_iff] at h
    exact Or.inr ⟨a, rfl, h.1.1, h.1.2.1, h.1.2.2, h.2⟩

/-- **C19 (advertised peers are public hosts).**  Putting the two halves together: if the views
handed to `on_peers_subscribe` are the views of constructed peers, every advertised peer that is
not one of our own identities has a host that passes the `C19_public` test. -/
theorem C19_advertised_public (N : Net) (bucketOf : Option String → String)
    (now : Int) (peers myselves : List PeerV) (isTor : Bool)
    (shuf : Nat → List PeerV → List PeerV) (hshuf : IsShuffle shuf)
    (hview : ∀ v ∈ peers, ∃ id p ip lg bad, v = viewOf N bucketOf id p ip lg bad) :
    ∀ r ∈ onPeersSubscribe now peers myselves isTor shuf, r ∉ myselves →
      (N.ipOf r.host = none ∧ N.validHostname r.host = true ∧ r.host ≠ "localhost") ∨
      (∃ a, N.ipOf r.host = some a ∧ (a.isGlobal = true ∨ a.isPrivate = true) ∧
        a.isMulticast = false ∧ a.isUnspecified = false ∧ a.isPrivate = false) := by
  intro r hr hnm
  rcases C19_sound now peers myselves isTor shuf hshuf r hr with h | h
  · exact absurd h.1 hnm
  · obtain ⟨id, p, ip, lg, bad, rfl⟩ := hview r h.1
    exact C19_public N p h.2.2.2

/-! ## Non-vacuity -/

/-- a shuffle that really permutes -/
example : IsShuffle (fun _ l => l.reverse) := fun _ l => List.reverse_perm l

/-- `PyStrOK` holds of the executable CPython instance the driver uses -/
example : PyStrOK pyAscii := pyAscii_strOK

private def pv (id : Nat) (lg : Int) (bad tor pub : Bool) (b : String) : PeerV :=
  { id := id, lastGood := lg, bad := bad, isTor := tor, isPublic := pub, bucket := b }

/-- three eligible peers in one /16, one stale, one bad, one private, one onion, our own identity
also a member of the peer set: two of the three are advertised (with the reversing shuffle the last
two), the stale / bad / private ones are not. -/
example :
    (onPeersSubscribe 20000 [pv 1 19000 false false true "1.2.0.0/16",
                             pv 2 19000 false false true "1.2.0.0/16",
                             pv 3 19000 false false true "1.2.0.0/16",
                             pv 4 9200 false false true "5.6.0.0/16",
                             pv 5 19000 true false true "5.6.0.0/16",
                             pv 6 19000 false false false "5.6.0.0/16",
                             pv 7 19000 false true true "onion",
                             pv 0 19999 false false true "9.9.0.0/16"]
        [pv 0 19999 false false true "9.9.0.0/16"] false (fun _ l => l.reverse)).map (·.id)
      = [0, 3, 2, 7] := by decide +kernel

/-- the boundary: `last_good = now - STALE_SECS` is *not* recent, one second later is -/
example :
    (onPeersSubscribe 20000 [pv 1 9200 false false true "", pv 2 9201 false false true ""]
        [] false (fun _ l => l)).map (·.id) = [2] := by decide +kernel

private def pyToy : Py := { intOfString := fun _ => none, strOfInt := fun _ => some "0" }

/-- a constructed peer with a port taken from the host entry, one out of range dropped, `true`
accepted as the integer 1 -/
example :
    (match peersFromFeatures pyToy
        (.obj [("hosts", .obj [("a", .obj [("tcp_port", .int 50001), ("ssl_port", .int 65536)]),
                               ("b", .obj [("tcp_port", .bool true)])])]) "src" with
     | .ok [p, q] => p.tcpPort == some 50001 && p.sslPort == none && q.tcpPort == some 1
     | _ => false) = true := by decide +kernel

private def netToy : Net :=
  { ipOf := fun h =>
      if h = "8.8.8.8" then some { isGlobal := true, isPrivate := false, isMulticast := false, isUnspecified := false }
      else if h = "10.0.0.1" then some { isGlobal := false, isPrivate := true, isMulticast := false, isUnspecified := false }
      else none
    validHostname := fun h => h = "a.example.com" || h = "localhost" }

private def peerToy (host : String) : Peer :=
  { host := host, source := "", features := [], pruning := none, serverVersion := none,
    protocolMin := "0.0", protocolMax := "0.0", sslPort := none, tcpPort := none }

/-- `C19_public` is not vacuous: a global address and a valid name are public, a private address
and `localhost` are not -/
example : (peerToy "8.8.8.8").isPublic netToy = true ∧ (peerToy "a.example.com").isPublic netToy = true ∧
    (peerToy "10.0.0.1").isPublic netToy = false ∧ (peerToy "localhost").isPublic netToy = false ∧
    (peerToy "b.example.com").isPublic netToy = false := by decide +kernel

/-- the hypothesis `hview` of `C19_advertised_public` is satisfiable by a population that is
actually advertised -/
example :
    (∀ v ∈ [viewOf netToy (fun _ => "") 1 (peerToy "8.8.8.8") none 19000 false],
      ∃ id p ip lg bad, v = viewOf netToy (fun _ => "") id p ip lg bad) ∧
    (onPeersSubscribe 20000 [viewOf netToy (fun _ => "") 1 (peerToy "8.8.8.8") none 19000 false]
      [] false (fun _ l => l)).length = 1 := by
  refine ⟨fun v hv => ?_, ?_⟩
  · simp only [List.mem_singleton] at hv
    exact ⟨1, peerToy "8.8.8.8", none, 19000, false, hv⟩
  · have hp : (peerToy "8.8.8.8").isPublic netToy = true := by decide +kernel
    simp only [viewOf, hp]
    -- whether or not the host ends in ".onion" (not kernel-evaluable), the peer is advertised
    generalize (peerToy "8.8.8.8").isTor = t
    cases t <;> decide +kernel

end EV.Peers
