import EV.Props.C12

/-!
# C12 (binding) — what a verifying proof tells the client

`EV/Props/C12.lean` shows that the branch handed out folds to the merkle root (completeness: the
server's proof verifies).  The theorems there assume nothing about the hash.  This file adds the
converse direction a client relies on, which *does* need the hash to be collision-free, stated as
an explicit hypothesis on the abstract `H` (`Collisionless H`: `H a b = H c d → a = c ∧ b = d`;
the free term hash `T.n` of the examples satisfies it, so the hypothesis is satisfiable; for
double-SHA256 it is the usual cryptographic assumption and is *not* claimed here):
any (leaf, branch) of the natural length that `root_from_proof` folds, at position `idx`, to the
merkle root of `hs` **is** `hs[idx]` with exactly the branch `branch_and_root` returns: the server
cannot be made to "prove" another leaf at that position, and the branch is unique.  In the TSC
format (`*` = duplicate of the running hash) the branch is not unique by design (a `*` and an
explicit copy fold alike) but the leaf still binds.
-/
namespace EV.Merkle

variable {Node : Type} (H : Node → Node → Node)

def Collisionless : Prop := ∀ a b c d, H a b = H c d → a = c ∧ b = d

theorem stepElt_inj (hinj : Collisionless H) {x y : Node} {e e' : Elt Node} {i : Int}
    (h : stepElt H x e i = stepElt H y e' i) : x = y ∧ e.get x = e'.get y := by
  unfold stepElt at h
  by_cases hi : i % 2 = 1
  · rw [if_pos hi, if_pos hi] at h
    exact (hinj _ _ _ _ h).symm
  · rw [if_neg hi, if_neg hi] at h
    exact hinj _ _ _ _ h

/-- **C12 (binding, loop).**  For a collision-free hash, `root_from_proof`'s loop is injective in
the leaf and the branch (same index, same branch length). -/
theorem rfpLoop_inj (hinj : Collisionless H) :
    ∀ (br br' : List Node) (x y : Node) (i : Int), br.length = br'.length →
      (rfpLoop H x br i).1 = (rfpLoop H y br' i).1 → x = y ∧ br = br'
  | [], [], x, y, i, _, h => ⟨h, rfl⟩
  | e :: r, e' :: r', x, y, i, hl, h => by
      rw [rfpLoop_cons, rfpLoop_cons] at h
      obtain ⟨h1, h2⟩ := rfpLoop_inj hinj r r' _ _ _ (Nat.succ.inj hl) h
      obtain ⟨hx, he⟩ := stepElt_inj H hinj h1
      exact ⟨hx, by rw [show e = e' from he, h2]⟩
  | [], _ :: _, _, _, _, hl, _ => nomatch hl
  | _ :: _, [], _, _, _, hl, _ => nomatch hl

/-- **C12 (binding).**  Let `H` be collision-free, `idx < len(hs)`.  If
`root_from_proof(x, br, idx)` returns the merkle root of `hs` for some leaf `x` and some branch
`br` of the natural length `⌈log₂ n⌉`, then `x = hs[idx]` and `br` is exactly the (classic)
branch `branch_and_root(hs, idx)` returns. -/
theorem bar_binds (hinj : Collisionless H) (hs : List Node) (idx : Nat) (h : idx < hs.length)
    (x : Node) (br : List Node) (hlen : br.length = Nat.clog 2 hs.length)
    (hv : rootFromProof H x br idx =
      .ok (merkleRoot H hs (List.ne_nil_of_length_pos (by omega)))) :
    x = hs[idx] ∧
      branchAndRoot H hs (.int idx) none false =
        .ok (br.map .node, merkleRoot H hs (List.ne_nil_of_length_pos (by omega))) := by
  -- the server's own proof verifies too; injectivity of the loop identifies the two
  have hb := branchAndRoot_none H false hs idx h
  have hf := fold_root H hs idx _ h (Nat.le_refl _)
  rw [Nat.sub_self, dupN] at hf
  rw [specBranch_false H _ hs idx h] at hb
  obtain ⟨hx, hbr⟩ := rfpLoop_inj H hinj br _ x hs[idx] idx
    (by rw [hlen, nodesOf_specBranch_length H _ h])
    ((verify_ok hv).trans (verify_ok hf).symm)
  exact ⟨hx, by rw [hbr]; exact hb⟩

/-- **C12 (binding, two leaves).**  With a collision-free hash no two different leaves have
verifying proofs (of the natural length) for the same position against the same list. -/
theorem bar_binds_unique (hinj : Collisionless H) (hs : List Node) (idx : Nat) (h : idx < hs.length)
    (x y : Node) (bx by' : List Node)
    (hlx : bx.length = Nat.clog 2 hs.length) (hly : by'.length = Nat.clog 2 hs.length)
    (hvx : rootFromProof H x bx idx = .ok (merkleRoot H hs (List.ne_nil_of_length_pos (by omega))))
    (hvy : rootFromProof H y by' idx = .ok (merkleRoot H hs (List.ne_nil_of_length_pos (by omega)))) :
    x = y := by
  rw [(bar_binds H hinj hs idx h x bx hlx hvx).1, (bar_binds H hinj hs idx h y by' hly hvy).1]

/-- **C12 (binding, TSC loop).**  In the TSC format a `*` and an explicit copy of the running hash
fold alike, so the *branch* is not unique by design; the **leaf** still is: for a collision-free
hash the client's TSC verification loop is injective in the leaf (same index, same length). -/
theorem rfpTscLoop_inj_leaf (hinj : Collisionless H) :
    ∀ (br br' : List (Elt Node)) (x y : Node) (i : Int), br.length = br'.length →
      (rfpTscLoop H x br i).1 = (rfpTscLoop H y br' i).1 → x = y
  | [], [], x, y, i, _, h => h
  | e :: r, e' :: r', x, y, i, hl, h => by
      rw [rfpTscLoop_cons, rfpTscLoop_cons] at h
      exact (stepElt_inj H hinj (rfpTscLoop_inj_leaf hinj r r' _ _ _ (Nat.succ.inj hl) h)).1
  | [], _ :: _, _, _, _, hl, _ => nomatch hl
  | _ :: _, [], _, _, _, hl, _ => nomatch hl

/-- **C12 (binding, TSC).**  Collision-free `H`, `idx < len(hs)`: any leaf `x` with *any* TSC
branch of the natural length that the client folds to the merkle root of `hs` at position `idx`
is `hs[idx]`. -/
theorem bar_binds_tsc (hinj : Collisionless H) (hs : List Node) (idx : Nat) (h : idx < hs.length)
    (x : Node) (br : List (Elt Node)) (hlen : br.length = Nat.clog 2 hs.length)
    (hv : rootFromProofTsc H x br idx =
      .ok (merkleRoot H hs (List.ne_nil_of_length_pos (by omega)))) :
    x = hs[idx] := by
  have hf := fold_root_tsc H true hs idx _ h (Nat.le_refl _)
  rw [Nat.sub_self, dupN] at hf
  exact rfpTscLoop_inj_leaf H hinj br _ x hs[idx] idx (by rw [hlen, specBranch_length])
    ((verify_ok hv).trans (verify_ok hf).symm)

/-- **C12 (classic format is star-free).**  Whatever the arguments — any index, any `length`
padding — a branch returned with `tsc_format=False` contains only nodes, never the `*` marker
(`bar_padding` states the fold only through the TSC-aware loop). -/
theorem bar_classic_starfree (hs : List Node) (index : IntArg) (length : Option IntArg)
    (br : List (Elt Node)) (r : Node)
    (h : branchAndRoot H hs index length false = .ok (br, r)) :
    ∃ nodes : List Node, br = nodes.map .node := by
  -- an `ok` result comes out of the loop, run on an index in range: the branch is a `specBranch`
  cases index with
  | notInt => cases h
  | int i =>
    obtain ⟨h0, h1⟩ := branchAndRoot_ok_range H h
    obtain ⟨idx, rfl⟩ := Int.eq_ofNat_of_zero_le h0
    have hidx : idx < hs.length := by omega
    obtain ⟨n, r', hloop⟩ : ∃ n r', barLoop H false n hs idx [] = .ok (br, r') := by
      rw [branchAndRoot_in_range H false hidx] at h
      split at h
      · exact ⟨_, _, h⟩
      · cases h
      · split at h
        · cases h
        · exact ⟨_, _, h⟩
    obtain ⟨_, _, h2⟩ := barLoop_eq H false n hs idx [] hidx
    rw [h2] at hloop
    cases hloop
    exact ⟨_, specBranch_false H n hs idx hidx⟩

/-- **C12 (`length` padding, classic format, real verifier).**  With `tsc_format=False` and any
padding `l ≥ ⌈log₂ n⌉` the branch is a list of `l` nodes and `root_from_proof(hs[idx], branch, idx)`
— the real classic verifier — returns the returned root. -/
theorem bar_padding_classic (hs : List Node) (idx l : Nat) (h : idx < hs.length)
    (hl : Nat.clog 2 hs.length ≤ l) :
    ∃ (nodes : List Node) (r : Node),
      branchAndRoot H hs (.int idx) (some (.int l)) false = .ok (nodes.map .node, r) ∧
      nodes.length = l ∧ rootFromProof H hs[idx] nodes idx = .ok r := by
  refine ⟨nodesOf (specBranch H false l hs idx), _, ?_, ?_,
    fold_root H hs idx l h hl⟩
  · rw [← specBranch_false H l hs idx h]; exact branchAndRoot_some H false hs idx l h hl
  · exact nodesOf_specBranch_length H l h

section Examples
open T

theorem T_collisionless : Collisionless T.n := by
  intro a b c d h; cases h; exact ⟨rfl, rfl⟩

/-- the hypotheses of `bar_binds` are met by the proof the server hands out for leaf 2 of 3 -/
example :
    ([l 2, n (l 0) (l 1)] : List T).length = Nat.clog 2 ([l 0, l 1, l 2] : List T).length ∧
    rootFromProof T.n (l 2) [l 2, n (l 0) (l 1)] 2 = .ok (merkleRoot T.n [l 0, l 1, l 2] (by simp)) := by
  refine ⟨by decide +kernel, ?_⟩
  simp [merkleRoot, pairs, rootFromProof, rfpLoop]

/-- without collision-freeness the conclusion fails: a constant hash accepts any leaf -/
example : rootFromProof (fun _ _ : Nat => 0) 7 [5] 0 = rootFromProof (fun _ _ : Nat => 0) 8 [5] 0 := by
  decide

/-- TSC: the branch is not unique (`*` vs. an explicit copy of the running hash), the leaf is -/
example : rootFromProofTsc T.n (l 2) [.star, .node (n (l 0) (l 1))] 2 =
    rootFromProofTsc T.n (l 2) [.node (l 2), .node (n (l 0) (l 1))] 2 := by decide

end Examples

end EV.Merkle
