import EV.Props.C04audit
import EV.Proofs.CrashResume

/-!
# C04 — resuming sync after a crash reaches the same state (the second half of the property)

"If the process dies at any instant during block processing or a flush …, then on restart the
database opens, reports a height it had fully committed, and every observable of the index equals
that of a clean index of the chain to that height; **resuming sync then reaches exactly the same
final state as an uninterrupted run.**"

`EV/Props/C04audit.lean` proves the first half for every cut `c` of every flush of every valid run
`ops`.  For a cut that contains the UTXO batch the restarted state `r` IS the state of the crash-free
run `ops ++ [flush, reopen]` (every continuation from `r` is literally a suffix of that run).  For a
cut before the UTXO batch the restarted store is NOT the one a clean restart `r0` of the pre-flush
store gives: the three meta files may carry torn data beyond the committed lengths, `clear_excess`
has rewritten the history state record.  This file proves that the difference never matters and
disappears:

* `ResEq r0 r` — same memory, same `h`/`u`/undo/history tables, same UTXO state record, same history
  flush count, files equal on the first `fs_height + 1` headers / counts and `fs_tx_count` hashes;
* every operation of a run — `advance_block` of any block, either kind of flush, a back-out, another
  restart — fails on both with the same error or succeeds on both with `ResEq` results
  (`EV/Proofs/CrashResume.lean`: `resEq_step`), because nothing reads a file beyond the committed
  lengths and `flush_fs` writes at the offsets `fs_height + 1` / `prior_tx_count`;
* hence for EVERY continuation `ops'` that is valid for the crash-free run `ops ++ [reopen] ++ ops'`
  the resumed run succeeds and ends `SameResume` to the end state `a` of that crash-free run; `a`
  satisfies the whole-run invariant for the surviving chain, so C01/C03 say what its answers are;
* the files agree from the old tip on (`TailEq`), so as soon as the resumed sync has flushed past the
  height / tx count the interrupted flush was writing, the two stores are equal outright
  (`StoreEqv`: every table, every record, every file byte);
* the same for ANY NUMBER of crashes (`Resumed`): a state reached by run operations and crashes at
  arbitrary cuts of arbitrary flushes is `SameResume` to the end state of the crash-free run that
  explains it, and the crashed sync never gets stuck;
* "an uninterrupted run" proper — no crash, no restart, its own flush schedule — differs from the
  crash-free run above in things no query shows (flush ids, the partition of history rows by flush
  id, which old undo rows a restart pruned); when both stand fully flushed on the same surviving
  chain, every query is answered alike and the undo information of every height both retain is the
  same.

Hypotheses: validity of the crash-free run (`ValidOps2`, as in C03/C04audit — each advanced block
links to the tip and spends existing outputs, each back-out is admissible); nothing else.
Trusted, as in `C04.lean`: LevelDB batches are atomic and durable; a killed process loses no
completed `write()`.
-/
namespace EV.Index
open EV.Spec

/-- "the resumed run is in the same state as the crash-free run": `a` is the end state of the
    crash-free run, `b` the one of the run that crashed, restarted and resumed -/
structure SameResume (cfg : Cfg) (a b : Sys) : Prop where
  /-- same memory, tables, UTXO state record, history flush count; files equal up to the pointers -/
  res : ResEq a b
  /-- the history state record as a whole (absent = all defaults) -/
  hstate : b.p.hstate.getD {} = a.p.hstate.getD {}
  /-- every read-path answer -/
  obs : ObsEq a b
  /-- `read_undo_info` of every height, on disk and pending -/
  undo : ∀ h, alookup h b.p.undo = alookup h a.p.undo ∧ undoLookup b h = undoLookup a h
  /-- the effect list (and new memory) of the next flush of either kind -/
  flush : ∀ fu, flushDbs b fu = flushDbs a fu
  /-- any further operation, valid or not: same error, or `ResEq` results -/
  next : ∀ op, ResEqE (stepOp2 cfg a op) (stepOp2 cfg b op)

theorem SameResume.of_resEq {cfg : Cfg} {t : Track} {a b : Sys} (ti : TrackInv cfg t a) (R : ResEq a b)
    (ca : EV.Compact.RunShape a) (cb : EV.Compact.RunShape b) : SameResume cfg a b :=
  ⟨R, hstate_eq_of_idle R ca.disk cb.disk, obsEq_of_resEq ti.inv.base.files R, R.undoRows, R.flushDbs,
    resEq_step ti.inv.base R⟩

theorem utxoBatch_free_of_not {c : List Effect} (hu : ¬ ∃ e ∈ c, e.isUtxoBatch = true) :
    ∀ e ∈ c, e.isUtxoBatch = false :=
  fun e he => Bool.eq_false_iff.mpr fun h => hu ⟨e, he, h⟩

/-- the restart of the crash-free run and its bookkeeping -/
theorem C04run_clean_restart (cfg : Cfg) (ops : List IOp2) (hv : ValidOps2 cfg {} ops) {s : Sys}
    (hs : runOps2 cfg {} ops = .ok s) :
    ∃ e0 r0, recover cfg s.p = some (e0, r0) ∧ runOps2 cfg {} (ops ++ [.reopen]) = .ok r0 ∧
      TrackInv cfg ((Track.run cfg {} ops).step cfg .reopen) r0 := by
  obtain ⟨r0, hr0, ti0⟩ := trackInv_step (trackInv_of_run hv hs) .reopen trivial
  obtain ⟨e0, h0⟩ := reopen_ok hr0
  exact ⟨e0, r0, h0, runOps2_concat_of_ok hs hr0, ti0⟩

/-- a crash before the UTXO commit of a flush issued in a state `s` of the run invariant: the restart
    succeeds, is `ResEq` to the clean restart `r0`, and the files agree from the tip of the flush on -/
theorem crash_before_commit {cfg : Cfg} {t : Track} {s : Sys} (ti : TrackInv cfg t s)
    {fu : Bool} {es : List Effect} {m' : Mem} (hf : flushDbs s fu = some (es, m'))
    {c : List Effect} (hc : c ∈ cuts es) (hnu : ∀ x ∈ c, x.isUtxoBatch = false) :
    ∃ r0 e r, stepOp2 cfg s .reopen = .ok r0 ∧ TrackInv cfg (t.step cfg .reopen) r0 ∧
      recover cfg (applyEffects s.p c) = some (e, r) ∧ ResEq r0 r ∧
      TailEq (s.m.st.height + 1).toNat (s.m.st.height + 1).toNat s.m.st.txCount r0.p r.p := by
  obtain ⟨r0, hr0, ti0⟩ := trackInv_step ti .reopen trivial
  obtain ⟨e0, h0⟩ := reopen_ok hr0
  obtain ⟨e, r, hr, R⟩ :=
    resEq_of_recoversSame (C04_cut_before_utxo_batch cfg (flushPre_of_fullInv' ti.inv) hf hc hnu) h0
  refine ⟨r0, e, r, hr0, ti0, hr, R, ?_⟩
  rw [(recover_effects h0).2, (recover_effects hr).2]
  exact (tailEq_of_cut ti.inv.base.files hf hc).of_files (files_openStore cfg _) (files_openStore cfg _)

/-- a crash after the UTXO commit: the restart IS the clean restart after the complete flush -/
theorem crash_after_commit {cfg : Cfg} {t : Track} {s : Sys} (ti : TrackInv cfg t s)
    {fu : Bool} {es : List Effect} {m' : Mem} (hf : flushDbs s fu = some (es, m'))
    {c : List Effect} (hc : c ∈ cuts es) (hu : ∃ x ∈ c, x.isUtxoBatch = true) :
    ∃ s1 r e, stepOp2 cfg s (.flush fu) = .ok s1 ∧ stepOp2 cfg s1 .reopen = .ok r ∧
      TrackInv cfg ((t.step cfg (.flush fu)).step cfg .reopen) r ∧
      recover cfg (applyEffects s.p c) = some (e, r) := by
  obtain ⟨s1, hs1, ti1⟩ := trackInv_step ti (.flush fu) trivial
  obtain ⟨r, hr, tir⟩ := trackInv_step ti1 .reopen trivial
  obtain ⟨e, hrec⟩ := reopen_ok hr
  refine ⟨s1, r, e, hs1, hr, tir, ?_⟩
  rw [show stepOp2 cfg s (.flush fu) = _ from flush_of_some hf] at hs1
  cases hs1
  rw [C04_cut_after_utxo_batch hf hc hu]
  exact hrec

/-- the same at a PAIR: the flush is issued in a state `b` that is `ResEq` to a state `a` of the run
    invariant; the restart is `ResEq` to the clean restart of `a` -/
theorem resEq_crash_before {cfg : Cfg} {t : Track} {a b : Sys} (ti : TrackInv cfg t a) (R : ResEq a b)
    {fu : Bool} {es : List Effect} {m' : Mem} (hf : flushDbs b fu = some (es, m'))
    {c : List Effect} (hc : c ∈ cuts es) (hnu : ∀ x ∈ c, x.isUtxoBatch = false) :
    ∃ r0 e r, stepOp2 cfg a .reopen = .ok r0 ∧ TrackInv cfg (t.step cfg .reopen) r0 ∧
      recover cfg (applyEffects b.p c) = some (e, r) ∧ ResEq r0 r := by
  obtain ⟨rb, e, r, hrb, -, hrec, Rb, -⟩ := crash_before_commit (trackInv_of_resEq ti R) hf hc hnu
  obtain ⟨r0, rb', hr0, hrb', ti0, R0⟩ := resEq_okStep ti R .reopen trivial
  cases hrb.symm.trans hrb'
  exact ⟨r0, e, r, hr0, ti0, hrec, R0.trans Rb⟩

theorem resEq_crash_after {cfg : Cfg} {t : Track} {a b : Sys} (ti : TrackInv cfg t a) (R : ResEq a b)
    {fu : Bool} {es : List Effect} {m' : Mem} (hf : flushDbs b fu = some (es, m'))
    {c : List Effect} (hc : c ∈ cuts es) (hu : ∃ x ∈ c, x.isUtxoBatch = true) :
    ∃ a1 r1 e r, stepOp2 cfg a (.flush fu) = .ok a1 ∧ stepOp2 cfg a1 .reopen = .ok r1 ∧
      TrackInv cfg ((t.step cfg (.flush fu)).step cfg .reopen) r1 ∧
      recover cfg (applyEffects b.p c) = some (e, r) ∧ ResEq r1 r := by
  obtain ⟨b1, r, e, hb1, hr, -, hrec⟩ := crash_after_commit (trackInv_of_resEq ti R) hf hc hu
  obtain ⟨a1, b1', ha1, hb1', ti1, R1⟩ := resEq_okStep ti R (.flush fu) trivial
  cases hb1.symm.trans hb1'
  obtain ⟨r1, r', hr1, hr', tir, R2⟩ := resEq_okStep ti1 R1 .reopen trivial
  cases hr.symm.trans hr'
  exact ⟨a1, r1, e, r, ha1, hr1, tir, hrec, R2⟩

theorem flush_crash_defined {cfg : Cfg} {t : Track} {s : Sys} (ti : TrackInv cfg t s) (fu : Bool) :
    ∃ es m', flushDbs s fu = some (es, m') ∧
      ∀ c ∈ cuts es, ∃ e r, recover cfg (applyEffects s.p c) = some (e, r) := by
  obtain ⟨s1, hs1, -⟩ := trackInv_step ti (.flush fu) trivial
  obtain ⟨es, m', hf, -⟩ := flush_ok hs1
  refine ⟨es, m', hf, fun c hc => ?_⟩
  by_cases hu : ∃ x ∈ c, x.isUtxoBatch = true
  · obtain ⟨-, r, e, -, -, -, hr⟩ := crash_after_commit ti hf hc hu
    exact ⟨e, r, hr⟩
  · obtain ⟨-, e, r, -, -, hr, -⟩ := crash_before_commit ti hf hc (utxoBatch_free_of_not hu)
    exact ⟨e, r, hr⟩

/-- `C04run_resume` with the restarted state `r` fixed BEFORE the continuation is chosen: one restart, every
    continuation from it (what `C04run_crash_resume` says in its first case) -/
theorem C04run_resume_every (cfg : Cfg) (ops : List IOp2) (hv : ValidOps2 cfg {} ops) {s : Sys}
    (hs : runOps2 cfg {} ops = .ok s) {fu : Bool} {es : List Effect} {m' : Mem}
    (hf : flushDbs s fu = some (es, m')) {c : List Effect} (hc : c ∈ cuts es)
    (hnu : ∀ e ∈ c, e.isUtxoBatch = false) :
    ∃ e0 r0 e r,
      recover cfg s.p = some (e0, r0) ∧ recover cfg (applyEffects s.p c) = some (e, r) ∧ ResEq r0 r ∧
      ∀ ops', ValidOps2 cfg {} (ops ++ .reopen :: ops') →
        ∃ a b, runOps2 cfg {} (ops ++ .reopen :: ops') = .ok a ∧
          runOps2 cfg r0 ops' = .ok a ∧ runOps2 cfg r ops' = .ok b ∧
          FullInv' cfg (chainOf2 [] 0 (ops ++ .reopen :: ops'))
            (Track.run cfg {} (ops ++ .reopen :: ops')).kept a ∧
          SameResume cfg a b ∧
          TailEq (s.m.st.height + 1).toNat (s.m.st.height + 1).toNat s.m.st.txCount a.p b.p ∧
          (s.m.st.height ≤ a.m.fsHeight → s.m.st.txCount ≤ a.m.fsTxCount → StoreEqv a.p b.p) := by
  obtain ⟨r0, e, r, hr0, ti0, hr, R, T⟩ := crash_before_commit (trackInv_of_run hv hs) hf hc hnu
  obtain ⟨e0, h0⟩ := reopen_ok hr0
  refine ⟨e0, r0, e, r, h0, hr, R, fun ops' hv' => ?_⟩
  obtain ⟨-, -, hv2⟩ := (validOps2_append cfg {} ops (.reopen :: ops')).mp hv'
  obtain ⟨a, b, ha, hb, tia, Rab, Tab⟩ := resEq_run_tail ops' ti0 R T hv2
  -- no compaction anywhere
  have hcs : EV.Compact.RunShape s := EV.Compact.runShape_run ops EV.Compact.runShape_init hs
  have hca : EV.Compact.RunShape a := EV.Compact.runShape_run ops' (EV.Compact.runShape_openDbs hcs.disk h0) ha
  have hcb : EV.Compact.RunShape b := EV.Compact.runShape_run ops' (EV.Compact.runShape_flush_cut hcs hf hc hr) hb
  have hfull : runOps2 cfg {} (ops ++ .reopen :: ops') = .ok a := by
    rw [runOps2_append, hs]
    exact (runOps2_cons_of_ok hr0).trans ha
  exact ⟨a, b, hfull, ha, hb, (trackInv_of_run hv' hfull).inv_run, .of_resEq tia Rab hca hcb, Tab, fun h1 h2 =>
    storeEqv_of_tail Rab Tab hca.disk hcb.disk (by omega) (by omega) h2⟩

/-- **C04 (resuming after a crash before the UTXO commit).**  Let `s` be the end state of a valid
run `ops`, `es` the effects of a flush (either kind) issued there, `c` any cut of it WITHOUT the UTXO
batch — a crash during block processing (`c = []`), between or inside the three file writes, before
or after the history batch — and `ops'` any continuation such that the crash-free run
`ops ++ [reopen] ++ ops'` (the same operations with a clean restart in place of the crash) is valid.
Then the restart on the cut store succeeds with a state `r`, the clean restart gives `r0`, and
running `ops'` from `r` succeeds, like the crash-free run does, with end states `a` (crash-free) and
`b` (crashed and resumed) such that

* `a` satisfies the whole-run invariant for the surviving chain (so its observables are the
  specification's: `observables_of_fullInv'`);
* `SameResume cfg a b`: `ResEq`, the same history state record, the same read-path answers, the same
  undo rows, the same effects of the next flush, the same outcome of ANY next operation;
* the files of `a` and `b` agree from the tip of the interrupted flush on; and if the file pointers
  of the end state have reached that tip (`s.m.st.height ≤ a.m.fsHeight`,
  `s.m.st.txCount ≤ a.m.fsTxCount`: the resumed sync has re-flushed what the crash interrupted) the
  two stores hold exactly the same data. -/
theorem C04run_resume (cfg : Cfg) (ops ops' : List IOp2)
    (hv : ValidOps2 cfg {} (ops ++ .reopen :: ops')) {s : Sys}
    (hs : runOps2 cfg {} ops = .ok s) {fu : Bool} {es : List Effect} {m' : Mem}
    (hf : flushDbs s fu = some (es, m')) {c : List Effect} (hc : c ∈ cuts es)
    (hnu : ∀ e ∈ c, e.isUtxoBatch = false) :
    ∃ e0 r0 e r a b,
      recover cfg s.p = some (e0, r0) ∧ recover cfg (applyEffects s.p c) = some (e, r) ∧
      ResEq r0 r ∧
      runOps2 cfg {} (ops ++ .reopen :: ops') = .ok a ∧
      runOps2 cfg r0 ops' = .ok a ∧ runOps2 cfg r ops' = .ok b ∧
      FullInv' cfg (chainOf2 [] 0 (ops ++ .reopen :: ops'))
        (Track.run cfg {} (ops ++ .reopen :: ops')).kept a ∧
      SameResume cfg a b ∧
      TailEq (s.m.st.height + 1).toNat (s.m.st.height + 1).toNat s.m.st.txCount a.p b.p ∧
      (s.m.st.height ≤ a.m.fsHeight → s.m.st.txCount ≤ a.m.fsTxCount → StoreEqv a.p b.p) := by
  obtain ⟨e0, r0, e, r, h0, hr, R, hcont⟩ :=
    C04run_resume_every cfg ops ((validOps2_append cfg {} ops _).mp hv).1 hs hf hc hnu
  obtain ⟨a, b, h⟩ := hcont ops' hv
  exact ⟨e0, r0, e, r, a, b, h0, hr, R, h⟩

/-- **C04 (resuming after a crash after the UTXO commit).**  A cut that contains the UTXO batch
leaves the store of the complete flush, so the restarted state `r` is the end state of the
crash-free run `ops ++ [flush, reopen]`, and every continuation from `r` — valid or not — is
literally the rest of that run. -/
theorem C04run_resume_committed (cfg : Cfg) (ops : List IOp2) (hv : ValidOps2 cfg {} ops) {s : Sys}
    (hs : runOps2 cfg {} ops = .ok s) {fu : Bool} {es : List Effect} {m' : Mem}
    (hf : flushDbs s fu = some (es, m')) {c : List Effect} (hc : c ∈ cuts es)
    (hu : ∃ e ∈ c, e.isUtxoBatch = true) :
    ∃ e r, recover cfg (applyEffects s.p c) = some (e, r) ∧
      runOps2 cfg {} (ops ++ [.flush fu, .reopen]) = .ok r ∧
      ∀ ops', runOps2 cfg r ops' = runOps2 cfg {} (ops ++ .flush fu :: .reopen :: ops') := by
  obtain ⟨s1, r, e, hs1, hr, -, hrec⟩ := crash_after_commit (trackInv_of_run hv hs) hf hc hu
  have hrun : runOps2 cfg {} (ops ++ [.flush fu, .reopen]) = .ok r := by
    rw [runOps2_append, hs]
    exact (runOps2_cons_of_ok hs1).trans (runOps2_cons_of_ok hr)
  refine ⟨e, r, hrec, hrun, fun ops' => ?_⟩
  have : ops ++ .flush fu :: .reopen :: ops' = (ops ++ [.flush fu, .reopen]) ++ ops' := by simp
  rw [this, runOps2_append, hrun]

/-- **C04 (crash at any instant, then resume).**  For the end state `s` of every valid run `ops`,
every flush issued there and EVERY cut `c` of its effects, the restart succeeds with a state `r`,
and

* (cut without the UTXO batch — nothing of the flush is committed) for every continuation `ops'`
  valid after a clean restart in place of the crash, the resumed run `ops'` from `r` succeeds and
  ends in the same state as the crash-free run `ops ++ [reopen] ++ ops'`, in the sense of
  `C04run_resume`; or
* (cut with the UTXO batch — the flush is committed) `r` is the end state of the crash-free run
  `ops ++ [flush, reopen]` and every continuation is the rest of that run. -/
theorem C04run_crash_resume (cfg : Cfg) (ops : List IOp2) (hv : ValidOps2 cfg {} ops) {s : Sys}
    (hs : runOps2 cfg {} ops = .ok s) {fu : Bool} {es : List Effect} {m' : Mem}
    (hf : flushDbs s fu = some (es, m')) {c : List Effect} (hc : c ∈ cuts es) :
    ∃ e r, recover cfg (applyEffects s.p c) = some (e, r) ∧
      (((∀ e ∈ c, e.isUtxoBatch = false) ∧
        ∀ ops', ValidOps2 cfg {} (ops ++ .reopen :: ops') →
          ∃ a b, runOps2 cfg {} (ops ++ .reopen :: ops') = .ok a ∧ runOps2 cfg r ops' = .ok b ∧
            FullInv' cfg (chainOf2 [] 0 (ops ++ .reopen :: ops'))
              (Track.run cfg {} (ops ++ .reopen :: ops')).kept a ∧
            SameResume cfg a b ∧
            TailEq (s.m.st.height + 1).toNat (s.m.st.height + 1).toNat s.m.st.txCount a.p b.p ∧
            (s.m.st.height ≤ a.m.fsHeight → s.m.st.txCount ≤ a.m.fsTxCount → StoreEqv a.p b.p)) ∨
       ((∃ e ∈ c, e.isUtxoBatch = true) ∧
        runOps2 cfg {} (ops ++ [.flush fu, .reopen]) = .ok r ∧
        ∀ ops', runOps2 cfg r ops' = runOps2 cfg {} (ops ++ .flush fu :: .reopen :: ops'))) := by
  by_cases hu : ∃ e ∈ c, e.isUtxoBatch = true
  · obtain ⟨e, r, h1, h2, h3⟩ := C04run_resume_committed cfg ops hv hs hf hc hu
    exact ⟨e, r, h1, Or.inr ⟨hu, h2, h3⟩⟩
  · have hnu := utxoBatch_free_of_not hu
    obtain ⟨e0, r0, e, r, -, hr, -, hcont⟩ := C04run_resume_every cfg ops hv hs hf hc hnu
    refine ⟨e, r, hr, Or.inl ⟨hnu, fun ops' hv' => ?_⟩⟩
    obtain ⟨a, b, h1, -, h⟩ := hcont ops' hv'
    exact ⟨a, b, h1, h⟩

/-- **C04 (…and answers like a clean index).**  In the setting of `C04run_resume`, whenever the
resumed run ends fully flushed, every observable of the crashed-and-resumed index `b` is the
specification's of the surviving chain of the crash-free run — exactly what a fresh index that only
ever advanced that chain answers (`C03run_fresh_index`). -/
theorem C04run_resume_observables (cfg : Cfg) (ops ops' : List IOp2)
    (hv : ValidOps2 cfg {} (ops ++ .reopen :: ops')) {s : Sys}
    (hs : runOps2 cfg {} ops = .ok s) {fu : Bool} {es : List Effect} {m' : Mem}
    (hf : flushDbs s fu = some (es, m')) {c : List Effect} (hc : c ∈ cuts es)
    (hnu : ∀ e ∈ c, e.isUtxoBatch = false) :
    ∃ e r b, recover cfg (applyEffects s.p c) = some (e, r) ∧ runOps2 cfg r ops' = .ok b ∧
      (b.m.dbst.height = b.m.st.height →
        (∀ hx, ∃ rows, allUtxos b hx = some rows ∧
          rows.Perm (((specChain cfg.act (chainOf2 [] 0 (ops ++ .reopen :: ops'))).utxos.filter
            (·.hx == hx)).map (fun u => ⟨u.txnum, u.idx, u.txid, u.height, u.value⟩))) ∧
        (∀ hx limit, limitedHistory b hx limit =
          some (historyPairs (specChain cfg.act (chainOf2 [] 0 (ops ++ .reopen :: ops'))) hx limit)) ∧
        b.m.st.utxoCount =
          ((specChain cfg.act (chainOf2 [] 0 (ops ++ .reopen :: ops'))).utxos.length : Int) ∧
        b.m.st.txCount = (specChain cfg.act (chainOf2 [] 0 (ops ++ .reopen :: ops'))).txs.length ∧
        b.m.st.height = ((chainOf2 [] 0 (ops ++ .reopen :: ops')).length : Int) - 1 ∧
        b.m.st.tip = ((chainOf2 [] 0 (ops ++ .reopen :: ops')).getLast?.map (·.hash)).getD 0 ∧
        (∀ start count, readHeaders b start count =
          (((chainOf2 [] 0 (ops ++ .reopen :: ops')).map (·.header)).drop start).take
            (min (count : Int) (((chainOf2 [] 0 (ops ++ .reopen :: ops')).length : Int) - start)).toNat) ∧
        (∀ (h : Nat) (blk : Block), (chainOf2 [] 0 (ops ++ .reopen :: ops'))[h]? = some blk →
          txHashesAt b h = some (blk.txs.map (·.id)))) := by
  obtain ⟨-, -, e, r, a, b, -, hr, -, -, -, hb, inva, hsame, -, -⟩ :=
    C04run_resume cfg ops ops' hv hs hf hc hnu
  refine ⟨e, r, b, hr, hb, fun hfl => ?_⟩
  obtain ⟨u1, h1, c1, t1, hh, tip, -, hdr, txh⟩ :=
    observables_of_fullInv' (fullInv'_of_resEq inva hsame.res) hfl
  exact ⟨u1, h1, c1, t1, hh, tip, hdr, txh⟩

/-- **A sync with any number of crashes.**  `Resumed cfg ops b`: `b` is reached from the empty
index by run operations and crashes — a crash being: a flush of either kind is started in the
current state, the process dies at ANY cut of its effect list, `open_for_sync` runs in a fresh
process.  `ops` is the crash-free run that explains `b`: the same operations with every crash
replaced by a clean restart, preceded by the flush itself when the cut contains the UTXO batch. -/
inductive Resumed (cfg : Cfg) : List IOp2 → Sys → Prop where
  | init : Resumed cfg [] {}
  | step {ops : List IOp2} {b b' : Sys} (op : IOp2) :
      Resumed cfg ops b → stepOp2 cfg b op = .ok b' → Resumed cfg (ops ++ [op]) b'
  | crashBefore {ops : List IOp2} {b r : Sys} {fu : Bool} {es c e : List Effect} {m' : Mem} :
      Resumed cfg ops b → flushDbs b fu = some (es, m') → c ∈ cuts es →
      (∀ x ∈ c, x.isUtxoBatch = false) → recover cfg (applyEffects b.p c) = some (e, r) →
      Resumed cfg (ops ++ [.reopen]) r
  | crashAfter {ops : List IOp2} {b r : Sys} {fu : Bool} {es c e : List Effect} {m' : Mem} :
      Resumed cfg ops b → flushDbs b fu = some (es, m') → c ∈ cuts es →
      (∃ x ∈ c, x.isUtxoBatch = true) → recover cfg (applyEffects b.p c) = some (e, r) →
      Resumed cfg (ops ++ [.flush fu, .reopen]) r

theorem Resumed.shape {cfg : Cfg} {ops : List IOp2} {b : Sys} (h : Resumed cfg ops b) : EV.Compact.RunShape b := by
  induction h with
  | init => exact EV.Compact.runShape_init
  | step op _ hs ih => exact EV.Compact.runShape_step ih hs
  | crashBefore _ hf hc _ hrec ih => exact EV.Compact.runShape_flush_cut ih hf hc hrec
  | crashAfter _ hf hc _ hrec ih => exact EV.Compact.runShape_flush_cut ih hf hc hrec

/-- **C04 (any number of crashes).**  If the crash-free run `ops` that explains a crashed-and-resumed
state `b` is valid, it succeeds with an end state `a` satisfying the run invariant for the surviving
chain, and `b` is in the same state as `a`: `ResEq`, hence the same answers, undo rows, flush
effects and behaviour from then on (`SameResume`). -/
theorem C04run_crashes {cfg : Cfg} {ops : List IOp2} {b : Sys} (hres : Resumed cfg ops b)
    (hv : ValidOps2 cfg {} ops) :
    ∃ a, runOps2 cfg {} ops = .ok a ∧ TrackInv cfg (Track.run cfg {} ops) a ∧
      FullInv' cfg (chainOf2 [] 0 ops) (Track.run cfg {} ops).kept a ∧ SameResume cfg a b := by
  suffices h : ∃ a, runOps2 cfg {} ops = .ok a ∧ TrackInv cfg (Track.run cfg {} ops) a ∧ ResEq a b by
    obtain ⟨a, h1, ti, R⟩ := h
    exact ⟨a, h1, ti, ti.inv_run, .of_resEq ti R (EV.Compact.runShape_run ops EV.Compact.runShape_init h1) hres.shape⟩
  -- the crash is analysed at `b` alone (in the run invariant, like `a`); `ResEq` is transitive
  have ext := @explained_append cfg (fun t a b => TrackInv cfg t a ∧ ResEq a b)
    (fun op h hop => resEq_okStep h.1 h.2 op hop)
  induction hres with
  | init => exact ⟨{}, rfl, trackInv_init cfg, ResEq.refl _⟩
  | step op _ hstep ih => exact ext ih hv fun _ => ⟨_, runOps2_cons_of_ok hstep, id⟩
  | crashBefore _ hf hc hnu hrec ih =>
    refine ext ih hv fun h => ?_
    obtain ⟨r0, e', r', hr0, -, hrec', R, -⟩ := crash_before_commit (trackInv_of_resEq h.1 h.2) hf hc hnu
    cases hrec.symm.trans hrec'
    exact ⟨r0, runOps2_cons_of_ok hr0, fun h' => ⟨h'.1, h'.2.trans R⟩⟩
  | crashAfter _ hf hc hu hrec ih =>
    refine ext ih hv fun h => ?_
    obtain ⟨s1, r', e', hs1, hr1, -, hrec'⟩ := crash_after_commit (trackInv_of_resEq h.1 h.2) hf hc hu
    cases hrec.symm.trans hrec'
    exact ⟨_, (runOps2_cons_of_ok hs1).trans (runOps2_cons_of_ok hr1), id⟩

/-- **…and the crashed sync never gets stuck**: in every such state a flush of either kind is
defined, the restart succeeds after EVERY cut of it, and every operation that is admissible for the
crash-free run succeeds. -/
theorem C04run_crashes_progress {cfg : Cfg} {ops : List IOp2} {b : Sys} (hres : Resumed cfg ops b)
    (hv : ValidOps2 cfg {} ops) :
    (∀ fu, ∃ es m', flushDbs b fu = some (es, m') ∧
      ∀ c ∈ cuts es, ∃ e r, recover cfg (applyEffects b.p c) = some (e, r)) ∧
    (∀ op, OkOp cfg (Track.run cfg {} ops) op → ∃ b', stepOp2 cfg b op = .ok b') := by
  obtain ⟨a, -, ti, -, hsame⟩ := C04run_crashes hres hv
  have tb := trackInv_of_resEq ti hsame.res
  exact ⟨flush_crash_defined tb, fun op hop => (trackInv_step tb op hop).imp fun _ h => h.1⟩

/-- **…and answers like a clean index.**  Whenever a sync with any number of crashes stands fully
flushed, every observable is the specification's of the surviving chain of the crash-free run that
explains it. -/
theorem C04run_crashes_observables {cfg : Cfg} {ops : List IOp2} {b : Sys} (hres : Resumed cfg ops b)
    (hv : ValidOps2 cfg {} ops) (hfl : b.m.dbst.height = b.m.st.height) :
    (∀ hx, ∃ rows, allUtxos b hx = some rows ∧
      rows.Perm (((specChain cfg.act (chainOf2 [] 0 ops)).utxos.filter (·.hx == hx)).map
        (fun u => ⟨u.txnum, u.idx, u.txid, u.height, u.value⟩))) ∧
    (∀ hx limit, limitedHistory b hx limit =
      some (historyPairs (specChain cfg.act (chainOf2 [] 0 ops)) hx limit)) ∧
    b.m.st.utxoCount = ((specChain cfg.act (chainOf2 [] 0 ops)).utxos.length : Int) ∧
    b.m.st.txCount = (specChain cfg.act (chainOf2 [] 0 ops)).txs.length ∧
    b.m.st.height = ((chainOf2 [] 0 ops).length : Int) - 1 ∧
    b.m.st.tip = ((chainOf2 [] 0 ops).getLast?.map (·.hash)).getD 0 ∧
    (∀ start count, readHeaders b start count =
      (((chainOf2 [] 0 ops).map (·.header)).drop start).take
        (min (count : Int) (((chainOf2 [] 0 ops).length : Int) - start)).toNat) ∧
    (∀ (h : Nat) (blk : Block), (chainOf2 [] 0 ops)[h]? = some blk →
      txHashesAt b h = some (blk.txs.map (·.id))) := by
  obtain ⟨a, -, -, inva, hsame⟩ := C04run_crashes hres hv
  obtain ⟨u1, h1, c1, t1, hh, tip, -, hdr, txh⟩ :=
    observables_of_fullInv' (fullInv'_of_resEq inva hsame.res) hfl
  exact ⟨u1, h1, c1, t1, hh, tip, hdr, txh⟩

theorem sameAnswers_of_fullInv' {cfg : Cfg} {chain : List Block} {K KU : List Nat} {b u : Sys}
    (ib : FullInv' cfg chain K b) (hfl : b.m.dbst.height = b.m.st.height)
    (iu : FullInv' cfg chain KU u) (hflU : u.m.dbst.height = u.m.st.height) :
    SameAnswers b u ∧ ∀ h ∈ K, h ∈ KU → undoLookup b h = undoLookup u h := by
  refine ⟨sameAnswers_of_flushed ib hfl iu hflU, fun h hk hkU => ?_⟩
  have hlt := ib.kBound h hk
  have hsplit : chain = chain.take h ++ chain[h] :: chain.drop (h + 1) := by
    rw [List.getElem_cons_drop, List.take_append_drop]
  have hlen : (chain.take h).length = h := by
    rw [List.length_take]; omega
  rw [ib.undo h hk _ _ _ hsplit hlen, iu.undo h hkU _ _ _ hsplit hlen]

/-- **C04 ("… the same final state as an uninterrupted run").**  Let `b` be reached by a sync with
any number of crashes, explained by the valid crash-free run `ops`, and standing fully flushed.  Let
`opsU` be ANY other valid run from the empty index — in particular the run that was never
interrupted: no crash, no restart, its own flush schedule — that indexes the same surviving chain
and ends fully flushed in `u`.  Then `b` answers every query exactly like `u` (histories for every
limit, UTXOs, counters, height, tip, chain size, headers, per-block tx hashes), and the undo
information of every height that both runs retain is the same.  (Flush ids, the partition of
history rows by flush id and the set of retained undo heights legitimately depend on the flush and
restart schedule; no query shows them.) -/
theorem C04run_crashes_vs_uninterrupted {cfg : Cfg} {ops : List IOp2} {b : Sys}
    (hres : Resumed cfg ops b) (hv : ValidOps2 cfg {} ops) (hfl : b.m.dbst.height = b.m.st.height)
    (opsU : List IOp2) (hvU : ValidOps2 cfg {} opsU)
    (hchain : chainOf2 [] 0 opsU = chainOf2 [] 0 ops) {u : Sys}
    (hu : runOps2 cfg {} opsU = .ok u) (hflU : u.m.dbst.height = u.m.st.height) :
    SameAnswers b u ∧
    ∀ h ∈ (Track.run cfg {} ops).kept, h ∈ (Track.run cfg {} opsU).kept →
      undoLookup b h = undoLookup u h := by
  obtain ⟨a, -, -, inva, hsame⟩ := C04run_crashes hres hv
  exact sameAnswers_of_fullInv' (fullInv'_of_resEq inva hsame.res) hfl
    (hchain ▸ C04run_inv cfg opsU hvU hu) hflU

theorem Resumed.run {cfg : Cfg} {ops0 : List IOp2} {b : Sys} (h0 : Resumed cfg ops0 b)
    (ops : List IOp2) {s : Sys} (h : runOps2 cfg b ops = .ok s) : Resumed cfg (ops0 ++ ops) s :=
  run_explained Resumed.step h0 ops h

/-! ### non-vacuity

The run `c04Ops = [adv rxB0, flush true, adv rxB1]` of `C04audit.lean` ends with block 0 committed and
block 1 in memory.  Its full flush has six effects; the cut `c04Cut` is "all three file writes and
the history batch done, the UTXO batch not" — the crash between the history commit and the UTXO
commit.  The restarted store really differs from the clean restart's (one more header, count and
hash on the files), the resumed sync `c04Resume` (re-index block 1, full flush) runs, ends at height
1 in the same state as the crash-free run, and the two stores are then equal outright. -/

def c04Resume : List IOp2 := [.adv rxB1 1, .flush true]

theorem c04Resume_valid : ValidOps2 rxCfg {} (c04Ops ++ .reopen :: c04Resume) := by decide +kernel

def c04Cut : List Effect :=
  match flushDbs c04S true with
  | some r => cutAt r.1 4 0
  | none => []

theorem c04Cut_facts :
    c04Cut.all (fun x => !x.isUtxoBatch) = true ∧ c04Cut.any (·.isHistBatch) = true ∧
    c04Cut.length = 4 ∧
    c04S.p.headers = [100] ∧ (applyEffects c04S.p c04Cut).headers = [100, 101] ∧
    c04S.p.txcounts = [1] ∧ (applyEffects c04S.p c04Cut).txcounts = [1, 2] ∧
    c04S.p.hashes = [11] ∧ (applyEffects c04S.p c04Cut).hashes = [11, 12] ∧
    c04S.m.st.height = 1 ∧ c04S.m.st.txCount = 2 := by
  decide +kernel


/-- all hypotheses of `C04run_resume` hold; `ResEq` is not equality here; the conclusion's premises
    for `StoreEqv` are reached -/
example : ∃ es m' e0 r0 e r a b,
    flushDbs c04S true = some (es, m') ∧ c04Cut ∈ cuts es ∧
    (∀ x ∈ c04Cut, x.isUtxoBatch = false) ∧ c04Cut.any (·.isHistBatch) = true ∧
    recover rxCfg c04S.p = some (e0, r0) ∧ recover rxCfg (applyEffects c04S.p c04Cut) = some (e, r) ∧
    ResEq r0 r ∧
    r0.p.headers = [100] ∧ r.p.headers = [100, 101] ∧ r0.p.txcounts = [1] ∧ r.p.txcounts = [1, 2] ∧
    r0.p.hashes = [11] ∧ r.p.hashes = [11, 12] ∧ r.p ≠ r0.p ∧
    runOps2 rxCfg {} (c04Ops ++ .reopen :: c04Resume) = .ok a ∧
    runOps2 rxCfg r c04Resume = .ok b ∧ SameResume rxCfg a b ∧
    a.m.dbst.height = 1 ∧ StoreEqv a.p b.p := by
  have hv := c04Resume_valid
  have hv1 : ValidOps2 rxCfg {} c04Ops := ((validOps2_append ..).mp hv).1
  obtain ⟨es, m', hf⟩ := C04run_flush_defined rxCfg c04Ops hv1 c04S_run true
  have hcut : c04Cut = cutAt es 4 0 := by simp only [c04Cut, hf]
  obtain ⟨k1, k2, -, k4, k5, k6, k7, k8, k9, k10, k11⟩ := c04Cut_facts
  have hnu : ∀ x ∈ c04Cut, x.isUtxoBatch = false := by
    intro x hx
    have := List.all_eq_true.mp k1 x hx
    simpa using this
  have hc : c04Cut ∈ cuts es := by rw [hcut]; exact cutAt_mem_cuts es 4 0
  obtain ⟨e0, r0, e, r, a, b, h0, hr, R, hfull, -, hb, inva, hsame, -, heq⟩ :=
    C04run_resume rxCfg c04Ops c04Resume hv c04S_run hf hc hnu
  have hp0 := (recover_effects h0).2
  have hpr := (recover_effects hr).2
  obtain ⟨f1, f2, f3⟩ := files_openStore rxCfg c04S.p
  obtain ⟨g1, g2, g3⟩ := files_openStore rxCfg (applyEffects c04S.p c04Cut)
  -- the end state of the crash-free run is fully flushed at height 1
  have hfl := (trackInv_of_run hv hfull).flushed (by decide +kernel)
  have hchain : chainOf2 [] 0 (c04Ops ++ .reopen :: c04Resume) = [rxB0, rxB1] := by decide +kernel
  rw [hchain] at inva
  have f := inva.base.files
  have hht : a.m.st.height = 1 := by rw [f.height]; rfl
  have hord := f.order
  have hfs : a.m.fsHeight = 1 := by omega
  have hftx : a.m.fsTxCount = 2 := by rw [f.fsTx, hfs]; decide +kernel
  refine ⟨es, m', e0, r0, e, r, a, b, hf, hc, hnu, k2, h0, hr, R, ?_, ?_, ?_, ?_, ?_, ?_, ?_,
    hfull, hb, hsame, by omega, heq (by omega) (by omega)⟩
  · rw [hp0, f1, k4]
  · rw [hpr, g1, k5]
  · rw [hp0, f2, k6]
  · rw [hpr, g2, k7]
  · rw [hp0, f3, k8]
  · rw [hpr, g3, k9]
  · intro h
    have := congrArg Store.headers h
    rw [hp0, hpr, f1, g1, k4, k5] at this
    cases this


/-- …and the committed case: the complete flush is a cut with the UTXO batch -/
example : ∃ es m' e r, flushDbs c04S true = some (es, m') ∧ es ∈ cuts es ∧
    (∃ x ∈ es, x.isUtxoBatch = true) ∧ recover rxCfg (applyEffects c04S.p es) = some (e, r) ∧
    runOps2 rxCfg {} (c04Ops ++ [.flush true, .reopen]) = .ok r := by
  have hv1 := c04Ops_valid
  obtain ⟨es, m', hf⟩ := C04run_flush_defined rxCfg c04Ops hv1 c04S_run true
  have hany : (match flushDbs c04S true with
      | some r => r.1.any (·.isUtxoBatch)
      | none => false) = true := by decide +kernel
  rw [hf] at hany
  obtain ⟨x, hx, hxu⟩ := List.any_eq_true.mp hany
  obtain ⟨e, r, h1, h2, -⟩ :=
    C04run_resume_committed rxCfg c04Ops hv1 c04S_run hf (self_mem_cuts es) ⟨x, hx, hxu⟩
  exact ⟨es, m', e, r, hf, self_mem_cuts es, ⟨x, hx, hxu⟩, h1, h2⟩

/-- the crash-free run that explains the two-crash sync of the example below -/
def c04Twice : List IOp2 :=
  c04Ops ++ [.reopen] ++ [.adv rxB1 1] ++ [.reopen] ++ [.adv rxB1 1] ++ [.flush true]

theorem c04Twice_valid : ValidOps2 rxCfg {} c04Twice := by decide +kernel

/-- two crashes: between the history commit and the UTXO commit of the flush of block 1 (`c04Cut`),
    then — block 1 indexed again — during block processing (cut `[]`); the third attempt gets
    through.  The end state is explained by `c04Twice`. -/
theorem c04Twice_resumed : ∃ b, Resumed rxCfg c04Twice b := by
  have R0 : Resumed rxCfg c04Ops c04S := by
    have := Resumed.run (Resumed.init (cfg := rxCfg)) c04Ops c04S_run
    simpa using this
  -- the explaining run is evaluated once: its prefixes are valid, and so is each next operation
  obtain ⟨v4, -⟩ := (validOps2_append rxCfg {} _ [.flush true]).mp c04Twice_valid
  obtain ⟨v3, o4, -⟩ := (validOps2_append rxCfg {} _ [.adv rxB1 1]).mp v4
  obtain ⟨v2, -⟩ := (validOps2_append rxCfg {} _ [.reopen]).mp v3
  obtain ⟨v1, o2, -⟩ := (validOps2_append rxCfg {} _ [.adv rxB1 1]).mp v2
  obtain ⟨v0, -⟩ := (validOps2_append rxCfg {} _ [.reopen]).mp v1
  obtain ⟨hp0, -⟩ := C04run_crashes_progress R0 v0
  obtain ⟨es, m', hf, hrec⟩ := hp0 true
  have hcut : c04Cut = cutAt es 4 0 := by simp only [c04Cut, hf]
  have hc : c04Cut ∈ cuts es := by rw [hcut]; exact cutAt_mem_cuts es 4 0
  have hnu : ∀ x ∈ c04Cut, x.isUtxoBatch = false := by
    intro x hx
    have := List.all_eq_true.mp c04Cut_facts.1 x hx
    simpa using this
  obtain ⟨e1, r1, hr1⟩ := hrec c04Cut hc
  have R1 : Resumed rxCfg (c04Ops ++ [.reopen]) r1 := R0.crashBefore hf hc hnu hr1
  obtain ⟨-, hp1⟩ := C04run_crashes_progress R1 v1
  obtain ⟨b2, hb2⟩ := hp1 (.adv rxB1 1) o2
  have R2 := R1.step _ hb2
  obtain ⟨hp2, -⟩ := C04run_crashes_progress R2 v2
  obtain ⟨es2, m2, hf2, hrec2⟩ := hp2 true
  obtain ⟨e3, r3, hr3⟩ := hrec2 [] (nil_mem_cuts es2)
  have R3 := R2.crashBefore hf2 (nil_mem_cuts es2) (by simp) hr3
  obtain ⟨-, hp3⟩ := C04run_crashes_progress R3 v3
  obtain ⟨b4, hb4⟩ := hp3 (.adv rxB1 1) o4
  have R4 := R3.step _ hb4
  obtain ⟨-, hp4⟩ := C04run_crashes_progress R4 v4
  obtain ⟨b5, hb5⟩ := hp4 (.flush true) trivial
  exact ⟨b5, R4.step _ hb5⟩

/-- `c04Twice` is valid, so `C04run_crashes` applies to the two-crash sync: committed height 1, same
    state as the crash-free run -/
example : ValidOps2 rxCfg {} c04Twice ∧
    ∃ b a, Resumed rxCfg c04Twice b ∧ runOps2 rxCfg {} c04Twice = .ok a ∧ SameResume rxCfg a b ∧
      b.m.dbst.height = 1 ∧ b.m.st.height = 1 := by
  have hv := c04Twice_valid
  obtain ⟨b, R⟩ := c04Twice_resumed
  obtain ⟨a, ha, ti, inv, hsame⟩ := C04run_crashes R hv
  have h1 : a.m.st.height = 1 := by rw [ti.inv.base.files.height]; decide +kernel
  refine ⟨hv, b, a, R, ha, hsame, ?_, ?_⟩
  · rw [hsame.res.m, ti.flushed (by decide +kernel), h1]
  · rw [hsame.res.m, h1]

def c04Uninterrupted : List IOp2 := [.adv rxB0 0, .adv rxB1 1, .flush true]

/-- …and `C04run_crashes_vs_uninterrupted` applies: the two-crash sync answers like the run that was
    never interrupted and holds the same undo information for both blocks -/
example : ∃ b u, Resumed rxCfg c04Twice b ∧ runOps2 rxCfg {} c04Uninterrupted = .ok u ∧
    SameAnswers b u ∧ undoLookup b 0 = undoLookup u 0 ∧ undoLookup b 1 = undoLookup u 1 := by
  have hv := c04Twice_valid
  have hvU : ValidOps2 rxCfg {} c04Uninterrupted := by decide +kernel
  obtain ⟨b, R⟩ := c04Twice_resumed
  obtain ⟨a, -, ti, -, hsame⟩ := C04run_crashes R hv
  obtain ⟨u, hu, tiu⟩ := trackInv_run c04Uninterrupted (trackInv_init rxCfg) hvU
  have hfl : b.m.dbst.height = b.m.st.height := by
    rw [hsame.res.m]; exact ti.flushed (by decide +kernel)
  obtain ⟨h1, h2⟩ := C04run_crashes_vs_uninterrupted R hv hfl c04Uninterrupted hvU (by decide +kernel) hu
    (tiu.flushed (by decide +kernel))
  exact ⟨b, u, R, hu, h1, h2 0 (by decide +kernel) (by decide +kernel), h2 1 (by decide +kernel) (by decide +kernel)⟩

end EV.Index
