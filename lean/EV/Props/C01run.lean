import EV.Proofs.IndexRunReorg

/-!
# C01 / C02 over whole runs — every flush schedule

The C01 and C02 layers composed with the file / tx-number layer (`FilesInv`) over the concrete model
`EV/Model/Index.lean`: for EVERY sequence of `advance_block`s of valid next blocks and flushes
(history-only or full, placed anywhere) from the empty index, the run cannot fail, every intermediate
state satisfies `FullInv` (tied to `specChain` of the blocks advanced so far), and after a full flush
`all_utxos`, `limited_history` (any limit) and the counters are exactly the specification's.  This
discharges, for every reachable state, what `C01_flush` / `C01_all_utxos` / `C02_history` leave open
(`hres`, `TxnumFun`, `hlen`, the `(fsTxHash s n).2` height).  Tie to the code: suite `index`.
-/
namespace EV.Index
open EV.Spec

/-- **Whole-run refinement (C01 ∧ C02 invariant).**  `ValidOps cfg [] ops`: every advanced block
links to the tip of the blocks advanced before it and its transactions are valid on the
specification state (`ValidTxs`: inputs name outputs unspent at that point, txids are new). -/
theorem C01run_refinement (cfg : Cfg) (ops : List IOp) (hv : ValidOps cfg [] ops) :
    ∃ s, runOps cfg {} ops = .ok s ∧ FullInv cfg (chainOf ops) s := by
  obtain ⟨s, h, ti, hc⟩ := trackInv_runOps ops (trackInv_init cfg) hv
  exact ⟨s, h, (hc ▸ ti.inv).base⟩

/-- **One step each** (the induction steps of the run theorem, usable from any invariant state,
e.g. after a re-open): `advance_block` on a valid next block and every flush succeed and keep the
invariant. -/
theorem C01run_steps {cfg : Cfg} {chain : List Block} {s : Sys} (inv : FullInv cfg chain s) :
    (∀ b daemonH, ValidNext cfg chain b →
        ∃ s', advance cfg daemonH s b = .ok s' ∧ FullInv cfg (chain ++ [b]) s') ∧
    (∀ fu, ∃ s', flush s fu = .ok s' ∧ FullInv cfg chain s') :=
  ⟨fun _ _ hv => fullInv_advance inv hv, fun fu => fullInv_flush inv fu⟩

/-- **What a flushed index answers** in an invariant state. -/
theorem C01run_observables {cfg : Cfg} {chain : List Block} {s : Sys} (inv : FullInv cfg chain s)
    (hf : s.m.cache = [] ∧ s.m.deletes = [] ∧ s.m.unflushed = [] ∧
          s.m.dbst.height = s.m.st.height ∧ s.m.fsHeight = s.m.st.height) :
    (∀ hx, ∃ rows, allUtxos s hx = some rows ∧
        rows.Perm (((specChain cfg.act chain).utxos.filter (·.hx == hx)).map
          (fun u => ⟨u.txnum, u.idx, u.txid, u.height, u.value⟩))) ∧
    (∀ hx limit, limitedHistory s hx limit =
        some (historyPairs (specChain cfg.act chain) hx limit)) ∧
    s.m.st.utxoCount = ((specChain cfg.act chain).utxos.length : Int) ∧
    s.m.st.txCount = (specChain cfg.act chain).txs.length :=
  C01_observables inv hf

/-- **End to end**: any valid run followed by a full flush answers as the specification. -/
theorem C01run_end_to_end (cfg : Cfg) (ops : List IOp) (hv : ValidOps cfg [] ops) :
    ∃ s, runOps cfg {} (ops ++ [.flush true]) = .ok s ∧
      (∀ hx, ∃ rows, allUtxos s hx = some rows ∧
        rows.Perm (((specChain cfg.act (chainOf ops)).utxos.filter (·.hx == hx)).map
          (fun u => ⟨u.txnum, u.idx, u.txid, u.height, u.value⟩))) ∧
      (∀ hx limit, limitedHistory s hx limit =
        some (historyPairs (specChain cfg.act (chainOf ops)) hx limit)) ∧
      s.m.st.utxoCount = ((specChain cfg.act (chainOf ops)).utxos.length : Int) ∧
      s.m.st.txCount = (specChain cfg.act (chainOf ops)).txs.length := by
  obtain ⟨s, h, inv, hf⟩ := fullInv_run_flushed cfg ops hv
  exact ⟨s, h, C01_observables inv hf⟩

/-- the file layer: committed tx numbers resolve to the chain's tx hashes, and only those -/
theorem C01run_resolve {chain : List Block} {s : Sys} (f : FilesInv chain s) (n : Nat) :
    (n < (allTxids (chain.take (s.m.dbst.height + 1).toNat)).length →
      resolve s n = some ((allTxids chain).getD n 0)) ∧
    (∀ x, resolve s n = some x →
      n < (allTxids (chain.take (s.m.dbst.height + 1).toNat)).length) :=
  ⟨fun h => resolve_of_files f h, fun _ h => resolve_some_lt f h⟩

/-- the other file readers, in every invariant state (flushed or not): `read_headers` returns the
chain's headers cut at the last UTXO flush height; `fs_tx_hashes_at_blockheight(h)` returns the tx
hashes of block `h` for every height up to the last UTXO flush -/
theorem C01run_file_readers {chain : List Block} {s : Sys} (f : FilesInv chain s) :
    (∀ start count, readHeaders s start count =
      ((chain.map (·.header)).drop start).take
        (min (count : Int) (s.m.dbst.height + 1 - start)).toNat) ∧
    (∀ (h : Nat) (b : Block), chain[h]? = some b → (h : Int) ≤ s.m.dbst.height →
      txHashesAt s h = some (b.txs.map (·.id))) :=
  ⟨fun start count => readHeaders_of_files f start count,
   fun _ _ hb hh => txHashesAt_of_files f hb hh⟩

/-! Non-vacuity: two linked blocks — a generation-like tx creating an output, then a tx spending it from
the flushed rows (a history-only and a full flush lie in between) — form a valid run with all three
kinds of operation. -/

def exCfg : Cfg := { act := 1, reorgLimit := 2 }
def exB0 : Block := ⟨7, 0, 100, 80, [⟨11, [⟨0, 4294967295⟩], [⟨50, 1, .normal⟩]⟩]⟩
def exB1 : Block := ⟨8, 7, 101, 80, [⟨12, [⟨11, 0⟩], [⟨20, 2, .normal⟩, ⟨30, 1, .normal⟩]⟩]⟩
def exOps : List IOp :=
  [.adv exB0 0, .flush false, .flush true, .adv exB1 1, .flush false]

theorem exB0_valid : ValidNext exCfg [] exB0 := by
  refine ⟨rfl, ?_, ?_, trivial⟩
  · simp [InputsOK, TxIn.isGen]
  · intro u hu; simp [specChain, specFrom] at hu

theorem exB1_valid : ValidNext exCfg [exB0] exB1 := by
  have hS : specChain exCfg.act [exB0] = ⟨[⟨11, 0, 0, 0, 50, 1⟩], [[1]], [(11, 0)]⟩ := by decide
  refine ⟨rfl, ?_, ?_, trivial⟩
  · show InputsOK (specChain exCfg.act [exB0]).utxos [⟨11, 0⟩]
    rw [hS]
    simp [InputsOK, TxIn.isGen, opOf]
  · intro u hu
    change u ∈ (specChain exCfg.act [exB0]).utxos at hu
    rw [hS] at hu
    simp at hu
    subst hu
    decide

example : ValidOps exCfg [] exOps := ⟨exB0_valid, exB1_valid, trivial⟩

example : chainOf exOps = [exB0, exB1] := rfl

example : (specChain exCfg.act (chainOf exOps)).utxos =
    [⟨12, 0, 1, 1, 20, 2⟩, ⟨12, 1, 1, 1, 30, 1⟩] := by decide

example : historyOf (specChain exCfg.act (chainOf exOps)) 1 = [0, 1] := by decide

end EV.Index
