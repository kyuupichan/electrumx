import EV.Proofs.NotifHist

/-!
# C20 — Notifications are issued only at heights both sources agree on, and drop nothing

Model: `EV/Model/Notif.lean` (literal model of `controller.py :: Notifications`), tied to the
class in /repo by the `notif` correspondence suite on every run.

"notification" = a call of the `notify` callback; `run init ops` returns them in order.
The theorems quantify over *every* operation list: no bound on length, heights or set sizes.
-/
namespace EV.Notif

/-- **C20 (safety).**  Whenever an operation makes the class call `notify(h, _)`, then either the
operation is `start(h)` itself (whose notification carries the empty set), or by then a mempool
refresh at `h` *and* a block report at `h` (or `start(h)`) have been received.
Heights are assumed non-negative (the initial `_highest_block` is `-1`). -/
theorem C20_safety (pre : List Op) (op : Op) (e : Emit)
    (hpos : ∀ o ∈ pre ++ [op], 0 ≤ o.height)
    (he : (step (run init pre).1 op).2 = some e) :
    (op = .start e.1 ∧ e.2 = []) ∨
    ((∃ t, Op.mempool t e.1 ∈ pre ++ [op]) ∧
     ((∃ t, Op.block t e.1 ∈ pre ++ [op]) ∨ Op.start e.1 ∈ pre ++ [op])) := by
  rcases step_emit he with h | he
  · exact Or.inl h
  · obtain ⟨⟨t, ht⟩, hb | hs | ⟨h1, _⟩⟩ := emit_at (hinv_prep (hinv_run pre).1 op) he
    · exact Or.inr ⟨⟨t, ht⟩, Or.inl hb⟩
    · exact Or.inr ⟨⟨t, ht⟩, Or.inr hs⟩
    · have h0 : 0 ≤ e.1 := hpos _ ht
      rw [h1] at h0
      exact absurd h0 (by decide)

/-- **C20 (nothing invented).**  Every script hash in a notification was handed over by one of
the two sources before. -/
theorem C20_no_invention (pre : List Op) (op : Op) (e : Emit)
    (he : (step (run init pre).1 op).2 = some e) :
    ∀ x ∈ e.2, x ∈ handed (pre ++ [op]) := by
  intro x hx
  refine ((run_pending init (pre ++ [op]) x).mp (Or.inr ?_)).resolve_left List.not_mem_nil
  simp only [run_snoc, emitted_append, he, List.mem_append, mem_emitted_some]
  exact Or.inr hx

/-- **C20 (nothing dropped), unconditional part.**  For every operation list whatsoever, every
script hash handed over so far has either been notified or is still pending inside the object:
no path deletes or overwrites one. -/
theorem C20_no_loss (ops : List Op) :
    ∀ x ∈ handed ops, x ∈ emitted (run init ops).2 ∨ x ∈ pending (run init ops).1 :=
  fun x hx => ((run_pending init ops x).mpr (Or.inr hx)).symm

theorem complete_of_drained {ops : List Op} (h : pending (run init ops).1 = []) :
    (∀ x ∈ handed ops, x ∈ emitted (run init ops).2) ∧ pending (run init ops).1 = [] :=
  ⟨fun x hx => (C20_no_loss ops x hx).resolve_right (h ▸ List.not_mem_nil), h⟩

/-- **C20 (completeness).**  Whenever the mempool tracker reports at the height `H` of the most
recent block report (or start-up) — "both sources have reported at the current height" — every
script hash ever handed over by either source has been contained in some notification, and
nothing is left pending.  Heights before that may have risen, repeated or fallen arbitrarily.
`StartOK`: `start h` is only called with `h` at least every block height reported before it
(it is called once, with the DB height). -/
theorem C20_complete (ops : List Op) (t : List HX) (H : Int)
    (hok : StartOK (ops ++ [.mempool t H]))
    (hlast : lastBlockLike ops = some H) :
    (∀ x ∈ handed (ops ++ [.mempool t H]), x ∈ emitted (run init (ops ++ [.mempool t H])).2) ∧
    pending (run init (ops ++ [.mempool t H])).1 = [] := by
  obtain rfl : (run init ops).1.highest = H := by rw [(hinv_run ops).1.hi, hlast]; rfl
  refine complete_of_drained ?_
  rw [run_snoc]
  exact onMempool_drains (hinv_run ops).2 ((hinv_run ops).1.bpLe (StartOK_prefix hok)) t

/-- **C20 (completeness, block report arriving second).**  A block report at a height for which
the mempool tracker's report is still pending drains everything as well. -/
theorem C20_complete_block (ops : List Op) (t : List HX) (H : Int)
    (hmp : H ∈ keys (run init ops).1.mp) :
    (∀ x ∈ handed (ops ++ [.block t H]), x ∈ emitted (run init (ops ++ [.block t H])).2) ∧
    pending (run init (ops ++ [.block t H])).1 = [] := by
  refine complete_of_drained ?_
  rw [run_snoc]
  exact onBlock_drains _ t H hmp

/-! ### non-vacuity: concrete histories meeting the hypotheses -/

/-- rising, repeating and *falling* heights, a mempool report at a height (7) the block processor
    never reports, then both sources at 6: hypotheses of `C20_complete` hold and 1,2,3,4 all come out -/
example :
    let ops : List Op := [.start 5, .mempool [1] 7, .block [2] 8, .block [3] 6, .block [] 6]
    StartOK (ops ++ [.mempool [4] 6]) ∧ lastBlockLike ops = some 6 ∧
    (run init (ops ++ [.mempool [4] 6])).2 = [(5, []), (6, [4, 3, 1, 2])] := by
  refine ⟨?_, by decide +kernel, by decide +kernel⟩
  intro pre h post heq t k hk
  cases pre with
  | nil => nomatch hk
  | cons a pre =>
    -- the only `start` is the first operation
    have hmem : Op.start h ∈ pre ++ Op.start h :: post := List.mem_append_right _ List.mem_cons_self
    rw [← List.tail_cons (a := a) (as := pre ++ _), ← List.cons_append, ← heq] at hmem
    simp at hmem

example : (step (run init [.start 5, .block [2] 6]).1 (.mempool [1] 6)).2 = some (6, [1, 2]) := by
  decide +kernel

/-! ### F1: the class at the pinned commit violates completeness (machine-checked witnesses) -/

/-- a pending mempool set at a lower height is deleted when a higher height is notified -/
theorem C20_counterexample_drop :
    (Orig.run init [.start 5, .mempool [1] 6, .block [2] 7, .mempool [] 7]) =
      ({ mp := [], bp := [], highest := 7 }, [(5, []), (7, [2])]) := by decide +kernel

/-- a second mempool report at a pending height overwrites the first -/
theorem C20_counterexample_overwrite_mp :
    (Orig.run init [.start 5, .mempool [1] 6, .mempool [3] 6, .block [2] 6]) =
      ({ mp := [], bp := [], highest := 6 }, [(5, []), (6, [3, 2])]) := by decide +kernel

/-- the idle poll (`on_block(set(), h)` every 5 s) overwrites a block's touched set -/
theorem C20_counterexample_overwrite_bp :
    (Orig.run init [.start 5, .block [2] 6, .block [] 6, .mempool [] 6]) =
      ({ mp := [], bp := [], highest := 6 }, [(5, []), (6, [])]) := by decide +kernel

/-- the same three histories on the current class lose nothing -/
example : (run init [.start 5, .mempool [1] 6, .block [2] 7, .mempool [] 7]).2 = [(5, []), (7, [1, 2])] := by decide +kernel
example : (run init [.start 5, .mempool [1] 6, .mempool [3] 6, .block [2] 6]).2 = [(5, []), (6, [3, 1, 2])] := by decide +kernel
example : (run init [.start 5, .block [2] 6, .block [] 6, .mempool [] 6]).2 = [(5, []), (6, [2])] := by decide +kernel

end EV.Notif
