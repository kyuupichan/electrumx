import EV.Proofs.IndexRun

/-!
# C01 — Confirmed UTXO set and balances equal the chain's true unspent outputs

Model: `EV/Model/Index.lean` (UTXO cache, `h`/`u` rows with 4-byte compressed tx hashes, queued deletes,
tx-number files); specification: `EV/Spec/Chain.lean` (`applyTx`).  Tie to the code: suite `index`.
Two layers (DESIGN.md §6.0): the transaction loop of `advance_block` computes the specification's fold
over any store implementing the representation interface; the real cache/rows/deletes layout with prefix
collisions implements that interface.  Then the read path on a flushed store.
-/
namespace EV.Index
open EV.Spec

/-- **C01 (block step, any cache/DB split, any prefix collisions).**  If the concrete system
represents the specification's UTXO set `S.utxos` — with the UTXOs distributed in any way over the
cache and the flushed rows, any number of them queued for deletion, any number of rows sharing a
4-byte prefix and index — then on every valid block (`ValidTxs`: each non-generation input names an
output that is unspent when its turn comes, so same-block chains are fine; txids are new) the loop
of `advance_block` succeeds and the system represents exactly `applyBlock`'s UTXO set: each
spendable, not yet spent output once, nothing else.  The UTXO-count delta, the per-tx touched script
hashes, the block's tx hashes and the undo list come out as the specification says. -/
theorem C01_block (cfg : Cfg) (height : Nat) (b : Block) (S : St) (s : Sys)
    (hrep : RepSys s S.utxos) (hv : ValidTxs cfg.act height S b.txs) :
    ∃ a', advanceTxs sysOps cfg height b.txs { s := s, txNum := S.txs.length } = .ok a' ∧
      RepSys a'.s (applyBlock cfg.act S height b).utxos ∧
      a'.txNum = S.txs.length + b.txs.length ∧
      a'.hashXsByTx = blockTouched cfg.act height S b.txs ∧
      a'.txHashes = b.txs.map (·.id) ∧
      a'.undo = blockUndo cfg.act height S b.txs ∧
      a'.delta = blockDelta cfg.act height S b.txs := by
  obtain ⟨a', h1, h2, h3, h4, h5, h6, h7, _⟩ :=
    advanceTxs_spec sysIface cfg height b.txs S { s := s, txNum := S.txs.length } hrep rfl hv
  exact ⟨a', h1, h2, h3, by simpa using h4, by simpa using h5, by simpa using h6, by simpa using h7⟩

/-- the UTXO-count delta is the change of the size of the specification's UTXO set -/
theorem C01_count (act height : Nat) (S : St) (txs : List Tx) :
    ((txs.foldl (applyTx act height) S).utxos.length : Int) =
      (S.utxos.length : Int) + blockDelta act height S txs :=
  utxos_length_foldl act height S txs

/-- **C01 (what a flushed index reports).**  With cache and delete queue empty (after any full
flush) `all_utxos(hashX)` returns — up to order — exactly the represented UTXOs paying to that
script hash, each once: (tx number, position, tx hash, height resolved through `tx_counts`, value);
no retry outcome arises. -/
theorem C01_all_utxos {s : Sys} {U D : List Utxo} (w : RepSysW s U D []) (hc : s.m.cache = [])
    (hx : HashX) :
    ∃ rows, allUtxos s hx = some rows ∧
      rows.Perm ((U.filter (fun u => u.hx == hx)).map
        (fun u => ⟨u.txnum, u.idx, u.txid, (fsTxHash s u.txnum).2, u.value⟩)) :=
  allUtxos_flushed w hc hx

/-- **C01 (a full flush changes nothing that is represented).**  The UTXO batch of a flush
(`flush_utxo_db`: sorted deletes, then the `h`/`u` puts of every cache entry, undo rows, state)
applied to a system representing `U`, with the cache and delete queue emptied afterwards, yields a
system that represents the same `U` entirely from its rows — for any placement of the flush.
`TxnumFun`: tx numbers determine txids within `U` (true of every chain: a tx number names one tx);
`hres`: the tx-number files resolve every represented tx number after the flush (the file layer:
`flush_fs` wrote the hashes before the batch; validated by the index suite). -/
theorem C01_flush {s s' : Sys} {U D Del : List Utxo} (w : RepSysW s U D Del)
    (hfun : TxnumFun U) (st' : CState)
    (hp : s'.p.h = (applyEffect s.p (utxoBatchEffect s st')).h ∧
          s'.p.u = (applyEffect s.p (utxoBatchEffect s st')).u)
    (hcache : s'.m.cache = []) (hdel : s'.m.deletes = [])
    (hres : ∀ u ∈ U, resolve s' u.txnum = some u.txid) :
    RepSysW s' U U [] :=
  flushUtxo_rep w hfun st' hp hcache hdel hres

/-- the empty index represents the empty UTXO set (start of every run) -/
theorem C01_init : RepSys {} [] := repSys_init

/-! non-vacuity: a block with a same-block spend, an OP_RETURN output on both sides of the
activation height and a generation-like input is valid on the empty index and runs -/
example :
    let cfg : Cfg := { act := 1, reorgLimit := 2 }
    let b : Block := ⟨7, 0, 0, 100,
      [⟨11, [⟨0, 4294967295⟩], [⟨50, 1, .normal⟩, ⟨0, 2, .opReturn⟩]⟩,
       ⟨12, [⟨11, 0⟩, ⟨0, 4294967295⟩], [⟨20, 1, .normal⟩, ⟨30, 3, .opFalseReturn⟩]⟩]⟩
    (applyBlock cfg.act {} 0 b).utxos = [⟨12, 0, 1, 0, 20, 1⟩] ∧
    (applyBlock cfg.act {} 1 b).utxos = [⟨11, 1, 0, 1, 0, 2⟩, ⟨12, 0, 1, 1, 20, 1⟩] := by decide

end EV.Index
