import EV.Props.C15
import EV.Props.C03run
import EV.Proofs.IndexEval

/-!
# C15 — a second hole in the undo window

The hypothesis `hold` of `C15run_window_from` (heights of the window indexed earlier were retained) can be
FALSE after a reorganisation although every daemon height was exact, so that F10's "daemon height fell
while indexing" does not apply: the start-up prune (`clear_excess_undo_info`) keeps the rows
`≥ height − reorgLimit + 1` relative to the tip AT START-UP.  A later reorganisation that ends on a SHORTER
chain lowers the caught-up tip, and the window below the new tip reaches into heights whose rows were
pruned at start-up — the row was written, and pruned later.  `known_findings.json` records it under F10
(the daemon moved to a shorter chain) as the same class.
-/
namespace EV.Index
open EV.Spec

namespace LoweredTip

def cfgD : Cfg := { act := 0, reorgLimit := 2 }
def gen : TxIn := ⟨0, 4294967295⟩
def d0 : Block := ⟨100, 0, 1000, 80, [⟨11, [gen], [⟨5, 1, .normal⟩]⟩]⟩
def d1 : Block := ⟨101, 100, 1001, 80, [⟨12, [gen], [⟨5, 2, .normal⟩]⟩]⟩
def d2 : Block := ⟨102, 101, 1002, 80, [⟨13, [⟨11, 0⟩], [⟨5, 3, .normal⟩]⟩]⟩
def d3 : Block := ⟨103, 102, 1003, 80, [⟨14, [gen], [⟨5, 4, .normal⟩]⟩]⟩
/-- the fork block at height 2, on top of `d1` -/
def d2' : Block := ⟨202, 101, 2002, 80, [⟨23, [⟨12, 0⟩], [⟨5, 7, .normal⟩]⟩]⟩

/-- sync 0..3 with exact daemon heights, flush, restart, reorganise to the shorter chain
    `[d0, d1, d2']`, flush: caught up at height 2 -/
def pre : List IOp2 :=
  [.adv d0 0, .adv d1 1, .adv d2 2, .adv d3 3, .flush true, .reopen,
   .backup d3, .backup d2, .adv d2' 2, .flush true]

/-! `decide` cannot evaluate `_open_dbs` here: `clear_excess_undo_info` sorts the four undo keys with
`List.mergeSort`, which is defined by well-founded recursion and does not reduce in the kernel on a
list of two or more elements (the flushes of this run sort at most one history key, which does).  So
the run is evaluated in three stages: up to the restart by `decide`, the restart with that sort rewritten
where it stands (`clearUndoKeys_eval` of `EV/Proofs/IndexEval.lean`), the rest by `decide` again. -/

def st3 : CState :=
  { height := 3, txCount := 4, chainSize := 320, tip := 103, flushCount := 1, utxoCount := 3,
    firstSync := true }

def s5 : Sys := okSysD (runOps2 cfgD {} (pre.take 5))

theorem run5 : runOps2 cfgD {} (pre.take 5) = .ok s5 := runOps2_okSysD (by decide +kernel)

/-- what `clear_excess_undo_info` does at the restart: the rows of heights 0 and 1 go (the window
    below tip 3 is {2, 3}) -/
def prune : Effect := .utxoBatch [] [] [] [0, 1] [] none

def s6 : Sys :=
  { p := applyEffects s5.p [prune],
    m := { st := st3, dbst := st3, fsHeight := 3, fsTxCount := 4, txCounts := [1, 2, 3, 4],
           histFlush := 1, compFlush := -1, compCursor := -1 } }

theorem reopen5 : reopen cfgD s5 = .ok s6 := by
  simp only [reopen, openDbs, openStore, openUndoEffects, clearUndoKeys_eval]
  rfl

theorem rest6 : okErr (runOps2 cfgD s6
      [.backup d3, .backup d2, .adv d2' 2, .flush true, .backup d2', .backup d1]) =
    some .chainError := by decide +kernel

theorem run_chainError :
    okErr (runOps2 cfgD {} (pre ++ [.backup d2', .backup d1])) = some .chainError := by
  have h : runOps2 cfgD {} (pre.take 5 ++ (.reopen ::
      [.backup d3, .backup d2, .adv d2' 2, .flush true, .backup d2', .backup d1])) =
      runOps2 cfgD s6 [.backup d3, .backup d2, .adv d2' 2, .flush true, .backup d2', .backup d1] := by
    rw [runOps2_append, run5]
    exact runOps2_cons_of_ok reopen5
  exact (congrArg okErr h).trans rest6

end LoweredTip

open LoweredTip in
/-- **C15 hole: start-up prune, then a reorganisation lowers the caught-up tip** (F10 class: the
daemon moved to a shorter chain; mechanism different from F10's).  The run `pre` is valid, every
daemon height is the height of the block being indexed, the restart prunes rows 0 and 1 (retained
heights before it: all four; after it: {3, 2}), and the index ends caught up at height 2 on the chain
`[d0, d1, d2']` with the single retained height 2.  A depth-1 back-out is admissible; the depth-2
back-out (= reorg limit, 2 ≤ H = 2: inside the window the property promises) is inadmissible, and
the model (like the code) refuses it with `ChainError`.  `C15run_window_from`'s hypothesis `hold`
fails for this state at `h = 1`. -/
theorem C15run_counterexample_lowered_tip :
    ValidOps2 cfgD {} pre ∧
    (Track.run cfgD {} (pre.take 5)).kept = [3, 2, 1, 0] ∧
    (Track.run cfgD {} (pre.take 6)).kept = [3, 2] ∧
    (Track.run cfgD {} pre).chain = [d0, d1, d2'] ∧
    (Track.run cfgD {} pre).kept = [2] ∧
    ValidOps2 cfgD {} (pre ++ [.backup d2']) ∧
    ¬ ValidOps2 cfgD {} (pre ++ [.backup d2', .backup d1]) ∧
    okErr (runOps2 cfgD {} (pre ++ [.backup d2', .backup d1])) = some .chainError ∧
    -- `hold` of `C15run_window_from` (H = 2, k = 2) is false: height 1 is on the chain, in the
    -- window, and not retained
    ¬ (∀ h, 2 + 1 - 2 ≤ h → h < (Track.run cfgD {} pre).chain.length → h ∈ (Track.run cfgD {} pre).kept) := by
  have hc : (Track.run cfgD {} pre).chain = [d0, d1, d2'] := by decide +kernel
  have hk : (Track.run cfgD {} pre).kept = [2] := by decide +kernel
  refine ⟨by decide +kernel, by decide +kernel, by decide +kernel, hc, hk, by decide +kernel,
    by decide +kernel, run_chainError, fun h => ?_⟩
  have := h 1 (by decide) (by rw [hc]; decide)
  rw [hk] at this
  exact absurd this (by decide)

end EV.Index
