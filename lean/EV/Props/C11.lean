import EV.Proofs.HeaderCacheInv
import EV.Proofs.HeaderCacheProgress

/-!
# C11 — Every merkle proof the server hands out verifies against the current chain

> For any indexed chain, also after reorganisations and with requests in flight while blocks are
> undone, a transaction merkle proof (by hash or by position, classic or TSC format) folds to the
> merkle root in the header of that block, and a header proof for (height, checkpoint height)
> folds to the merkle root of all current block hashes up to the checkpoint; requests outside the
> chain are refused rather than answered wrongly.

Composition (DESIGN.md §6 C11):
 1. C12 (`EV/Props/C12.lean`): whatever list the server folds, the branch it returns folds to that
    list's Bitcoin merkle root — classic and TSC, direct path and `MerkleCache` path.
 2. *Which* list, transaction proofs: the tx-hash list of the block at that height on the current
    chain (tx table of the index, C02; by-height caches cleared on reorg, C10) —
    `EV/Props/C11tx.lean` (model `EV/Model/TxCache.lean`: `C11_tx_safe`, `C11_tx_fold`), and suite
    `system` (every tx of every block, by hash and by position, classic and TSC, folded by an
    independent verifier against the header's merkle root, after every phase of every history).
 3. *Which* list, header proofs — **this file**: model `EV/Model/HeaderCache.lean`: any number of
    concurrent `block.header(height, cp)` / `block.headers(start, count, cp)` requests, each the
    WHOLE handler: a program counter over the handler's own header read, then the awaits of
    `MerkleCache.branch_and_root` / `_extend_to` / `_level_for`, then the consistency check of the
    reply and the re-read; every read cut into issue / perform in a worker thread against the
    hashes visible *then* / deliver; back-outs cut into their two effects (lowering `DB.state`,
    `header_mc.truncate`) in the order of the code; new blocks.  Headers are modelled by their
    hashes.  The theorems hold for **all** event sequences and any number of requests; the pinned
    code violates the property in four ways (`F24_counterexample`, `F17_counterexample`,
    `F18_counterexample`, `F19_counterexample`).
Tie to the code: suite `headercache` (the real `block_header` / `block_headers` → `raw_header` →
`read_headers`, `_merkle_proof` → `header_branch_and_root` → `MerkleCache` → `fs_block_hashes` →
`read_headers` coroutines, reads performed and delivered under the control of the event sequence;
the real `reorg_chain` with its back-up job in a second thread held between its two effects) and
suite `system` (real server).
-/
namespace EV.HeaderCache
open EV.Merkle

variable {Node : Type} (H : Node → Node → Node)

/-- **the ghost history is sound** (every variant of the code): a new request starts with the
singleton history `[src]`; in one step the history of an existing request either stays as it is or
gets the *new* visible chain pushed in front, and the latter only for a request that has not
finished.  So `seen` lists values the visible chain had between the request's start and its end. -/
theorem seen_sound [DecidableEq Node] (cfg : Cfg) (s : St Node) (ev : Ev Node) :
    (∀ (i : Nat) (r : Req Node), s.reqs[i]? = some r → ∃ r' : Req Node, (step H cfg s ev).reqs[i]? = some r' ∧
      (r'.seen = r.seen ∨ (r'.seen = (step H cfg s ev).src :: r.seen ∧ r.active = true))) ∧
    (∀ (i : Nat) (r' : Req Node), s.reqs.length ≤ i → (step H cfg s ev).reqs[i]? = some r' →
      r'.seen = [(step H cfg s ev).src]) :=
  (step_Step H cfg s ev).hist

/-- **C11 (header proofs verify — linearizability).**  Start from a cache that is consistent with
the visible block hashes (`initialize`, C12 `cache_init`) and let *any* sequence of events happen:
any number of header-proof requests started at any time, each of their reads performed by a worker
thread at any later time and delivered at any time after that, back-outs of any number of blocks
(the visible chain lowered, later `truncate`), new blocks — in any order.  Then every answer
`(branch, root)` a request for `(length = cp+1, index = height)` returns is exactly the
from-scratch `branch_and_root` of `S[:length]` at `index`, for a chain `S` that was the visible chain
at some moment between the request's start and its answer (`S ∈ seen`, see `seen_sound`) and that
reaches the checkpoint (`length ≤ len S`); in particular `root` is the Bitcoin merkle root of the
first `cp+1` block hashes of that chain (and by C12 `bar_fold` the branch folds to it). -/
theorem C11_header_safe [DecidableEq Node] (s : St Node) (evs : List (Ev Node)) (h0 : Init H s) :
    ∀ r ∈ (run H Cfg.fixed s evs).reqs, ∀ br root, r.pc = .done (.answer br root) →
      ∃ S ∈ r.seen, r.length ≤ S.length ∧
        branchAndRoot H (S.take r.length) (.int r.index) none false = .ok (br, root) ∧
        ∃ hne, root = merkleRoot H (S.take r.length) hne := by
  intro r hr br root hpc
  have hsafe := ((inv_run H s evs h0.inv).reqs r hr).safe
  rw [Req.Safe, hpc] at hsafe
  obtain ⟨S, hS, hlen, hbar⟩ := hsafe
  obtain ⟨-, hne, hroot, -⟩ := bar_ok H hbar
  exact ⟨S, hS, hlen, hbar, hne, hroot⟩

/-- **C11 (no back-out overlapping the request: the current chain).**  If no back-out was half
done, began or ended while the request was active (`bo = false`), its answer is the from-scratch
branch and root of the first `cp+1` hashes of the chain visible *at the moment of the answer* (the
head of the history), which reaches the checkpoint. -/
theorem C11_header_current [DecidableEq Node] (s : St Node) (evs : List (Ev Node)) (h0 : Init H s) :
    ∀ r ∈ (run H Cfg.fixed s evs).reqs, ∀ br root, r.pc = .done (.answer br root) → r.bo = false →
      ∀ cur, r.seen.head? = some cur → r.length ≤ cur.length ∧
        branchAndRoot H (cur.take r.length) (.int r.index) none false = .ok (br, root) := by
  intro r hr br root hpc hbo cur hcur
  obtain ⟨S, hS, hlen, hbar, _⟩ := C11_header_safe H s evs h0 r hr br root hpc
  have hpre := ((inv_run H s evs h0.inv).reqs r hr).nobo hbo S hS cur hcur
  exact ⟨Nat.le_trans hlen hpre.length_le, by rw [take_of_prefix hpre hlen]; exact hbar⟩

/-- **C11 (header cache invariant).**  In every reachable state — any number of extensions in
flight —: when no back-out is half done the cache is consistent with the visible block hashes
(`CacheInv`: its level is level `depth_higher` of the tree of the first `length` visible hashes);
between the two halves of a back-out to `n` hashes it is consistent with the reference chain `ref`,
of which the visible chain is the first `n` hashes (the cache may still cover hashes that are no
longer visible; the pending `truncate` removes them).  `ref_window` below: `ref` is the chain that
was visible before the back-out began. -/
theorem C11_header_inv [DecidableEq Node] (s : St Node) (evs : List (Ev Node)) (h0 : Init H s) :
    ((run H Cfg.fixed s evs).pending = none →
      CacheInv H (run H Cfg.fixed s evs).c (run H Cfg.fixed s evs).src) ∧
    (∀ n, (run H Cfg.fixed s evs).pending = some n →
      CacheInv H (run H Cfg.fixed s evs).c (run H Cfg.fixed s evs).ref ∧
      (run H Cfg.fixed s evs).src = (run H Cfg.fixed s evs).ref.take n ∧
      0 < n ∧ n < (run H Cfg.fixed s evs).ref.length) := by
  have hinv := inv_run H s evs h0.inv
  exact ⟨fun hp => hinv.quiet hp ▸ hinv.cache, fun n hn => ⟨hinv.cache, hinv.half n hn⟩⟩

/-- the reference chain of the half-done window: when a back-out begins in a state satisfying the
invariant, `ref` is (and stays) the chain that was visible before; no event inside the window
changes it -/
theorem ref_window [DecidableEq Node] (s : St Node) (hinv : Inv H s) :
    (∀ n, s.pending = none → (step H Cfg.fixed s (.boBegin n)).ref = s.src) ∧
    (∀ ev n n', s.pending = some n → (step H Cfg.fixed s ev).pending = some n' →
      (step H Cfg.fixed s ev).ref = s.ref) := by
  refine ⟨fun n hp => ?_, fun ev n n' hp hp' => ?_⟩
  · have h := step_Step H Cfg.fixed s (.boBegin n)
    generalize step H Cfg.fixed s (.boBegin n) = s' at h ⊢
    cases h with
    | truncBegin _ hl => exact absurd rfl hl
    | _ => exact hinv.quiet hp
  · have h := step_Step H Cfg.fixed s ev
    generalize step H Cfg.fixed s ev = s' at h hp' ⊢
    cases h with
    | lowerBegin _ _ hg => exact nomatch hp.symm.trans hg.1
    | append _ hg => exact nomatch hp.symm.trans hg
    | truncEnd | lowerEnd => cases hp'
    | _ => rfl

theorem query_proof [DecidableEq Node] {c : Cache Node} {src : List Node} (hinv : CacheInv H c src)
    {height cp : Nat} (hh : height ≤ cp) (hcp : cp < src.length) :
    (c.query H src (.int (cp + 1 : Nat)) (.int height) false).2 =
      Outcome.ofExcept (branchAndRoot H (src.take (cp + 1)) (.int height) none false) ∧
    ∃ br hne, branchAndRoot H (src.take (cp + 1)) (.int height) none false =
      .ok (br, merkleRoot H (src.take (cp + 1)) hne) := by
  refine ⟨(cache_correct_nat H hinv (Nat.succ_le_of_lt hcp) (Nat.lt_succ_of_le hh) false).1, ?_⟩
  have hlen : height < (src.take (cp + 1)).length := by
    rw [List.length_take_of_le hcp]; exact Nat.lt_succ_of_le hh
  obtain ⟨br, hbr⟩ := bar_root H (src.take (cp + 1)) height false hlen
  exact ⟨br, _, hbr⟩

/-- **C11 (quiescent header proof).**  In every reachable state in which no back-out is half done,
a header-proof request `(height, cp_height)` inside the chain answered atomically through the cache
returns exactly the from-scratch branch of the current first `cp_height + 1` block hashes and
their Bitcoin merkle root. -/
theorem C11_header_proof [DecidableEq Node] (s : St Node) (evs : List (Ev Node)) (h0 : Init H s)
    (hq : (run H Cfg.fixed s evs).pending = none) (height cp : Nat)
    (hh : height ≤ cp) (hcp : cp < (run H Cfg.fixed s evs).src.length) :
    ((run H Cfg.fixed s evs).c.query H (run H Cfg.fixed s evs).src (.int (cp + 1 : Nat)) (.int height) false).2 =
      Outcome.ofExcept (branchAndRoot H ((run H Cfg.fixed s evs).src.take (cp + 1)) (.int height) none false) ∧
    ∃ br hne, branchAndRoot H ((run H Cfg.fixed s evs).src.take (cp + 1)) (.int height) none false =
      .ok (br, merkleRoot H ((run H Cfg.fixed s evs).src.take (cp + 1)) hne) :=
  query_proof H ((C11_header_inv H s evs h0).1 hq) hh hcp

/-- **C11 (starting a request).**  Whatever the variant of the code: the start of a
`block_header(height, cp)` / `block_headers(first, count, cp)` request changes nothing but the list
of requests; the new request waits for its header read and has seen the visible chain. -/
theorem C11_header_started [DecidableEq Node] (cfg : Cfg) (s : St Node) (kind : Handler) (first count cp : Nat) :
    (step H cfg s (.header first cp)).c = s.c ∧ (step H cfg s (.headers first count cp)).c = s.c ∧
    (step H cfg s (.header first cp)).src = s.src ∧ (step H cfg s (.headers first count cp)).src = s.src ∧
    (step H cfg s (.header first cp)).reqs =
      s.reqs ++ [newReq s.truncations s.src s.pending.isSome .header first 1 cp] ∧
    (step H cfg s (.headers first count cp)).reqs =
      s.reqs ++ [newReq s.truncations s.src s.pending.isSome .headers first count cp] ∧
    (newReq s.truncations s.src s.pending.isSome kind first count cp).pc = .hdr .issued ∧
    (newReq s.truncations s.src s.pending.isSome kind first count cp).length = cp + 1 ∧
    (newReq s.truncations s.src s.pending.isSome kind first count cp).seen = [s.src] :=
  ⟨rfl, rfl, rfl, rfl, rfl, rfl, rfl, rfl, rfl⟩

/-- **C11 (requests outside the chain are refused).**  Whatever the variant of the code, when the
handler's header read is delivered (`hs` = the headers it returned, `vis` = the number of visible
hashes at that moment, i.e. `db.state.height + 1`, `cp = length - 1`):
`block_header`: no header at `height` → refused; `cp = 0` → the header alone; else the range check
`height ≤ cp < vis`: outside → refused at once, inside → the request enters the proof with
`index = height`.  `block_headers`: nothing read or `cp = 0` → the headers alone; else the range
check for the last header read, `first + |hs| − 1`. -/
theorem C11_header_refused (c : Cache Node) (T vis : Nat) (r : Req Node) (hs : List Node) :
    (r.kind = .header →
      (hs.length ≠ 1 → (afterHdr c T vis r hs).pc = .done .refused) ∧
      (hs.length = 1 → r.length = 1 →
        (afterHdr c T vis r hs).pc = .done .plain ∧ (afterHdr c T vis r hs).hdrs = hs) ∧
      (hs.length = 1 → r.length ≠ 1 → ¬ (r.first < r.length ∧ r.length ≤ vis) →
        (afterHdr c T vis r hs).pc = .done .refused) ∧
      (hs.length = 1 → r.length ≠ 1 → (r.first < r.length ∧ r.length ≤ vis) →
        (afterHdr c T vis r hs).proving = true ∧ (afterHdr c T vis r hs).hdrs = hs ∧
          (afterHdr c T vis r hs).index = r.first)) ∧
    (r.kind = .headers →
      (hs.length = 0 ∨ r.length = 1 →
        (afterHdr c T vis r hs).pc = .done .plain ∧ (afterHdr c T vis r hs).hdrs = hs) ∧
      (¬ (hs.length = 0 ∨ r.length = 1) → ¬ (r.first + hs.length - 1 < r.length ∧ r.length ≤ vis) →
        (afterHdr c T vis r hs).pc = .done .refused) ∧
      (¬ (hs.length = 0 ∨ r.length = 1) → (r.first + hs.length - 1 < r.length ∧ r.length ≤ vis) →
        (afterHdr c T vis r hs).proving = true ∧ (afterHdr c T vis r hs).hdrs = hs ∧
          (afterHdr c T vis r hs).index = r.first + hs.length - 1)) := by
  have hin : ∀ r0 : Req Node, (r0.index < r0.length ∧ r0.length ≤ vis) →
      (enterProof c T vis r0).proving = true ∧ (enterProof c T vis r0).hdrs = r0.hdrs ∧
        (enterProof c T vis r0).index = r0.index := by
    intro r0 h
    unfold enterProof beginIter enterExtend
    rw [if_pos h]
    split <;> exact ⟨rfl, rfl, rfl⟩
  have hout : ∀ r0 : Req Node, ¬ (r0.index < r0.length ∧ r0.length ≤ vis) →
      (enterProof c T vis r0).pc = .done .refused := by
    intro r0 h
    unfold enterProof
    rw [if_neg h]
  refine ⟨fun hk => ?_, fun hk => ?_⟩
  all_goals simp only [afterHdr, hk]
  · refine ⟨fun h1 => by rw [if_pos h1], fun h1 h2 => ?_, fun h1 h2 h3 => ?_, fun h1 h2 h3 => ?_⟩
    all_goals rw [if_neg (not_not_intro h1)]
    · rw [if_pos h2]; exact ⟨rfl, rfl⟩
    · rw [if_neg h2]; exact hout _ h3
    · rw [if_neg h2]; exact hin _ h3
  · refine ⟨fun h1 => by rw [if_pos h1]; exact ⟨rfl, rfl⟩, fun h1 h3 => ?_, fun h1 h3 => ?_⟩
    all_goals rw [if_neg h1]
    · exact hout _ h3
    · exact hin _ h3

theorem deliver_hdr [DecidableEq Node] (cfg : Cfg) (s : St Node) (i : Nat) (r : Req Node) (hs : List Node)
    (hr : s.reqs[i]? = some r) (hpc : r.pc = .hdr (.got hs)) :
    step H cfg s (.deliver i) =
      { s with reqs := s.reqs.set i (afterHdr s.c s.truncations s.src.length r hs) } := by
  simp only [step, hr, deliverAll, hpc]

/-- **C11 (never a wrong answer).**  However a request ends — in every reachable state — it was
refused, it failed with an error, it returned headers without a proof, or it returned an answer
that satisfies the safety clause. -/
theorem C11_header_never_wrong [DecidableEq Node] (s : St Node) (evs : List (Ev Node)) (h0 : Init H s) :
    ∀ r ∈ (run H Cfg.fixed s evs).reqs, ∀ res, r.pc = .done res →
      res = .refused ∨ (∃ e, res = .error e) ∨ res = .plain ∨
      ∃ br root, res = .answer br root ∧ ∃ S ∈ r.seen, r.length ≤ S.length ∧
        branchAndRoot H (S.take r.length) (.int r.index) none false = .ok (br, root) := by
  intro r hr res hpc
  cases res with
  | refused => exact Or.inl rfl
  | error e => exact Or.inr (Or.inl ⟨e, rfl⟩)
  | plain => exact Or.inr (Or.inr (Or.inl rfl))
  | answer br root =>
    obtain ⟨S, hS, hlen, hbar, _⟩ := C11_header_safe H s evs h0 r hr br root hpc
    exact Or.inr (Or.inr (Or.inr ⟨br, root, rfl, S, hS, hlen, hbar⟩))

/-- **C11 (the whole reply verifies, and against a chain that was visible).**  Every completed reply
`(headers, branch, root)` of a `block_header(height, cp)` / `block_headers(first, count, cp)` request
— after any event sequence, with any number of requests, reorganisations between the header read
and the proof included — satisfies, for ONE chain `S` that was visible at some moment between the
request's start and its answer (`S ∈ seen`, `seen_sound`) and reaches the checkpoint:
 * `(branch, root)` is the from-scratch branch and root of `S[:cp+1]` at the proven height `index`,
   and `root` is the Bitcoin merkle root of `S[:cp+1]` (`C11_header_safe`);
 * the branch consists of nodes only, and **the reply folds**: `root_from_proof(h, branch, index) =
   root` for the last header `h` of the reply (as its hash) — what the client checks; this is the
   composed fold statement, by the consistency check of the handler;
 * the block hash `x` of `S` at `index` folds along the same branch to the same root (C12 `bar_fold`).
No property of the hash function is used.  (`C11_reply_header` adds `h = x` from collision-freedom.) -/
theorem C11_reply_safe [DecidableEq Node] (s : St Node) (evs : List (Ev Node)) (h0 : Init H s) :
    ∀ r ∈ (run H Cfg.fixed s evs).reqs, ∀ br root, r.pc = .done (.answer br root) →
      ∃ S ∈ r.seen, r.length ≤ S.length ∧ r.index < r.length ∧
        branchAndRoot H (S.take r.length) (.int r.index) none false = .ok (br, root) ∧
        (∃ hne, root = merkleRoot H (S.take r.length) hne) ∧
        ∃ (h x : Node) (nodes : List Node), r.hdrs.getLast? = some h ∧ S[r.index]? = some x ∧
          br = nodes.map .node ∧
          rootFromProof H h nodes r.index = .ok root ∧ rootFromProof H x nodes r.index = .ok root := by
  intro r hr br root hpc
  obtain ⟨S, hS, hlen, hbar, hroot⟩ := C11_header_safe H s evs h0 r hr br root hpc
  obtain ⟨hidx, -, -, hcl, -⟩ := bar_ok H hbar
  obtain ⟨nodes, rfl, hf⟩ := hcl rfl
  rw [List.length_take_of_le hlen] at hidx
  have hiS := Nat.lt_of_lt_of_le hidx hlen
  rw [List.getElem_take] at hf
  -- the handler's check: the last header folds along the same branch to the same root
  have hfolds := ((inv_run H s evs h0.inv).hdrs r hr).folds
  rw [Req.Folds, hpc] at hfolds
  cases hl : r.hdrs.getLast? with
  | none => rw [hl] at hfolds; exact hfolds.elim
  | some h =>
    rw [hl] at hfolds
    replace hfolds : rootFromProof H h (branchNodes (nodes.map .node)) r.index = .ok root := hfolds
    rw [branchNodes_map] at hfolds
    exact ⟨S, hS, hlen, hidx, hbar, hroot, h, S[r.index], nodes, rfl, List.getElem?_eq_getElem hiS, rfl,
      hfolds, hf⟩

/-- `hash_func(a + b)` has no collision a fold could meet: if two inputs that agree in one half
hash to the same value, they agree in the other half too.  (Implied by collision-freedom of
SHA-256d on 64-byte inputs; true of every injective `H`.) -/
def Cancel (H : Node → Node → Node) : Prop :=
  (∀ e a b, H e a = H e b → a = b) ∧ (∀ e a b, H a e = H b e → a = b)

theorem rfpLoop_inj (hc : Cancel H) (br : List Node) :
    ∀ (a b : Node) (i : Int), (rfpLoop H a br i).1 = (rfpLoop H b br i).1 → a = b := by
  induction br with
  | nil => intro a b i h; exact h
  | cons e rest ih =>
    intro a b i h
    simp only [rfpLoop] at h
    have h' := ih _ _ _ h
    by_cases hi : i % 2 = 1
    · simp only [hi, if_true] at h'; exact hc.1 e a b h'
    · simp only [hi, if_false] at h'; exact hc.2 e a b h'

/-- two leaves that fold along the same branch at the same index to the same root are equal -/
theorem rootFromProof_inj (hc : Cancel H) {a b r : Node} {br : List Node} {i : Int}
    (ha : rootFromProof H a br i = .ok r) (hb : rootFromProof H b br i = .ok r) : a = b :=
  rfpLoop_inj H hc br a b i ((verify_ok ha).trans (verify_ok hb).symm)

/-- **C11 (the header of the reply is the header of the chain proven — F24 fixed).**  If the hash
function has no collision a fold could meet (`Cancel`), then in every completed reply the last
header `h` — the one at height `index = first + |headers| − 1`, which for `block_header` is the only
header and `index = height` — IS the block (hash) at that height of the very chain `S` whose first
`cp+1` hashes `(branch, root)` are computed from, and `S` was visible at some moment between the
request's start and its answer.  An orphaned header with the proof of another chain is impossible,
also under reorganisations A → B → A (the check is on the contents, not on a second read). -/
theorem C11_reply_header [DecidableEq Node] (hc : Cancel H) (s : St Node) (evs : List (Ev Node)) (h0 : Init H s) :
    ∀ r ∈ (run H Cfg.fixed s evs).reqs, ∀ br root, r.pc = .done (.answer br root) →
      ∃ S ∈ r.seen, r.length ≤ S.length ∧
        branchAndRoot H (S.take r.length) (.int r.index) none false = .ok (br, root) ∧
        (∃ hne, root = merkleRoot H (S.take r.length) hne) ∧
        r.hdrs ≠ [] ∧ r.hdrs.getLast? = S[r.index]? ∧ r.index = r.first + r.hdrs.length - 1 ∧
        (r.kind = .header → r.hdrs.length = 1 ∧ r.index = r.first) := by
  intro r hr br root hpc
  obtain ⟨S, hS, hlen, _, hbar, hroot, h, x, nodes, hh, hx, _, hf1, hf2⟩ :=
    C11_reply_safe H s evs h0 r hr br root hpc
  have hne : r.hdrs ≠ [] := by intro he; rw [he] at hh; cases hh
  have hok := (inv_run H s evs h0.inv).hdrs r hr
  have hidx : r.index = r.first + r.hdrs.length - 1 := by
    rcases hok.hidx with h1 | h1
    · exact absurd h1 hne
    · exact h1
  refine ⟨S, hS, hlen, hbar, hroot, hne, ?_, hidx, fun hk => ?_⟩
  · rw [hh, hx, rootFromProof_inj H hc hf1 hf2]
  · obtain ⟨A, _, hA⟩ := hok.hsrc (by rw [hpc]; trivial)
    have hle : r.hdrs.length ≤ 1 := by
      rw [hA, hok.one hk, srcSlice, List.length_take]; exact Nat.min_le_left ..
    have hone : r.hdrs.length = 1 := Nat.le_antisymm hle (List.length_pos_iff.mpr hne)
    exact ⟨hone, by rw [hidx, hone, Nat.add_sub_cancel]⟩

/-- **C11 (replies without a proof).**  A reply without a proof (`cp_height = 0`, or no header in
range) consists of the headers ONE read returned: `A[first : first+count]` for a chain `A` that was
visible during the request. -/
theorem C11_plain_reply [DecidableEq Node] (s : St Node) (evs : List (Ev Node)) (h0 : Init H s) :
    ∀ r ∈ (run H Cfg.fixed s evs).reqs, r.pc = .done .plain →
      ∃ A ∈ r.seen, r.hdrs = srcSlice A r.first r.count :=
  fun r hr hpc => ((inv_run H s evs h0.inv).hdrs r hr).hplain hpc

/-- **C11 (all headers of a `block_headers` reply).**  The headers of a reply with a proof were
returned by ONE read of a chain `A` visible during the request (`headers = A[first : first+count]`);
the proof is of the last one.  If chains are linked by their hashes — two visible chains with the
same block hash at a height have the same hashes below it (`hlink`; true of real block chains,
each header contains the hash of its predecessor) — and the hash is `Cancel`, then ALL headers of
the reply are the blocks `first … index` of the chain `S` the proof is computed from. -/
theorem C11_reply_chunk [DecidableEq Node] (hc : Cancel H) (s : St Node) (evs : List (Ev Node)) (h0 : Init H s) :
    ∀ r ∈ (run H Cfg.fixed s evs).reqs, ∀ br root, r.pc = .done (.answer br root) →
      (hlink : ∀ A ∈ r.seen, ∀ S ∈ r.seen, ∀ i x, A[i]? = some x → S[i]? = some x →
        A.take (i + 1) = S.take (i + 1)) →
      ∃ S ∈ r.seen, r.length ≤ S.length ∧
        branchAndRoot H (S.take r.length) (.int r.index) none false = .ok (br, root) ∧
        r.hdrs = (S.take (r.index + 1)).drop r.first := by
  intro r hr br root hpc hlink
  obtain ⟨S, hS, hlen, hbar, _, hne, hlast, hidx, _⟩ := C11_reply_header H hc s evs h0 r hr br root hpc
  obtain ⟨A, hAm, hA⟩ := ((inv_run H s evs h0.inv).hdrs r hr).hsrc (by rw [hpc]; trivial)
  -- the headers are `(A[:index+1])[first:]` and the last of them, `A[index]`, is `S[index]`
  obtain ⟨htake, hlastA⟩ := srcSlice_last hA hne
  have hi : r.first + r.hdrs.length = r.index + 1 := by
    rw [hidx, Nat.sub_add_cancel (Nat.le_add_left_of_le (List.length_pos_iff.mpr hne))]
  rw [← hidx] at hlastA
  rw [hi] at htake
  obtain ⟨x, hx⟩ : ∃ x, r.hdrs.getLast? = some x := ⟨_, List.getLast?_eq_some_getLast hne⟩
  refine ⟨S, hS, hlen, hbar, ?_⟩
  rw [htake, hlink A hAm S hS r.index x (by rw [← hlastA, hx]) (by rw [← hlast, hx])]

/-- **C11 (progress).**  In every state that satisfies the invariant (every reachable state,
`inv_run`) and in which no back-out is half done, a `block_header(height, cp)` request inside the
chain (`height ≤ cp < len(visible chain)`, `cp ≠ 0`) that is scheduled alone — its reads performed
and delivered, nothing else in between: in particular it meets no back-out — is ANSWERED after at
most four read round trips (header, [cache extension], leaf hashes, [level]): no read comes back
short, nothing raises, the consistency check of the reply passes.  By `C11_reply_header` (applied
to the longer event list) that answer is header and proof of the visible chain.  So a model in
which every delivery failed would not satisfy this. -/
theorem C11_header_progress [DecidableEq Node] (s : St Node) (hinv : Inv H s) (hq : s.pending = none)
    (height cp : Nat) (h1 : height ≤ cp) (h2 : 0 < cp) (h3 : cp < s.src.length) :
    ∃ k, k ≤ 4 ∧ ∃ r br root,
      (run H Cfg.fixed s (.header height cp :: rounds s.reqs.length k)).reqs[s.reqs.length]? = some r ∧
      r.pc = .done (.answer br root) :=
  run_answered H s (hinv.quiet hq ▸ hinv.cache) height cp h1 h2 h3

/-- the same for every reachable state -/
theorem C11_header_progress_reachable [DecidableEq Node] (s0 : St Node) (evs : List (Ev Node)) (h0 : Init H s0)
    (hq : (run H Cfg.fixed s0 evs).pending = none)
    (height cp : Nat) (h1 : height ≤ cp) (h2 : 0 < cp) (h3 : cp < (run H Cfg.fixed s0 evs).src.length) :
    ∃ k, k ≤ 4 ∧ ∃ r br root,
      (run H Cfg.fixed s0 (evs ++ .header height cp :: rounds (run H Cfg.fixed s0 evs).reqs.length k)).reqs[
        (run H Cfg.fixed s0 evs).reqs.length]? = some r ∧
      r.pc = .done (.answer br root) := by
  obtain ⟨k, hk, r, br, root, hr, hpc⟩ :=
    C11_header_progress H _ (inv_run H s0 evs h0.inv) hq height cp h1 h2 h3
  refine ⟨k, hk, r, br, root, ?_, hpc⟩
  rw [← hr]
  simp only [run, List.foldl_append]

/-- Cantor pairing: an *injective* stand-in for the hash on `Nat`, so two different trees have
different roots -/
def Hc (a b : Nat) : Nat := (a + b) * (a + b + 1) / 2 + b

def src9 : List Nat := [10, 11, 12, 13, 14, 15, 16, 17, 18]

/-- the cache as `initialize(4)` leaves it (`depth_higher = 1`: segments of two) -/
def s9 : St Nat := { c := (({} : Cache Nat).init Hc src9 4).1, src := src9, ref := src9 }

/-- the hypothesis `Init` of the theorems is satisfiable (C12 `cache_init`) -/
theorem s9_init : Init Hc s9 :=
  ⟨(cache_init Hc {} src9 4 (by decide) (by decide)).2, rfl, rfl, rfl⟩

/-- the hypothesis `Cancel` of `C11_reply_header` is satisfiable: the free term constructor (the
hash the suites use) has no collision at all -/
example : Cancel T.n :=
  ⟨fun _ _ _ h => by injection h, fun _ _ _ h => by injection h⟩

instance (r : Req Nat) : Decidable (r.Safe Hc) := by
  unfold Req.Safe
  split <;> infer_instance

instance (r : Req Nat) : Decidable (r.Folds Hc) := by
  unfold Req.Folds
  split
  · split <;> infer_instance
  · infer_instance

/-- F17: A = `block.header(0, cp=8)` and B = `block.header(0, cp=5)` both above the cache (4) (their
header reads done at once): both extension reads in flight; A's `_extend_to(9)` finishes, then B's
shorter one. -/
def evsF17 : List (Ev Nat) :=
  startAtomic 0 8 0 ++ startAtomic 0 5 1 ++
  [.perform 0, .perform 1, .deliver 0, .deliver 1, .perform 0, .deliver 0, .perform 0, .deliver 0]

/-- **F17 (pinned `_extend_to`: no `cached_length` test).**  B's extension writes
`level[2:] = level(h4,h5)` and `length = 6` over A's longer one; A's `_level_for(9)` then takes
`level[:4]` of a 3-entry level and returns a root over the hashes 0–5 and 8: not the root of any
chain.  (The other flags as in the current code: no reorganisation is involved, and the consistency
check of the reply passes — the wrong proof is self-consistent.) -/
theorem F17_counterexample :
    (run Hc { extFix := false } s9 evsF17).reqs.map (fun r => decide (r.Safe Hc)) = [false, true] ∧
    (run Hc { extFix := false } s9 evsF17).c.length = 6 := by decide +kernel

/-- F18: a back-out to 7 hashes begins; a request for `cp = 8` starts between its two halves,
extends the cache, the back-out ends, two new blocks arrive, a second request for `cp = 8`. -/
def evsF18 : List (Ev Nat) :=
  [.boBegin 7] ++ startAtomic 0 8 0 ++ [.perform 0, .deliver 0, .boEnd, .append [27, 28],
   .perform 0, .deliver 0, .perform 0, .deliver 0] ++
  startAtomic 0 8 1 ++ [.perform 1, .deliver 1, .perform 1, .deliver 1, .perform 1, .deliver 1]

/-- **F18 (pinned `flush_backup`: `truncate` before `DB.state` is lowered).**  The request
started in the window passes the range check against the not-yet-lowered state, re-reads the
hashes being undone and stores them (`truncate` already ran, so neither `truncations` test fires);
the cache keeps orphaned hashes in a quiescent state, and the *next* request is answered with a root
over them. -/
theorem F18_counterexample :
    (run Hc { lowerFirst := false } s9 evsF18).reqs.map (fun r => decide (r.Safe Hc)) = [true, false] ∧
    (run Hc { lowerFirst := false } s9 evsF18).pending = none ∧
    (run Hc { lowerFirst := false } s9 evsF18).src = [10, 11, 12, 13, 14, 15, 16, 27, 28] ∧
    (run Hc { lowerFirst := false } s9 evsF18).c.level ≠
      lvl Hc 1 ((run Hc { lowerFirst := false } s9 evsF18).src.take 9) := by decide +kernel

/-- F19: one request for `cp = 8`; its extension completes (cache 9); while it waits for its leaf
hashes a back-out to 5 hashes truncates the cache to 4 and four new blocks arrive. -/
def evsF19 : List (Ev Nat) :=
  startAtomic 1 8 0 ++ [.perform 0, .deliver 0, .boBegin 5, .boEnd, .append [25, 26, 27, 28],
   .perform 0, .deliver 0, .perform 0, .deliver 0]

/-- **F19 (pinned `branch_and_root`: one pass, no truncation check).**  `_level_for(9)` takes
`self.level[:4]` from the truncated 2-entry level and appends the final partial segment: a root over
the hashes 0–3 and 8; the "leaf hashes inconsistent with level" check passes because the leaf's own
segment is intact. -/
theorem F19_counterexample :
    (run Hc { retry := false } s9 evsF19).reqs.map (fun r => decide (r.Safe Hc)) = [false] := by decide +kernel

/-- F24: `block.header(7, cp=8)`; its header read is performed (hash 17, the block at height 7);
before the result is delivered a reorganisation replaces the blocks at heights 7 and 8 (back-out
to 7 hashes, two new blocks 27, 28); the header read is delivered, the range check passes against
the new chain, and the proof is computed entirely from the new chain. -/
def evsF24 : List (Ev Nat) :=
  [.header 7 8, .perform 0, .boBegin 7, .boEnd, .append [27, 28], .deliver 0,
   .perform 0, .deliver 0, .perform 0, .deliver 0]

/-- **F24 (pinned `block_header` / `block_headers`: no consistency check of the reply).**  The
proof part is right — `(branch, root)` is the from-scratch proof for height 7 of the chain
`10,…,16,27,28` that is visible (`Safe`) — but the reply's header is the orphaned block 17, not the
block 27 at height 7 of that chain: the reply does not fold (`Folds` fails), it verifies against no
chain. -/
theorem F24_counterexample :
    (run Hc { hdrCheck := false } s9 evsF24).reqs.map
      (fun r => (decide (r.Safe Hc), decide (r.Folds Hc), r.hdrs, r.index, r.active)) =
      [(true, false, [17], 7, false)] ∧
    (run Hc { hdrCheck := false } s9 evsF24).src = [10, 11, 12, 13, 14, 15, 16, 27, 28] := by decide +kernel

/-- the same schedule under the current code: the check fails (the request is back at its header
read), the header is read again, the proof recomputed, and the reply — header 27 — folds -/
example :
    (run Hc Cfg.fixed s9 evsF24).reqs.map (fun r => (r.pc, r.hdrs)) = [(.hdr .issued, [17])] ∧
    (run Hc Cfg.fixed s9 (evsF24 ++ [.perform 0, .deliver 0, .perform 0, .deliver 0])).reqs.map
      (fun r => (decide (r.Safe Hc), decide (r.Folds Hc), r.hdrs, r.index, r.active)) =
      [(true, true, [27], 7, false)] := by decide +kernel

/-- a reorganisation A → B → A between the header read and the proof: the check passes, rightly —
the reply is header and proof of chain A, which was visible during the request -/
example :
    (run Hc Cfg.fixed s9 ([.header 7 8, .perform 0, .boBegin 7, .boEnd, .append [27, 28], .boBegin 7, .boEnd,
      .append [17, 18], .deliver 0, .perform 0, .deliver 0, .perform 0, .deliver 0])).reqs.map
      (fun r => (decide (r.Safe Hc), decide (r.Folds Hc), r.hdrs, r.active)) = [(true, true, [17], false)] := by
  decide +kernel

/-- `block_headers(5, 10, cp=8)`: four headers (heights 5–8, the count is clipped by the chain), the
proof is of the last one; after a reorganisation of the last two blocks between the read and the
proof the pinned code returns headers 15,16,17,18 with the proof of block 28 … -/
example :
    (run Hc { hdrCheck := false } s9 [.headers 5 10 8, .perform 0, .boBegin 7, .boEnd, .append [27, 28],
      .deliver 0, .perform 0, .deliver 0, .perform 0, .deliver 0]).reqs.map
      (fun r => (decide (r.Safe Hc), decide (r.Folds Hc), r.hdrs, r.index, r.active)) =
      [(true, false, [15, 16, 17, 18], 8, false)] := by decide +kernel

/-- … and the current code reads them again: 15,16,27,28 -/
example :
    (run Hc Cfg.fixed s9 [.headers 5 10 8, .perform 0, .boBegin 7, .boEnd, .append [27, 28],
      .deliver 0, .perform 0, .deliver 0, .perform 0, .deliver 0,
      .perform 0, .deliver 0, .perform 0, .deliver 0]).reqs.map
      (fun r => (decide (r.Safe Hc), decide (r.Folds Hc), r.hdrs, r.index, r.active)) =
      [(true, true, [15, 16, 27, 28], 8, false)] := by decide +kernel

/-- the schedules of F17, F18 and F19 under the current code: every request that has ended is safe,
and answers do occur (the theorem is not vacuous) -/
example :
    (run Hc Cfg.fixed s9 evsF17).reqs.map (fun r => (decide (r.Safe Hc), r.active)) = [(true, false), (true, true)] ∧
    (run Hc Cfg.fixed s9 evsF18).reqs.map (fun r => (decide (r.Safe Hc), r.active)) = [(true, false), (true, false)] ∧
    (run Hc Cfg.fixed s9 (evsF19 ++ [.perform 0, .deliver 0, .perform 0, .deliver 0])).reqs.map
      (fun r => (decide (r.Safe Hc), decide (r.Folds Hc), r.active, r.bo)) = [(true, true, false, true)] := by decide +kernel

/-- `C11_header_current` is not vacuous: a request that no back-out overlapped, answered -/
example : (run Hc Cfg.fixed s9 (startAtomic 0 8 0 ++ [.perform 0, .deliver 0, .perform 0, .deliver 0])).reqs.map
    (fun r => (r.bo, r.active, r.seen.head?)) = [(false, false, some src9)] := by decide +kernel

/-- the hypotheses of `C11_header_progress` are satisfiable -/
example : ∃ k, k ≤ 4 ∧ ∃ r br root,
    (run Hc Cfg.fixed s9 (.header 7 8 :: rounds 0 k)).reqs[0]? = some r ∧ r.pc = .done (.answer br root) :=
  C11_header_progress Hc s9 s9_init.inv rfl 7 8 (by decide) (by decide) (by decide)

/-- the refusal clauses are not vacuous: checkpoint beyond the chain, checkpoint below the height,
no header at the height; and replies without proof -/
example : (run Hc Cfg.fixed s9 (startAtomic 0 9 0)).reqs.map (·.pc) = [.done .refused] ∧
    (run Hc Cfg.fixed s9 (startAtomic 4 3 0)).reqs.map (·.pc) = [.done .refused] ∧
    (run Hc Cfg.fixed s9 (startAtomic 9 0 0)).reqs.map (·.pc) = [.done .refused] ∧
    (run Hc Cfg.fixed s9 (startAtomic 8 0 0)).reqs.map (fun r => (r.pc, r.hdrs)) = [(.done .plain, [18])] ∧
    (run Hc Cfg.fixed s9 [.headers 7 5 0, .perform 0, .deliver 0]).reqs.map (fun r => (r.pc, r.hdrs)) =
      [(.done .plain, [17, 18])] ∧
    (run Hc Cfg.fixed s9 [.headers 9 5 8, .perform 0, .deliver 0]).reqs.map (fun r => (r.pc, r.hdrs)) =
      [(.done .plain, [])] := by decide +kernel

end EV.HeaderCache
