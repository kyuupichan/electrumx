import EV.Props.C11
import EV.Props.C11tx

/-! C11, both halves: header proofs (`EV.Props.C11`, model `EV.HeaderCache`) and transaction proofs
(`EV.Props.C11tx`, model `EV.TxCache`).  `EV.Props.C11bind`, the module
`check.py C11` builds and audits, imports both through this one. -/
