import EV.Props.C02
import EV.Props.C01audit

/-!
# C02 — tx number ↦ (hash, HEIGHT)

`C01run_resolve` gives the HASH a committed tx number resolves to; here the (hash, height) pair that
`limited_history` returns is stated against the CHAIN, with no reference to the specification's table
`(specChain …).txs`: at a fully flushed state the `i`-th transaction of the block at height `h` has tx
number `(number of txs in blocks 0..h−1) + i`, and `fs_tx_hash` of that number is `(its txid, h)`.  Heights
are non-decreasing in the tx number, so the order "by tx number" of `C02_spec_ordered` IS the order
"(height, then position in the block)".  Scope: fully flushed states; for other states see clauses 3 and
5 of `C01run_committed_view`.
-/
namespace EV.Index
open EV.Spec

def txnumAt (chain : List Block) (h i : Nat) : Nat := (allTxids (chain.take h)).length + i

theorem txnumAt_facts {chain : List Block} {h i : Nat} {b : Block} {tx : Tx}
    (hb : chain[h]? = some b) (ht : b.txs[i]? = some tx) :
    txnumAt chain h i < (allTxids chain).length ∧
    bisectRight (cumCounts chain) (txnumAt chain h i) = h ∧
    (allTxids chain).getD (txnumAt chain h i) 0 = tx.id := by
  obtain ⟨hi, hgi⟩ := List.getElem?_eq_some_iff.mp ht
  have hlen1 : (allTxids (chain.take (h + 1))).length =
      (allTxids (chain.take h)).length + b.txs.length := by
    rw [take_succ_of_getElem? hb, allTxids_append, allTxids_singleton, List.length_append,
      List.length_map]
  have hn1 : txnumAt chain h i < (allTxids (chain.take (h + 1))).length := by
    rw [hlen1]; exact Nat.add_lt_add_left hi _
  have hn : txnumAt chain h i < (allTxids chain).length :=
    Nat.lt_of_lt_of_le hn1 (allTxids_take_le chain (h + 1))
  refine ⟨hn, (bisect_spec chain hn h).mpr ⟨Nat.le_add_right _ _, hn1⟩, ?_⟩
  have hseg := congrArg (·[i]?) (allTxids_block hb)
  simp only [List.getElem?_take_of_lt hi, List.getElem?_drop, List.getElem?_map, ht,
    Option.map_some] at hseg
  rw [List.getD_eq_getElem?_getD]
  exact congrArg (·.getD 0) hseg

/-- **C02 (tx number ↦ (hash, height), for every transaction of the chain).**  In a fully flushed
state of the whole-run invariant (after any valid run of advances, flushes, back-outs, restarts), for
every height `h`, block `b = chain[h]` and position `i` with `tx = b.txs[i]`: `fs_tx_hash` of the tx
number `txnumAt chain h i` is `(tx.id, h)`. -/
theorem C02run_txnum {cfg : Cfg} {chain : List Block} {K : List Nat} {s : Sys}
    (inv : FullInv' cfg chain K s) (hf : s.m.dbst.height = s.m.st.height)
    {h i : Nat} {b : Block} {tx : Tx} (hb : chain[h]? = some b) (ht : b.txs[i]? = some tx) :
    fsTxHash s (txnumAt chain h i) = (some tx.id, h) := by
  obtain ⟨hn, hbis, hid⟩ := txnumAt_facts hb ht
  have f := inv.base.files
  rw [fsTxHash_of_files f (by rw [hf, f.stK, List.take_length]; exact hn), hbis, hid]

/-- **C02 (tx-number order is (height, position) order).**  In every state of the invariant, the
height `fs_tx_hash` reports is non-decreasing in the tx number (for tx numbers of the chain). -/
theorem C02run_height_mono {cfg : Cfg} {chain : List Block} {K : List Nat} {s : Sys}
    (inv : FullInv' cfg chain K s) {n n' : Nat} (hnn : n ≤ n') (hn' : n' < (allTxids chain).length) :
    (fsTxHash s n).2 ≤ (fsTxHash s n').2 := by
  rw [fsTxHash_eq, fsTxHash_eq, inv.base.files.txCounts]
  show bisectRight (cumCounts chain) n ≤ bisectRight (cumCounts chain) n'
  -- `n ≤ n'` lies in the first `bisect n' + 1` blocks, as `n'` does
  have hj := bisect_lt_length chain hn'
  exact Nat.le_of_lt_succ ((bisect_lt_iff chain hj).mpr
    (Nat.lt_of_le_of_lt hnn ((bisect_lt_iff chain hj).mp (Nat.lt_succ_self _))))

/-- non-vacuity on the run with the prefix collision (`C01audit.lean`), fully flushed after four
    operations: chain `[colB0, colB1]`; tx numbers 0, 1 (block 0) and 2 (block 1) -/
example : ∃ s, FullInv' colCfg [colB0, colB1] [1, 0] s ∧ s.m.dbst.height = s.m.st.height ∧
    fsTxHash s (txnumAt [colB0, colB1] 0 1) = (some colB, 0) ∧
    fsTxHash s (txnumAt [colB0, colB1] 1 0) = (some 12, 1) ∧ txnumAt [colB0, colB1] 1 0 = 2 := by
  obtain ⟨s, -, ti⟩ := trackInv_run_prefix colOps (trackInv_init colCfg) colOps_valid 4
  have inv : FullInv' colCfg [colB0, colB1] [1, 0] s := ti.inv
  have hf := ti.flushed (by decide +kernel)
  exact ⟨s, inv, hf, C02run_txnum inv hf (h := 0) (i := 1) rfl rfl,
    C02run_txnum inv hf (h := 1) (i := 0) rfl rfl, by decide +kernel⟩

end EV.Index
