import EV.Props.C11all
import EV.Props.C12bind

/-!
# C11 (binding) — what a verifying proof tells the client, under concurrency

`C11_tx_fold` and `C11_reply_safe` show that the proof handed out verifies.  `C11_tx_safe` composed
with `EV.Merkle.bar_length` and `EV.Merkle.bar_binds` (`EV/Props/C12bind.lean`, explicit hypothesis
`Collisionless H`, not claimed for SHA-256) makes the answer of
`transaction.id_from_pos(height, pos, merkle=True)` also *binding*: for the block `b` that was at
the requested height at some moment of the request, no other transaction id and no other branch of
the same length verifies at `pos` against `b`'s merkle root — for every run of the model (any number
of concurrent requests, reorganisations, evictions).  `C11_header_binds` is the same composition
over `C11_header_safe` for the header proofs of `EV.HeaderCache`.
-/
namespace EV.TxCache
open EV.Merkle

variable {Node : Type} [DecidableEq Node] (H : Node → Node → Node)

/-- **C11 (the by-position answer binds).**  Collision-free `H`: any transaction id `y` with any
branch of the answer's length that `root_from_proof` folds at `pos` to the merkle root of `b.txs` is
the `tx` returned, with exactly the branch handed out. -/
theorem C11_tx_binds (hinj : Collisionless H) (thr : Nat) (s : St Node) (evs : List (Ev Node))
    (h0 : Init H s) :
    ∀ r ∈ (run H (Cfg.fixed thr) s evs).reqs, ∀ br tx, r.pc = .done (.branchPos br tx) →
      ∃ pos, r.kind = .brPos pos ∧ ∃ S ∈ r.seen, ∃ b, S[r.height]? = some b ∧ ∃ hne,
        ∀ (y : Node) (nodes : List Node), nodes.length = br.length →
          rootFromProof H y nodes pos = .ok (merkleRoot H b.txs hne) →
          y = tx ∧ nodes.map .node = br := by
  intro r hr br tx hpc
  obtain ⟨_, s2, _, _⟩ := C11_tx_safe H thr s evs h0 r hr
  obtain ⟨pos, hk, S, hS, b, hb, htx, hne, hbar⟩ := s2 br tx hpc
  obtain ⟨hlt, hget⟩ := List.getElem?_eq_some_iff.mp htx
  have hlen := bar_length H b.txs pos false br _ hbar
  refine ⟨pos, hk, S, hS, b, hb, hne, ?_⟩
  intro y nodes hl hv
  obtain ⟨hy, hb2⟩ := bar_binds H hinj b.txs pos hlt y nodes (hl.trans hlen) hv
  exact ⟨hy.trans hget, (Prod.mk.inj (Except.ok.inj (hbar.symm.trans hb2))).1.symm⟩

end EV.TxCache

namespace EV.HeaderCache
open EV.Merkle

variable {Node : Type} (H : Node → Node → Node)

/-- **C11 (the header proof binds).**  Collision-free `H`: in every run of the header-cache model
(any number of concurrent requests, back-outs cut in two, reads cut in three) an answered
`(branch, root)` for `(height, cp_height)` is binding — for the chain `S` that was visible at some
moment of the request, `root` is the merkle root of its first `cp+1` block hashes, and any block
hash `y` with any branch of the same length that `root_from_proof` folds to `root` at position
`height` is `S[height]`, with exactly the branch handed out. -/
theorem C11_header_binds [DecidableEq Node] (hinj : Collisionless H) (s : St Node) (evs : List (Ev Node))
    (h0 : Init H s) :
    ∀ r ∈ (run H Cfg.fixed s evs).reqs, ∀ br root, r.pc = .done (.answer br root) →
      ∃ S ∈ r.seen, r.length ≤ S.length ∧ ∃ (hidx : r.index < (S.take r.length).length),
        ∀ (y : Node) (nodes : List Node), nodes.length = br.length →
          rootFromProof H y nodes r.index = .ok root →
          y = (S.take r.length)[r.index] ∧ nodes.map .node = br := by
  intro r hr br root hpc
  obtain ⟨S, hS, hlen, hbar, hne, hroot⟩ := C11_header_safe H s evs h0 r hr br root hpc
  obtain ⟨hidx, -⟩ := bar_ok H hbar
  have hl := bar_length H (S.take r.length) r.index false br _ hbar
  refine ⟨S, hS, hlen, hidx, ?_⟩
  intro y nodes hnl hv
  subst hroot
  obtain ⟨hy, hb2⟩ := bar_binds H hinj (S.take r.length) r.index hidx y nodes (hnl.trans hl) hv
  exact ⟨hy, (Prod.mk.inj (Except.ok.inj (hbar.symm.trans hb2))).1.symm⟩

end EV.HeaderCache
