import EV.Proofs.CrashBackup
import EV.Proofs.CrashRedo

/-!
# C05 — A crash in the middle of undoing blocks is recoverable

"If the process dies at any instant while a reorganisation is being backed out (between the history
rollback and the UTXO rollback of any block, or between blocks), then after restart and catching up
with the daemon the index again equals a fresh index of the daemon's chain, whichever chain the
daemon is on by then."

Model: `backupFull cfg s b` = `BlockProcessor.backup_block(b)` + `DB.flush_backup`; its persistent
effects are exactly two LevelDB batches, in this order: `History.backup`'s batch (truncated rows +
history state) and the UTXO batch (deleted / restored rows + UTXO state).  `cuts` of that list:
nothing / history batch only / both.  `recover` = `open_for_sync()` in a fresh process.

**The property as stated is false of the code (finding F8, recorded, not repaired).**
* `C05_cut_harmless` — proved: the cuts before the history batch and after the UTXO batch are the
  clean pre / post stores (so are cuts *between* blocks); only the cut between the two batches is
  new.
* `C05_counterexample_oldbranch` — machine-checked: for that cut, the restarted index reports
  height N with all UTXOs of block N but with the touched histories lacking block N's
  transactions; flushing restores nothing; when the daemon is (back) on the old branch — or a
  forced reorg found the chain unchanged — the next block is indexed on top and the history stays
  wrong for good.
* `C05_newbranch_partial` — proved (the continuation "the daemon's chain does not contain block
  N"): backing out block N again on the restarted system succeeds, performs the same UTXO batch,
  and leaves every history exactly as the uninterrupted back-out leaves it (`History.backup` is
  idempotent on already-truncated rows); the two flush counters and undo rows below the window are
  all that can differ.
Tie to the code: suite `crash`, entry `run_backup` (every cut of every `flush_backup` of generated
reorganisations × continuations new branch / old branch extended / unchanged chain, on the real
code); the known-finding predicate of the check is exactly the hypothesis excluded here: cut
between the two batches ∧ continuation ∈ {old branch, unchanged}.
-/
namespace EV.Index

/-- **C05 (harmless cuts).**  The effect list of a back-out is `[e1, e2]` with `e1` the history
batch and `e2` the UTXO batch, both atomic; its cuts are `[]`, `[e1]`, `[e1, e2]`.  Every cut other
than `[e1]` leaves the store the back-out started from, or the store of the complete back-out. -/
theorem C05_cut_harmless {cfg : Cfg} {s : Sys} {b : Block} {es : List Effect} {s' : Sys}
    (h : backupFull cfg s b = .ok (es, s')) :
    ∃ e1 e2, es = [e1, e2] ∧ e1.isHistBatch = true ∧ e2.isUtxoBatch = true ∧
      cuts es = [[], [e1], [e1, e2]] ∧
      ∀ c ∈ cuts es, c ≠ [e1] → applyEffects s.p c = s.p ∨ applyEffects s.p c = s'.p := by
  obtain ⟨e1, e2, rfl, h1, h2, hp⟩ := backupFull_effects h
  have hc := cuts_atomic2 e1 e2 (tornPrefixes_of_histBatch h1) (tornPrefixes_of_utxoBatch h2)
  refine ⟨e1, e2, rfl, h1, h2, hc, ?_⟩
  intro c hcm hne
  rw [hc] at hcm
  simp only [List.mem_cons, List.not_mem_nil, or_false] at hcm
  rcases hcm with rfl | rfl | rfl
  · exact Or.inl rfl
  · exact (hne rfl).elim
  · exact Or.inr hp.symm

/-- **F8 (C05 is false of the code): the cut between the two batches, old branch / unchanged chain.**
Chain: blocks 0 and 1, each a coinbase paying script hash 7 (`cxB0`, `cxB1`), indexed and fully
flushed (`cxS`: the real sync reaches it — first two conjuncts).  Block 1 is backed out; the
process dies after `History.backup`'s batch `cxE1` and before the UTXO batch `cxE2`.  The restart
(`cxR`) reports height 1 with both UTXOs, but the history of 7 is `[0]` where the chain says
`[0, 1]`; `flush_dbs` has nothing to flush (so nothing ever rewrites the row); and once block 2
arrives on top of block 1 the index is at height 2 with history `[0, 2]` instead of `[0, 1, 2]`. -/
theorem C05_counterexample_oldbranch :
    -- the state is reached by the real sync, and the back-out has exactly these two effects
    ((okSys (advance cxCfg 1 {} cxB0)).bind (fun s => okSys (advance cxCfg 1 s cxB1))) = some cxS2 ∧
    flush cxS2 true = .ok cxS ∧
    (match backupFull cxCfg cxS cxB1 with | .ok (es, _) => some es | .error _ => none) = some [cxE1, cxE2] ∧
    [cxE1] ∈ cuts [cxE1, cxE2] ∧
    -- restart after the cut between the batches
    (recover cxCfg (applyEffects cxS.p [cxE1])).map (·.2) = some cxR ∧
    cxR.m.dbst.height = 1 ∧
    allUtxos cxR 7 = some [⟨0, 0, 2^224, 0, 5⟩, ⟨1, 0, 2^225, 1, 6⟩] ∧
    getTxnums cxR.p 7 none = [0] ∧ limitedHistory cxR 7 none = some [(2^224, 0)] ∧
    EV.Spec.historyOf (EV.Spec.specChain 0 [cxB0, cxB1]) 7 = [0, 1] ∧
    -- nothing to flush: the unchanged-chain continuation ends here
    flushDbs cxR true = some ([], cxR.m) ∧
    -- old branch extended by block 2
    (((okSys (advance cxCfg 2 cxR cxB2)).bind (fun s => okSys (flush s true))).map
        (fun s => (s.m.dbst.height, getTxnums s.p 7 none))) = some (2, [0, 2]) ∧
    EV.Spec.historyOf (EV.Spec.specChain 0 [cxB0, cxB1, cxB2]) 7 = [0, 1, 2] :=
  ⟨cx_advance, cx_flush, cx_backup, by simp [cuts, tornPrefixes, cxE1], cx_recover, rfl, by decide,
   by decide +kernel, by decide +kernel, by decide, rfl, cx_old, by decide⟩

/-- the same cut with the daemon on a branch without block 1: backing it out again on the restarted
    system ends in the very store the uninterrupted back-out produces (instance of the theorem below) -/
theorem C05_newbranch_example :
    (match backupFull cxCfg cxR cxB1, backupFull cxCfg cxS cxB1 with
      | .ok (_, a), .ok (_, b) => decide (a.p = b.p)
      | _, _ => false) = true := by
  decide +kernel

/-- **C05 (new branch; partial).**  Full statement: for every cut of every `flush_backup` and every
continuation, the index after restart and catch-up equals a fresh index of the daemon's chain —
false by `C05_counterexample_oldbranch`.  Proved part, for the cut `[e1]` between the two batches
when block N is backed out again after the restart (what the sync loop does when the daemon's chain
does not contain block N): from a fully flushed state `s` (`FlushedB`, `EV/Proofs/CrashRedo.lean`) with a retained undo
row, if the uninterrupted back-out succeeds with effects `[e1, e2]` and result `s'`, then the restart
on `applyEffects s.p [e1]` succeeds, the repeated back-out on the restarted system `r` succeeds
with effects `[e1', e2]` — *the same UTXO batch* — and its result `s2` has the same `h`/`u` tables,
the same UTXO state record, the same files, the same in-memory chain state and tx counts, and, for
every script hash, the same history as `s'`; its undo table is that of `s'` pruned by the restart.
What may differ: the two flush counters, `touched`, undo rows below the window. -/
theorem C05_newbranch_partial {cfg : Cfg} {s : Sys} {b : Block} {e1 e2 : Effect} {s' : Sys}
    (hfl : FlushedB cfg s) (h : backupFull cfg s b = .ok ([e1, e2], s')) :
    ∃ er r e1' s2, recover cfg (applyEffects s.p [e1]) = some (er, r) ∧
      backupFull cfg r b = .ok ([e1', e2], s2) ∧
      s2.p.h = s'.p.h ∧ s2.p.u = s'.p.u ∧ s2.p.ustate = s'.p.ustate ∧
      s2.p.headers = s'.p.headers ∧ s2.p.txcounts = s'.p.txcounts ∧ s2.p.hashes = s'.p.hashes ∧
      s2.p.undo = undoAfterOpen s'.p.undo (s.m.st.height - cfg.reorgLimit + 1) ∧
      s2.m.st = s'.m.st ∧ s2.m.dbst = s'.m.dbst ∧ s2.m.txCounts = s'.m.txCounts ∧
      (∀ hx, getTxnums s2.p hx none = getTxnums s'.p hx none) :=
  redo_backup hfl h

/-! non-vacuity of `FlushedB`: the state of the counterexample -/
example : FlushedB cxCfg cxS := flushed_cxS

end EV.Index
