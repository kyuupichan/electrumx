import EV.Proofs.MempoolObs
import EV.Proofs.MempoolFinite

/-!
# C08 — a synchronised mempool view is exact

"Whenever a mempool refresh completes while the daemon's mempool and height were stable and the
index was at that height, then for every script hash the unconfirmed balance delta, the list of
unconfirmed transactions with their fee and has-unconfirmed-inputs flag, the unconfirmed UTXOs and
the set of potential spends equal what the daemon's mempool and the confirmed UTXO set imply; and
the set of script hashes reported as touched since the previous refresh includes every script hash
that gained or lost an unconfirmed transaction (a mere flip of the has-unconfirmed-inputs flag of a
transaction that stays, caused by its parent confirming, is re-examined by sessions on the height
change instead)."

Model: `EV/Model/Mempool.lean` (literal model of `mempool.py`), tied to the real class on every run
by the `mempool` suite.  `processMempool` is `_process_mempool` with the source's chunk size
(`EV.Gen.mempoolChunk`, observed from the running code); every theorem below is proved for *every*
positive chunk size and instantiated.

Quantifiers: every tracker state satisfying `MpInv` (any earlier history, races included), every
listing `M` (a duplicate-free list in the iteration order of `all_hashes.difference(txs)`), every
completion order `order` of the chunk tasks (a permutation of the chunk indices), every world `W`
(function from ids to transactions: txid injectivity), every confirmed UTXO map `U`.  No bound on
the number of transactions, chain depth, outputs per script hash or number of chunks.

`EnvQuiet W M U fetch lookup` (`EV/Proofs/MempoolExact.lean`) spells "stable and synchronised":
the listing is a set; every listed transaction is delivered and is the transaction with that id;
transactions only name existing outputs (`Valid`); `lookup_utxos` answers from `U`, which records
true outputs; `M` is closed (every non-generation input is funded by `M` or `U`), acyclic, and
conflict-free (no output spent by two listed transactions).  Conflict-freedom is needed: see
`C08_counterexample_conflict`.
-/
namespace EV.Mempool

theorem mempoolChunk_pos : 0 < EV.Gen.mempoolChunk := by decide +kernel

/-- **C08 (exactness).**  From any `MpInv` state, a refresh of a quiet environment returns, drops
nothing, and leaves exactly the specification pool: every listed transaction with its true input
pairs and `fee = max 0 (Σin − Σout)`, nothing else — in whatever order the chunk tasks complete.
(`MpInv` of the result makes `hashXs` the exact inverse index of that pool.) -/
theorem C08_exact (W : Hash → Option RawTx) (M : List Hash) (U : List (Prevout × Pair))
    (fetch : Hash → Option RawTx) (lookup : Nat → List Prevout → List (Option Pair))
    (st : St) (touched : List HashX) (h : Int) (order : List Nat)
    (hinv : MpInv W st) (henv : EnvQuiet W M U fetch lookup)
    (hord : order.Perm (List.range (numChunks EV.Gen.mempoolChunk st M))) :
    ∃ r, processMempool st M touched h h fetch lookup order = .ok r ∧ r.dropped = [] ∧
      r.st.txs.Perm (specPool W M U) ∧ MpInv W r.st := by
  obtain ⟨r, h1, h2, h3, h4⟩ := processMempoolN_quiet henv mempoolChunk_pos hinv touched h hord
  exact ⟨r, h1, h2, h4, h3⟩

/-- **C08 (the four observables).**  After such a refresh, for every script hash `x`:
`balance_delta` *equals* the specification's balance; `transaction_summaries` (hash, fee,
has-unconfirmed-inputs), `unordered_UTXOs` and `potential_spends` return — without raising — the
specification's lists up to order (they are built by iterating a set). -/
theorem C08_observables (W : Hash → Option RawTx) (M : List Hash) (U : List (Prevout × Pair))
    (fetch : Hash → Option RawTx) (lookup : Nat → List Prevout → List (Option Pair))
    (st : St) (touched : List HashX) (h : Int) (order : List Nat)
    (hinv : MpInv W st) (henv : EnvQuiet W M U fetch lookup)
    (hord : order.Perm (List.range (numChunks EV.Gen.mempoolChunk st M))) (x : HashX) :
    ∃ r, processMempool st M touched h h fetch lookup order = .ok r ∧
      balanceDelta r.st x = .ok (specBalance (specPool W M U) x) ∧
      (∃ l, transactionSummaries r.st x = .ok l ∧ l.Perm (specSummaries (specPool W M U) x)) ∧
      (∃ l, unorderedUTXOs r.st x = .ok l ∧ l.Perm (specUTXOs (specPool W M U) x)) ∧
      (∃ l, potentialSpends r.st x = .ok l ∧ l.Perm (specSpends (specPool W M U) x)) := by
  obtain ⟨r, h1, _, h3, h4⟩ := C08_exact W M U fetch lookup st touched h order hinv henv hord
  refine ⟨r, h1, ?_, ?_, ?_, ?_⟩
  · rw [balanceDelta_spec h4, specBalance_perm h3]
  · obtain ⟨l, g1, g2⟩ := transactionSummaries_spec h4 x
    exact ⟨l, g1, g2.trans (specSummaries_perm h3 x)⟩
  · obtain ⟨l, g1, g2⟩ := unorderedUTXOs_spec h4 x
    exact ⟨l, g1, g2.trans (specUTXOs_perm h3 x)⟩
  · obtain ⟨l, g1, g2⟩ := potentialSpends_spec h4 x
    exact ⟨l, g1, g2.trans (specSpends_perm h3 x)⟩

/-- **C08 (the observables in any `MpInv` state).**  Not only after a quiet refresh: whenever the
invariant holds the four methods never raise and equal the specification read off the *stored*
transaction set. -/
theorem C08_observables_inv (W : Hash → Option RawTx) (st : St) (hinv : MpInv W st) (x : HashX) :
    balanceDelta st x = .ok (specBalance st.txs x) ∧
    (∃ l, transactionSummaries st x = .ok l ∧ l.Perm (specSummaries st.txs x)) ∧
    (∃ l, unorderedUTXOs st x = .ok l ∧ l.Perm (specUTXOs st.txs x)) ∧
    (∃ l, potentialSpends st x = .ok l ∧ l.Perm (specSpends st.txs x)) :=
  ⟨balanceDelta_spec hinv x, transactionSummaries_spec hinv x, unorderedUTXOs_spec hinv x,
   potentialSpends_spec hinv x⟩

/-- **C08 (touched).**  For *every* sound environment (quiet or racing), every listing and order:
the refresh returns, and its `touched` contains what was there before, every hashX of every
transaction that went and of every transaction that came; a transaction that stays is kept as the
very same record (so its script hashes need not be reported). -/
theorem C08_touched (W : Hash → Option RawTx) (fetch : Hash → Option RawTx)
    (lookup : Nat → List Prevout → List (Option Pair)) (st : St) (allHashes : List Hash)
    (touched : List HashX) (h : Int) (order : List Nat)
    (hinv : MpInv W st) (henv : EnvSound W fetch lookup) :
    ∃ r, processMempool st allHashes touched h h fetch lookup order = .ok r ∧
      (∀ x ∈ touched, x ∈ r.touched) ∧
      (∀ e ∈ st.txs, e.1 ∉ r.st.txs.map (·.1) → ∀ x ∈ txHashXs e.2, x ∈ r.touched) ∧
      (∀ e ∈ r.st.txs, e.1 ∉ st.txs.map (·.1) → ∀ x ∈ txHashXs e.2, x ∈ r.touched) ∧
      (∀ e ∈ st.txs, e.1 ∈ r.st.txs.map (·.1) → e ∈ r.st.txs) := by
  obtain ⟨r, h1, F⟩ := processMempoolN_sound (henv.soundOn allHashes) EV.Gen.mempoolChunk hinv
    touched h order
  refine ⟨r, h1, F.touchedMono, F.lost, F.gained, ?_⟩
  intro e he hk
  obtain ⟨e', he', hk'⟩ := List.mem_map.mp hk
  exact F.stays e he (hk' ▸ F.listed e' he')

/-- **C08 (touched reaches the sessions).**  One iteration of `_refresh_hashes` that hands a view
over passes `on_mempool` the accumulated set: what was pending from failed rounds plus everything
this round lost or gained; a round that hands nothing over leaves the pending set as it was. -/
theorem C08_touched_handed_over (W : Hash → Option RawTx) (l : Loop) (r : Round)
    (hinv : MpInv W l.st) (henv : EnvSound W r.fetch r.lookup) :
    ∃ l', refreshRound EV.Gen.mempoolChunk l r = .ok l' ∧
      (l' = l ∨ ∃ t, l'.emits = l.emits ++ [(t, r.cachedHeight)] ∧ l'.touched = [] ∧
        (∀ x ∈ l.touched, x ∈ t) ∧
        (∀ e ∈ l.st.txs, e.1 ∉ l'.st.txs.map (·.1) → ∀ x ∈ txHashXs e.2, x ∈ t) ∧
        (∀ e ∈ l'.st.txs, e.1 ∉ l.st.txs.map (·.1) → ∀ x ∈ txHashXs e.2, x ∈ t)) := by
  obtain ⟨l', h1, h2⟩ := refreshRound_sound EV.Gen.mempoolChunk l r hinv henv
  refine ⟨l', h1, h2.imp id fun ⟨p, F, h3, _⟩ => ?_⟩
  rw [h3]
  exact ⟨p.touched, rfl, rfl, F.touchedMono, F.lost, F.gained⟩

namespace Example

/-- 5 is confirmed (outputs to script hash 6).  10 ← 11 ← 12 is an unconfirmed chain: 10 spends
    the confirmed output (5,0) and pays script hash 7 twice; 11 also has a generation-like input;
    12 spends outputs of both.  13 spends (5,1) and pays out more than it takes in. -/
def tb : Table :=
  [(5, { inputs := [(0, 4294967295)], outs := [(6, 100), (6, 30)], size := 60 }),
   (10, { inputs := [(5, 0)], outs := [(7, 50), (7, 20), (8, 25)], size := 100 }),
   (11, { inputs := [(0, 4294967295), (10, 0)], outs := [(9, 40)], size := 90 }),
   (12, { inputs := [(11, 0), (10, 2)], outs := [(7, 60)], size := 80 }),
   (13, { inputs := [(5, 1)], outs := [(8, 500)], size := 70 })]

def U : List (Prevout × Pair) := [((5, 0), (6, 100)), ((5, 1), (6, 30))]

/-- children listed before their parents -/
def M : List Hash := [12, 13, 11, 10]

theorem quiet : EnvQuiet (dget tb) M U (dget tb) (lookupFrom U) :=
  envQuiet_of_table (rank := id) (by decide +kernel)

theorem order_ok : [0].Perm (List.range (numChunks EV.Gen.mempoolChunk {} M)) := by
  have : numChunks EV.Gen.mempoolChunk {} M = 1 := by decide +kernel
  rw [this]; exact List.Perm.refl _

/-- all hypotheses of `C08_exact` hold of this world (starting from the empty tracker) … -/
example : ∃ r, processMempool {} M [] 100 100 (dget tb) (lookupFrom U) [0] = .ok r ∧
    r.dropped = [] ∧ r.st.txs.Perm (specPool (dget tb) M U) ∧ MpInv (dget tb) r.st :=
  C08_exact _ _ _ _ _ _ _ _ _ (MpInv_empty _) quiet order_ok

/-- … and the run is not trivial: 12 and 11 are deferred (twice resp. once) before the fix-point
    loop accepts them; fees 0 (clipped), 5, 10, 5 -/
example : (resultOf (processMempool {} M [] 100 100 (dget tb) (lookupFrom U) [0])).map
      (fun r => (r.st.txs.map (fun e => (e.1, e.2.fee)), r.dropped)) =
    some ([(13, 0), (10, 5), (11, 10), (12, 5)], []) := by decide +kernel

example : (resultOf (processMempool {} M [] 100 100 (dget tb) (lookupFrom U) [0])).map
      (fun r => okOf (balanceDelta r.st 7)) = some (some 80) := by decide +kernel

example : (resultOf (processMempool {} M [] 100 100 (dget tb) (lookupFrom U) [0])).map
      (fun r => okOf (transactionSummaries r.st 7)) =
    some (some [(10, 5, false), (11, 10, true), (12, 5, true)]) := by decide +kernel

example : (resultOf (processMempool {} M [] 100 100 (dget tb) (lookupFrom U) [0])).map
      (fun r => okOf (unorderedUTXOs r.st 7)) =
    some (some [(10, 0, 50), (10, 1, 20), (12, 0, 60)]) := by decide +kernel

/-- the confirmed UTXO set once 10 has confirmed -/
def U' : List (Prevout × Pair) :=
  [((5, 1), (6, 30)), ((10, 0), (7, 50)), ((10, 1), (7, 20)), ((10, 2), (8, 25))]

theorem quiet' : EnvQuiet (dget tb) [11] U' (dget tb) (lookupFrom U') :=
  envQuiet_of_table (rank := id) (by decide +kernel)

/-- the exclusion stated in the property: the parent 10 confirms, the child 11 stays; the flag of
    11 flips from `true` to `false`, and script hash 9 (touched only by 11) is *not* reported —
    `touched` is `[6, 7, 8]`, the script hashes of the transaction that went. -/
def twoRefreshes : Option (ProcResult × ProcResult) :=
  (resultOf (processMempool {} [10, 11] [] 100 100 (dget tb) (lookupFrom U) [0])).bind fun r1 =>
    (resultOf (processMempool r1.st [11] [] 101 101 (dget tb) (lookupFrom U') [])).map fun r2 =>
      (r1, r2)

example : twoRefreshes.map (fun p => okOf (transactionSummaries p.1.st 9)) =
    some (some [(11, 10, true)]) := by decide +kernel
example : twoRefreshes.map (fun p => okOf (transactionSummaries p.2.st 9)) =
    some (some [(11, 10, false)]) := by decide +kernel
example : twoRefreshes.map (fun p => p.2.touched) = some [6, 7, 8] := by decide +kernel

end Example

namespace Conflict

/-- 20 and 21 both spend the confirmed output (5,0); 21 also spends an output of 22, which is
    listed after it.  21 is deferred, 20 is accepted and its prevouts leave the returned utxo map,
    so the fix-point loop can no longer fund 21: it is dropped. -/
def tb : Table :=
  [(5, { inputs := [(0, 4294967295)], outs := [(6, 100), (6, 30)], size := 60 }),
   (20, { inputs := [(5, 0)], outs := [(7, 50)], size := 100 }),
   (21, { inputs := [(5, 0), (22, 0)], outs := [(9, 40)], size := 90 }),
   (22, { inputs := [(5, 1)], outs := [(7, 10)], size := 80 })]

def M : List Hash := [20, 21, 22]

def rank (h : Hash) : Nat := if h = 21 then 100 else h

/-- every clause of `EnvQuiet` except conflict-freedom holds, and a listed transaction is dropped -/
theorem C08_counterexample_conflict :
    (decide M.Nodup && M.all (fun h => (dget tb h).isSome) && validB tb &&
      Example.U.all (fun b => decide (truePair (dget tb) b.1 = some b.2)) &&
      closedB tb M Example.U && acyclicB tb M rank) = true ∧
    conflictFreeB tb M = false ∧
    (resultOf (processMempool {} M [] 100 100 (dget tb) (lookupFrom Example.U) [0])).map
      (fun r => (r.st.txs.map (·.1), r.dropped)) = some ([20, 22], [21]) := by decide +kernel

end Conflict

end EV.Mempool
