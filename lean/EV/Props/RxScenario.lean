import EV.Model.SyncLoopT
import EV.Model.ShutdownTask

/-!
# The reorganisation scenario the index-run families share

One small chain with a fork, and the same story told at the three levels at which the property modules
speak of it: as blocks (`rxB0 … rxB2`; the operation list `rxOps` over them stays with its facts in
`EV/Props/C03run.lean`), as events of the sync loop (`cxEvs`, examined in `EV/Props/C07carrier.lean`) and as
events of the block-processor task with a shutdown request (`exMidBackup`, examined in
`EV/Props/C06task.lean`).  Definitions only: a property module that needs a witness imports this file and
not the property module of another family.

Reorg limit 2.  `rxB0` creates two outputs (script hashes 1 and 4); `rxB1` spends the first (for script
hash 2); the fork block `rxB1'` (same parent) spends the second (for script hash 3); `rxB2` on top of
`rxB1'` spends an output of `rxB1'` and the first output of `rxB0` (an output that the abandoned branch had
destroyed).
-/
namespace EV.Index

def rxCfg : Cfg := { act := 1, reorgLimit := 2 }
def rxGen : TxIn := ⟨0, 4294967295⟩
def rxB0 : Block := ⟨7, 0, 100, 80, [⟨11, [rxGen], [⟨50, 1, .normal⟩, ⟨60, 4, .normal⟩]⟩]⟩
def rxB1 : Block := ⟨8, 7, 101, 81, [⟨12, [⟨11, 0⟩], [⟨50, 2, .normal⟩]⟩]⟩
def rxB1' : Block := ⟨9, 7, 102, 82, [⟨13, [⟨11, 1⟩], [⟨60, 3, .normal⟩]⟩]⟩
def rxB2 : Block := ⟨10, 9, 103, 83, [⟨14, [⟨13, 0⟩, ⟨11, 0⟩], [⟨110, 1, .normal⟩]⟩]⟩

-- what the examples observe of a run's result
def okErr (r : Except Err Sys) : Option Err := match r with | .error e => some e | .ok _ => none
def okSysD (r : Except Err Sys) : Sys := match r with | .error _ => {} | .ok s => s

end EV.Index

namespace EV.SyncLoopT
open EV.Index EV.SyncLoop

/-- initial sync of `rxB0` (the set is emptied at the end of the batch), first `on_caught_up`,
`rxB1` with a history-only flush (the set is kept: caught up), told at height 1, a block that does
not connect (with a full flush requested), a reorganisation backing `rxB1` out, the two blocks of
the other branch, told at height 2 -/
def cxEvs : List Ev :=
  [.block rxB0 0 none, .batchEnd, .caughtUp,
   .block rxB1 1 (some false), .batchEnd, .caughtUp,
   .stale (some true), .batchEnd, .reorg [rxB1], .block rxB1' 1 none, .block rxB2 2 none, .batchEnd, .caughtUp]

end EV.SyncLoopT

namespace EV.ShutdownTask
open EV.Index

-- a component of a run's result that has decidable equality (`St` derives none), for the examples
def outerOf (r : Option St) : Option Outer := r.map (·.outer)

/-- both blocks indexed, caught up, a forced reorganisation of one block; the
request arrives after the back-out section of `rxB1` has been created, before its inner task has
even taken the lock.  The back-out completes, the handler's flush (a no-op on the store) follows. -/
def exMidBackup : List Ev :=
  [.begin, .fetched [rxB0, rxB1], .nextBlock, .innerStart, .jobEnd 1, .deliver, .resume,
   .nextBlock, .innerStart, .jobEnd 1, .deliver, .resume, .endBatch,
   .fetchedNone, .innerStart, .jobEnd 0, .deliver, .resume, .caughtUpDone, .forceReorg 1, .wake,
   .innerStart, .jobEnd 0, .deliver, .resume, .reorgRange [rxB1], .nextBackup, .cancel,
   .innerStart, .jobEnd 0, .deliver, .hStart, .jobEnd 0, .deliver]

end EV.ShutdownTask
