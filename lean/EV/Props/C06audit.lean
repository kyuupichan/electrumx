import EV.Props.C06task
import EV.Proofs.IndexEval
import EV.Props.C06

/-!
# C06 — the task started on an EXISTING database (every restart)

Every theorem of `EV/Props/C06task.lean` is about `run cfg {} evs`: the processing task started on the
EMPTY index.  A server is started on an existing database every time but the first.  Here the same
theorems are stated for `run cfg { sys := s0 } evs` where `s0` is ANY index state satisfying the
whole-run invariant (`TrackInv cfg t0 s0`: `FullInv'` for the chain `t0.chain` with retained heights
`t0.kept`, `DB.state.height + 1 = t0.dbLen`) — in particular the state `open_for_sync` (`reopen`)
produces from the database any earlier valid run left behind (`restart_state` below).

The chain is determined by the bookkeeping of the start state and the ghost log (`survivorsFrom`).  The
environment hypothesis is `EnvOk cfg t0 (att st.log)`: as in `C06task.lean`, relative to the chain the
task starts with.

Tie to the code: suite `shutdown` builds a fresh database per run (it has no stop → restart on the same
directory → cancel phase); that `open_for_sync` is the model's `reopen` is C03/C04's tie (suites `index`,
`crash`).
-/
namespace EV.ShutdownTask
open EV.Index

/-- the surviving chain of a log, for a task started on an index of `t0.chain` of which `t0.dbLen`
    blocks are committed -/
def survivorsFrom (t0 : Track) (log : List (Op × Bool)) : List Block :=
  chainOf2 t0.chain t0.dbLen (att log)

/-- **the start state of a restart**: `open_for_sync` on the database left by ANY valid run succeeds
and gives a state satisfying the run invariant (bookkeeping: the run's, after `reopen`) -/
theorem restart_state (cfg : Cfg) (ops0 : List IOp2) (hv : ValidOps2 cfg {} ops0) :
    ∃ s0, runOps2 cfg {} (ops0 ++ [.reopen]) = .ok s0 ∧
      TrackInv cfg (Track.run cfg {} (ops0 ++ [.reopen])) s0 :=
  trackInv_run _ (trackInv_init cfg) ((validOps2_append cfg {} ops0 [.reopen]).mpr ⟨hv, trivial, trivial⟩)

/-- **C06 (a), from any start state — the jobs are serialised.** -/
theorem C06task_sequential_from (cfg : Cfg) (s0 : Sys) (evs : List Ev) (st : St)
    (h : run cfg { sys := s0 } evs = some st) :
    runOps2 cfg s0 (okOps st.log) = .ok st.sys :=
  (inv_run h).seq

/-- **C06, from any start state — the task cannot end while a job is in flight.** -/
theorem C06task_drained_from (cfg : Cfg) (s0 : Sys) (evs : List Ev) (st : St)
    (h : run cfg { sys := s0 } evs = some st) (hf : st.finished = true) :
    st.inner = none ∧ st.lock = false :=
  drained (inv_run h).shape hf

/-- **C06 (a), from any start state — `ok` is false only if a job has raised.** -/
theorem C06task_ok_from (cfg : Cfg) (s0 : Sys) (evs : List Ev) (st : St)
    (h : run cfg { sys := s0 } evs = some st) (hok : st.ok = false) : ∃ e ∈ st.log, e.2 = false :=
  (inv_run h).err.ok hok

/-- **C06 (a), from any invariant start state — the run is a valid sequential run.** -/
theorem C06task_valid_from (cfg : Cfg) {t0 : Track} {s0 : Sys} (ti0 : TrackInv cfg t0 s0)
    (evs : List Ev) (st : St) (h : run cfg { sys := s0 } evs = some st)
    (henv : EnvOk cfg t0 (att st.log)) :
    ValidOps2 cfg t0 (att st.log) ∧ runOps2 cfg s0 (att st.log) = .ok st.sys ∧
      (∀ e ∈ st.log, e.2 = true) ∧ st.ok = true ∧ (st.outer = .died → st.log = []) :=
  valid_of_good (good_run ti0 h henv)

/-- **C06 (a), from any start state — the shutdown flush is the last operation.** -/
theorem C06task_final_flush_from (cfg : Cfg) (s0 : Sys) (evs : List Ev) (st : St)
    (h : run cfg { sys := s0 } evs = some st) (hr : st.outer = .returned) :
    ∃ done, Rem st.innerAtCancel done ∧
      ((att st.log = att st.logAtCancel ++ done ++ [.flush true] ∧
          ∃ pre, st.log = pre ++ [(.flush true, true)]) ∨
       (st.ok = false ∧ att st.log = att st.logAtCancel ++ done)) :=
  (inv_run h).after.returned hr

theorem C06task_final_flush_valid_from (cfg : Cfg) {t0 : Track} {s0 : Sys} (ti0 : TrackInv cfg t0 s0)
    (evs : List Ev) (st : St) (h : run cfg { sys := s0 } evs = some st)
    (henv : EnvOk cfg t0 (att st.log)) (hr : st.outer = .returned) :
    ∃ done, Rem st.innerAtCancel done ∧ att st.log = att st.logAtCancel ++ done ++ [.flush true] :=
  flushed_of_good (good_run ti0 h henv) hr

/-- **C06 (b), task started on an existing database — consistent, and exactly the finished work.**
Start the task on ANY invariant index state `s0` (chain `t0.chain`).  In a valid environment, once the
task has returned: reopening the database succeeds and every observable of the reopened index is the
specification's of `survivorsFrom t0 st.log` — the chain the task started with, plus exactly the
blocks whose advance job returned, minus those a back-out job removed (a back-out may reach below the
start chain's tip: those blocks are popped from `t0.chain`). -/
theorem C06task_reopen_from (cfg : Cfg) {t0 : Track} {s0 : Sys} (ti0 : TrackInv cfg t0 s0)
    (evs : List Ev) (st : St) (h : run cfg { sys := s0 } evs = some st)
    (henv : EnvOk cfg t0 (att st.log)) (hr : st.outer = .returned) :
    ∃ es s', openDbs cfg st.sys.p false none = some (es, s') ∧
      s'.m.dbst.height = ((survivorsFrom t0 st.log).length : Int) - 1 ∧
      (∀ hx, ∃ rows, allUtxos s' hx = some rows ∧
        rows.Perm (((EV.Spec.specChain cfg.act (survivorsFrom t0 st.log)).utxos.filter (·.hx == hx)).map
          (fun u => ⟨u.txnum, u.idx, u.txid, u.height, u.value⟩))) ∧
      (∀ hx limit, limitedHistory s' hx limit =
        some (EV.Spec.historyPairs (EV.Spec.specChain cfg.act (survivorsFrom t0 st.log)) hx limit)) ∧
      s'.m.st.utxoCount = ((EV.Spec.specChain cfg.act (survivorsFrom t0 st.log)).utxos.length : Int) ∧
      s'.m.st.txCount = (EV.Spec.specChain cfg.act (survivorsFrom t0 st.log)).txs.length ∧
      s'.m.st.height = ((survivorsFrom t0 st.log).length : Int) - 1 ∧
      s'.m.st.tip = ((survivorsFrom t0 st.log).getLast?.map (·.hash)).getD 0 ∧
      s'.m.st.chainSize = ((survivorsFrom t0 st.log).map (·.size)).sum ∧
      (∀ start count, readHeaders s' start count =
        (((survivorsFrom t0 st.log).map (·.header)).drop start).take
          (min (count : Int) (((survivorsFrom t0 st.log).length : Int) - start)).toNat) ∧
      (∀ (ht : Nat) (b : Block), (survivorsFrom t0 st.log)[ht]? = some b →
        txHashesAt s' ht = some (b.txs.map (·.id))) := by
  obtain ⟨es, s', h1, inv', hf'⟩ := reopen_of_good ti0 (good_run ti0 h henv) hr
  refine ⟨es, s', h1, ?_, observables_of_fullInv' inv' hf'⟩
  rw [hf', inv'.base.files.height]
  rfl

/-- **C06 (c), task started on an existing database — kept work.**  As `C06task_kept_work`, with the
chains relative to the start chain. -/
theorem C06task_kept_work_from (cfg : Cfg) {t0 : Track} {s0 : Sys} (ti0 : TrackInv cfg t0 s0)
    (evs : List Ev) (st : St) (h : run cfg { sys := s0 } evs = some st)
    (henv : EnvOk cfg t0 (att st.log)) (hr : st.outer = .returned) :
    (pendingBackup st.innerAtCancel = none →
      survivorsFrom t0 st.logAtCancel <+: survivorsFrom t0 st.log) ∧
    (∀ b, pendingBackup st.innerAtCancel = some b →
      survivorsFrom t0 st.log = (survivorsFrom t0 st.logAtCancel).dropLast) :=
  kept_of_good (good_run ti0 h henv) hr

/-- the section in flight at the request is a well-formed section of the main flow -/
theorem C06task_inflight_wf_from (cfg : Cfg) (s0 : Sys) (evs : List Ev) (st : St)
    (h : run cfg { sys := s0 } evs = some st) :
    ∀ i, st.innerAtCancel = some i → InnerWf i ∧ i.sec ≠ .safe :=
  (inv_run h).cancelWf

/-- **C06, from any start state — the server stops** (as `C06task_stops`). -/
theorem C06task_stops_from (cfg : Cfg) (s0 : Sys) (evs : List Ev) (st : St)
    (h : run cfg { sys := s0 } evs = some st) :
    (st.outer = .handler → ∃ e, e.isWork = true ∧ (step cfg st e).isSome = true) ∧
    (st.cancelled = true → ∀ evs' st', run cfg st evs' = some st' →
      workCount evs' + todo st' ≤ todo st ∧ todo st ≤ 11) ∧
    (st.cancelled = true → todo st = 0 → st.finished = true) :=
  stops_of_shape cfg (inv_run h).shape

/-! ## non-vacuity: a restart on a one-block database, shutdown requested mid-advance

Start state: `rxB0` indexed and fully flushed by an earlier process, then `open_for_sync`
(`[adv rxB0 0, flush true, reopen]`).  The task fetches `rxB1` (which spends an output of `rxB0` —
from the rows on disk), the request arrives whilst `advance_block(rxB1)` is in a worker thread, the
handler flushes. -/

def exStartOps : List IOp2 := [.adv rxB0 0, .flush true, .reopen]
def exStartT : Track := Track.run rxCfg {} exStartOps

/-- the state of the earlier process at its end -/
def exPrev : Sys := okSysD (runOps2 rxCfg {} [.adv rxB0 0, .flush true])

def exSt0 : CState :=
  { height := 0, txCount := 1, chainSize := 80, tip := 7, flushCount := 1, utxoCount := 2,
    firstSync := true }

/-- the state after `open_for_sync`: the store unchanged (nothing to clear, the one undo row is
    inside the window), memory fresh -/
def exStart : Sys :=
  { p := exPrev.p,
    m := { st := exSt0, dbst := exSt0, fsHeight := 0, fsTxCount := 1, txCounts := [1], histFlush := 1,
           compFlush := -1, compCursor := -1 } }

/-- `decide` cannot evaluate `_open_dbs` (the sort of the undo keys in `clear_excess_undo_info` is defined by
    well-founded recursion): the sort is rewritten where it stands, as in `C15audit.lean`. -/
theorem exStart_reopen : reopen rxCfg exPrev = .ok exStart := by
  simp only [reopen, openDbs, openStore, openUndoEffects, clearUndoKeys_eval]
  rfl

theorem exStart_inv : TrackInv rxCfg exStartT exStart := by
  refine trackInv_of_run (ops := exStartOps) (by decide +kernel) ?_
  rw [show exStartOps = [.adv rxB0 0, .flush true] ++ [.reopen] from rfl, runOps2_append,
    runOps2_okSysD (by decide +kernel)]
  exact runOps2_cons_of_ok exStart_reopen

example : exStartT.chain = [rxB0] ∧ exStartT.dbLen = 1 ∧ exStartT.kept = [0] := by decide +kernel

def exRestartCancel : List Ev :=
  [.begin, .fetched [rxB1], .nextBlock, .innerStart, .cancel, .jobEnd 1, .deliver,
   .hStart, .jobEnd 0, .deliver]

example : outerOf (run rxCfg { sys := exStart } exRestartCancel) = some .returned := by decide +kernel
example : attOf (run rxCfg { sys := exStart } exRestartCancel) = [.adv rxB1 1, .flush true] := by decide +kernel
example : EnvOk rxCfg exStartT (attOf (run rxCfg { sys := exStart } exRestartCancel)) := by decide +kernel
example : survivorsFrom exStartT [(.adv rxB1 1, true), (.flush true, true)] = [rxB0, rxB1] := by decide +kernel

end EV.ShutdownTask
