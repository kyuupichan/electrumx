import EV.Props.C08

/-!
# C09 — the mempool tracker survives every daemon race with its index intact

"Whatever the daemon does during a refresh - a block arrives, transactions vanish between listing
and fetching, a parent is confirmed while its child is fetched, the index is a block behind or
ahead, UTXO lookups miss - the refresh never raises, never records a transaction with a wrong input
value, script hash or fee, keeps its by-script-hash index the exact inverse of its transaction set,
and reaches the exact view of C08 on the next quiet refresh."

Model: `EV/Model/Mempool.lean`.  Every race in the statement is an instance of `EnvSound W fetch
lookup` (`EV/Proofs/MempoolAccept.lean`): `fetch h` may be `none` for any hash at any time (vanished,
confirmed meanwhile) but a delivered transaction is the one with that id; `lookup k ps` may answer
`None` for any prevout of any chunk (index behind, lookup miss, spent meanwhile) or the true pair
(index ahead or behind: outputs of blocks the daemon has or has not yet got) — never a false pair;
`allHashes` and the completion `order` of the chunk tasks are arbitrary (no relation to `fetch`
required); `Valid W` = transactions only name output indices that exist in their parent, which is
what rules out the one exception `_accept_transactions` does not catch (`IndexError`, see
`C09_counterexample_index_error`).

`MpInv W st` (`EV/Proofs/MempoolBasic.lean`) =
  `txs` has unique keys ∧ `hashXs` has unique keys, no empty and no duplicated sets ∧
  `h ∈ hashXs[x] ↔ ∃ tx, txs[h] = tx ∧ x` is a script hash of an input or output pair of `tx` ∧
  every stored `tx` under `h` has the prevouts, output pairs and size of *the* transaction `h`,
  `in_pairs = prevouts.map truePair` and `fee = max 0 (Σin − Σout)`.

What is validated rather than proved: that the awaits of the real coroutines fall where the model
cuts them (each chunk task touches shared state only in its final synchronous segment) — checked on
every run by the `mempool` suite's race entry, which injects an event at each suspension point.
-/
namespace EV.Mempool

/-- **C09 (the refresh never raises and keeps the invariant).**  From any `MpInv` state, under any
sound environment, for every listing, every completion order and every pending `touched`:
`_process_mempool` raises `DBSyncError` — before touching anything — iff the heights differ, and
otherwise returns with `MpInv` intact: no `KeyError` from `hashXs[hashX].remove`, no `IndexError`,
the loop fuel of the model never runs out. -/
theorem C09_inv (W : Hash → Option RawTx) (fetch : Hash → Option RawTx)
    (lookup : Nat → List Prevout → List (Option Pair)) (st : St)
    (hinv : MpInv W st) (henv : EnvSound W fetch lookup)
    (allHashes : List Hash) (order : List Nat) (touched : List HashX) (mh dbh : Int) :
    (mh ≠ dbh → processMempool st allHashes touched mh dbh fetch lookup order = .error .dbSyncError) ∧
    (mh = dbh → ∃ r, processMempool st allHashes touched mh dbh fetch lookup order = .ok r ∧
      MpInv W r.st ∧ (∀ e ∈ r.st.txs, e.1 ∈ allHashes)) := by
  constructor
  · exact fun hne => processMempoolN_dbSync _ _ _ _ hne _ _ _
  · intro heq
    subst heq
    obtain ⟨r, h1, F⟩ := processMempoolN_sound (henv.soundOn allHashes) EV.Gen.mempoolChunk hinv
      touched mh order
    exact ⟨r, h1, F.inv, F.listed⟩

/-- **C09 (nothing wrong is ever recorded), spelled out.**  After such a refresh every stored
record is the true record of its transaction (input values and script hashes, fee) and the index
is the exact inverse of the transaction set. -/
theorem C09_truthful (W : Hash → Option RawTx) (fetch : Hash → Option RawTx)
    (lookup : Nat → List Prevout → List (Option Pair)) (st : St)
    (hinv : MpInv W st) (henv : EnvSound W fetch lookup)
    (allHashes : List Hash) (order : List Nat) (touched : List HashX) (h : Int) :
    ∃ r, processMempool st allHashes touched h h fetch lookup order = .ok r ∧
      (∀ e ∈ r.st.txs, ∃ t, W e.1 = some t ∧ e.2.prevouts = (mkTx t).prevouts ∧
        e.2.outPairs = t.outs ∧ e.2.inPairs.map some = e.2.prevouts.map (truePair W) ∧
        e.2.fee = max 0 (sumV e.2.inPairs - sumV e.2.outPairs)) ∧
      (∀ x k, (∃ s, (x, s) ∈ r.st.hashXs ∧ k ∈ s) ↔
        ∃ tx, (k, tx) ∈ r.st.txs ∧ x ∈ (tx.inPairs ++ tx.outPairs).map (·.1)) ∧
      (∀ e ∈ r.st.hashXs, e.2 ≠ []) := by
  obtain ⟨r, h1, h2, _⟩ := (C09_inv W fetch lookup st hinv henv allHashes order touched h h).2 rfl
  refine ⟨r, h1, ?_, ?_, ?_⟩
  · intro e he
    obtain ⟨t, g1, g2, g3, _, g5, g6⟩ := h2.true e he
    exact ⟨t, g1, g2, g3, g5, g6⟩
  · exact fun x k => (h2.inverse x k).trans
      (exists_congr fun tx => and_congr_right fun _ => mem_txHashXs)
  · exact fun e he => (h2.wf.sets e he).1

/-- **C09 (recovery).**  Whatever a racing refresh left behind, the next quiet refresh reaches the
exact view of C08: nothing dropped, exactly the specification pool, invariant intact. -/
theorem C09_recovers (W : Hash → Option RawTx) (st : St) (hinv : MpInv W st)
    -- the racing refresh
    (fetch₁ : Hash → Option RawTx) (lookup₁ : Nat → List Prevout → List (Option Pair))
    (henv₁ : EnvSound W fetch₁ lookup₁) (all₁ : List Hash) (order₁ : List Nat)
    (touched₁ : List HashX) (h₁ : Int)
    -- the quiet refresh after it
    (M : List Hash) (U : List (Prevout × Pair)) (fetch₂ : Hash → Option RawTx)
    (lookup₂ : Nat → List Prevout → List (Option Pair)) (henv₂ : EnvQuiet W M U fetch₂ lookup₂)
    (touched₂ : List HashX) (h₂ : Int) (order₂ : List Nat) :
    ∃ r₁, processMempool st all₁ touched₁ h₁ h₁ fetch₁ lookup₁ order₁ = .ok r₁ ∧
      (order₂.Perm (List.range (numChunks EV.Gen.mempoolChunk r₁.st M)) →
        ∃ r₂, processMempool r₁.st M touched₂ h₂ h₂ fetch₂ lookup₂ order₂ = .ok r₂ ∧
          r₂.dropped = [] ∧ r₂.st.txs.Perm (specPool W M U) ∧ MpInv W r₂.st) := by
  obtain ⟨r₁, g1, g2, _⟩ := (C09_inv W fetch₁ lookup₁ st hinv henv₁ all₁ order₁ touched₁ h₁ h₁).2 rfl
  exact ⟨r₁, g1, fun hord => C08_exact W M U fetch₂ lookup₂ r₁.st touched₂ h₂ order₂ g2 henv₂ hord⟩

/-- **C09 (height guard).**  One iteration of `_refresh_hashes` either changes nothing at all
(`continue` because the daemon height moved during the listing, or `DBSyncError` because the index
is at another height) or calls `on_mempool(touched, h)` exactly once with `h` = the daemon height
before the listing = the daemon height after the listing = the DB height when processing began,
and starts a fresh `touched`. -/
theorem C09_height_guard (cs : Nat) (l l' : Loop) (r : Round)
    (h : refreshRound cs l r = .ok l') :
    l' = l ∨
    (∃ p, processMempoolN cs l.st r.hashes l.touched r.cachedHeight r.dbHeight r.fetch r.lookup
            r.order = .ok p ∧
      l' = { st := p.st, touched := [], emits := l.emits ++ [(p.touched, r.cachedHeight)] } ∧
      r.cachedHeight = r.height ∧ r.cachedHeight = r.dbHeight) := by
  unfold refreshRound at h
  split at h
  · injection h with h; exact Or.inl h.symm
  · rename_i hh
    have hh' : r.cachedHeight = r.height := Classical.not_not.mp hh
    split at h
    · injection h with h; exact Or.inl h.symm
    · cases h
    · rename_i p hp
      injection h with h
      refine Or.inr ⟨p, hp, h.symm, hh', ?_⟩
      refine Classical.byContradiction fun hdb => ?_
      rw [processMempoolN_dbSync _ _ _ _ hdb] at hp
      cases hp

/-- **C09 (the whole task).**  `_refresh_hashes` run over *any* sequence of rounds, each with its
own sound environment (heights moving arbitrarily, index ahead or behind, any listing), never
raises, ends in an `MpInv` state, and every `on_mempool(h)` it made was guarded as above. -/
theorem C09_loop (W : Hash → Option RawTx) (rounds : List Round)
    (henv : ∀ r ∈ rounds, EnvSound W r.fetch r.lookup) :
    ∀ (l : Loop), MpInv W l.st →
      ∃ l', refreshLoop EV.Gen.mempoolChunk l rounds = .ok l' ∧ MpInv W l'.st ∧
        ∀ e ∈ l'.emits, e ∈ l.emits ∨
          ∃ r ∈ rounds, e.2 = r.cachedHeight ∧ r.cachedHeight = r.height ∧
            r.cachedHeight = r.dbHeight := by
  induction rounds with
  | nil => intro l hinv; exact ⟨l, rfl, hinv, fun e he => Or.inl he⟩
  | cons r rs ih =>
    intro l hinv
    obtain ⟨l1, h1, hl1⟩ :=
      refreshRound_sound EV.Gen.mempoolChunk l r hinv (henv r List.mem_cons_self)
    have hinv1 : MpInv W l1.st := hl1.elim (fun g => g ▸ hinv) fun ⟨p, F, g, _⟩ => g ▸ F.inv
    obtain ⟨l', h2, h3, h4⟩ := ih (fun r' hr' => henv r' (List.mem_cons_of_mem _ hr')) l1 hinv1
    refine ⟨l', by rw [refreshLoop, h1]; exact h2, h3, fun e he => ?_⟩
    rcases h4 e he with g | ⟨r', g1, g2⟩
    · rcases hl1 with g' | ⟨p, _, g', g3, g4⟩
      · exact Or.inl (g' ▸ g)
      · rw [g'] at g
        rcases List.mem_append.mp g with g5 | g5
        · exact Or.inl g5
        · cases List.mem_singleton.mp g5
          exact Or.inr ⟨r, List.mem_cons_self, rfl, g3, g4⟩
    · exact Or.inr ⟨r', List.mem_cons_of_mem _ g1, g2⟩

namespace Race

open Example in
/-- the world of `Example` (`EV/Props/C08.lean`), but: the daemon answers `None` for 10 (it was mined while the
    refresh was fetching), and the index — a block behind — knows only (5,1); the listing still
    names 10, 11, 12, 13 and an id (99) nobody can deliver -/
theorem sound : EnvSound (dget Example.tb)
    (fun h => if [10, 99].contains h then none else dget Example.tb h)
    (lookupFrom [((5, 1), (6, 30))]) :=
  envSound_of_table (by decide +kernel) (by decide +kernel) [10, 99]

/-- the hypotheses of `C09_inv` hold, and the run is not trivial: 13 is accepted, 11 and 12 are
    deferred and finally dropped, nothing raises -/
example : (resultOf (processMempool {} [12, 99, 13, 11, 10] [] 100 100
      (fun h => if [10, 99].contains h then none else dget Example.tb h)
      (lookupFrom [((5, 1), (6, 30))]) [0])).map
      (fun r => (r.st.txs.map (·.1), r.dropped)) = some ([13], [12, 11]) := by decide +kernel

example : ∃ r, processMempool {} [12, 99, 13, 11, 10] [] 100 100
      (fun h => if [10, 99].contains h then none else dget Example.tb h)
      (lookupFrom [((5, 1), (6, 30))]) [0] = .ok r ∧ MpInv (dget Example.tb) r.st ∧
      ∀ e ∈ r.st.txs, e.1 ∈ [12, 99, 13, 11, 10] :=
  (C09_inv _ _ _ _ (MpInv_empty _) sound _ _ _ 100 100).2 rfl

end Race

namespace IndexError

/-- 31 names output 3 of 30, which has one output -/
def tb : Table :=
  [(30, { inputs := [(0, 4294967295)], outs := [(7, 50)], size := 100 }),
   (31, { inputs := [(30, 3)], outs := [(9, 40)], size := 90 })]

/-- `txs[prev_hash].out_pairs[prev_index]` raises `IndexError`, which `_accept_transactions` does
    not catch: the refresh task dies.  Every clause of `EnvSound` except `Valid` holds (the daemon
    delivers the true transactions, the index answers nothing).  Replayed on the real class by the
    `mempool` suite (`MALFORMED`); bitcoind never relays such a transaction. -/
theorem C09_counterexample_index_error :
    validB tb = false ∧
    outcome (processMempool {} [30, 31] [] 100 100 (dget tb) (lookupFrom []) [0]) =
      some .indexError := by decide +kernel

end IndexError

end EV.Mempool
