import EV.Props.C05
import EV.Props.C04resume
import EV.Proofs.CrashBackupRun

/-!
# C05 over whole runs — a crash inside ANY back-out of ANY valid run

"If the process dies at any instant while a reorganisation is being backed out (between the history
rollback and the UTXO rollback of any block, or between blocks), then after restart and catching up
with the daemon the index again equals a fresh index of the daemon's chain, whichever chain the
daemon is on by then."

`EV/Props/C05.lean` speaks about ONE back-out from a state *assumed* to satisfy `FlushedB`.  Here the
state is the end state `s` of an arbitrary valid run `ops` from the empty index (advances, flushes of
either kind, back-outs, restarts: `ValidOps2 cfg {} ops`, as in C03run/C04resume), the interrupted
back-out is any back-out the run could perform next (`ValidOps2 cfg {} (ops ++ [.backup b])`), and
every hypothesis of the C05 theorems is DERIVED from the run invariant `FullInv'`.

The crash points.  A back-out performs exactly two atomic batches `[e1, e2]` (`History.backup`'s
batch, then the UTXO batch); "between blocks" of a multi-block reorganisation is the cut `[]` of the
next back-out = the cut `[e1, e2]` of the previous one.  The case split is exhaustive:

* **harmless cuts `[]` and `[e1, e2]`, EVERY continuation** (new branch, old branch, unchanged
  chain, anything, valid or not): the restart succeeds, reports height `N` resp. `N − 1`, and the
  restarted state IS the end state of the crash-free run `ops ++ [reopen]` resp.
  `ops ++ [backup b, reopen]`; every continuation from it is literally the rest of that crash-free
  run, whose states satisfy the whole-run invariant (C03run: every observable is the
  specification's of the surviving chain = a fresh index's).  The property holds in full here.
* **the cut `[e1]` between the two batches**: the restart succeeds and reports height `N`; the
  restarted system has the memory of the clean restart and the same store except for the history
  table (already rolled back) and the representation of the history state record.
  - **new-branch continuation** ("block `N` is backed out again, then anything valid": further
    back-outs, advances on the new branch, flushes, restarts), end to end: the continuation succeeds
    and at its end (hence, prefixes of valid lists being valid, after every step) the state `c` is
    `SameRedo` to the end state `a` of the crash-free run `ops ++ [reopen, backup b] ++ ops'`, and
    `c` itself satisfies the whole-run invariant of the surviving chain.  Fully flushed: every
    observable is the specification's of the surviving chain = those of a fresh index of that chain
    = those of the crash-free run WITHOUT any restart, `ops ++ [backup b] ++ ops'`, whenever that
    run is valid too.
    The relation used is `HRel` (`EV/Proofs/CrashBackupRun.lean`): `ResEq` WITHOUT the history table
    — the two history tables differ (row order; after further flushes nothing else, but no table
    equality is needed): the history table is write-only for the sync (`histOnly_step`), every run
    operation preserves `HRel` with equal errors (`hrel_step`), and both sides stay in the run
    invariant (`Twin`), which pins the histories to the specification's.
  - **old-branch / unchanged-chain continuation** — the property is FALSE of the code: finding F8,
    `C05_counterexample_oldbranch` (restated as `C05run_F8`); recorded, not repaired.

* **any number of crashes, of either kind, in any order** — `Crashed` (inductive: run operations,
  C04's crashes at any cut of any flush, C05's crash between the two batches of any back-out followed
  by the repeated back-out; the harmless back-out cuts are plain `reopen` / `backup, reopen` steps):
  the state is `Twin` to the end state of the crash-free run that explains it (every crash replaced
  by a clean restart) — `SameRedo`, and the whole-run invariant holds of the crashed state ITSELF
  (the invariant only looks at the committed part of the files, so torn tails do not matter); the
  crashed sync never gets stuck; fully flushed, every observable is the specification's of the
  surviving chain.

Hypotheses: validity of the runs named (decidable, `decide` in the examples); `C05run_mid_restart`
and `C05run_flushedB` in addition need `0 < cfg.reorgLimit` ("some undo information is retained at
all"; it follows from the validity of `ops ++ [reopen, backup b]`, `backupOk_reopen_iff`, and
cannot be dropped: with an empty window the restart prunes the undo row the repeated back-out needs).
The comparison run contains the `reopen` because the crash DID restart the process: a restart prunes
undo rows below the window, so a continuation that backs out deeper than the window is refused after
the crash (by code and model alike) although the run without any restart could have performed it.
Trusted, as in C04/C05: LevelDB batches are atomic and durable.
-/
namespace EV.Index
open EV.Spec

theorem backupOk_of_valid {cfg : Cfg} {ops : List IOp2} {b : Block}
    (hv : ValidOps2 cfg {} (ops ++ [.backup b])) :
    ValidOps2 cfg {} ops ∧ BackupOk (Track.run cfg {} ops) b = true := by
  obtain ⟨h1, h2, -⟩ := (validOps2_append cfg {} ops [.backup b]).mp hv
  exact ⟨h1, h2⟩

/-- **C05 over runs: the interrupted back-out is defined and has exactly two batches.**  For the end
state `s` of every valid run and every back-out the run can perform next: `backup_block` +
`flush_backup` succeed with the effect list `[e1, e2]` — `History.backup`'s batch, then the UTXO
batch — and the result is the end state of the run `ops ++ [backup b]`, in the run invariant. -/
theorem C05run_backup_defined (cfg : Cfg) (ops : List IOp2) {b : Block}
    (hv : ValidOps2 cfg {} (ops ++ [.backup b])) {s : Sys} (hs : runOps2 cfg {} ops = .ok s) :
    ∃ e1 e2 s', backupFull cfg s b = .ok ([e1, e2], s') ∧
      e1.isHistBatch = true ∧ e2.isUtxoBatch = true ∧ cuts [e1, e2] = [[], [e1], [e1, e2]] ∧
      runOps2 cfg {} (ops ++ [.backup b]) = .ok s' ∧
      TrackInv cfg (Track.run cfg {} (ops ++ [.backup b])) s' ∧
      s'.m.st.height = s.m.st.height - 1 := by
  obtain ⟨hv0, hok⟩ := backupOk_of_valid hv
  obtain ⟨s', hstep, ti'⟩ := trackInv_step (trackInv_of_run hv0 hs) (.backup b) hok
  obtain ⟨es, hb⟩ := backup_ok hstep
  obtain ⟨e2, h2, rfl, -, -, -, -, hh⟩ := backupFull_explicit hb
  exact ⟨_, e2, s', hb, rfl, h2, cuts_atomic2 _ e2 rfl (tornPrefixes_of_utxoBatch h2),
    runOps2_concat_of_ok hs hstep, Track.run_append .. ▸ ti', hh⟩

/-- **C05 over runs: `FlushedB` is a consequence of the run invariant.**  In the end state of every
valid run that can back out a block next, the hypothesis `FlushedB` of `C05_newbranch_partial` holds
(given a non-empty undo window, which is one of its clauses). -/
theorem C05run_flushedB (cfg : Cfg) (ops : List IOp2) {b : Block}
    (hv : ValidOps2 cfg {} (ops ++ [.backup b])) {s : Sys} (hs : runOps2 cfg {} ops = .ok s)
    (hlim : 0 < cfg.reorgLimit) : FlushedB cfg s := by
  obtain ⟨hv0, hok⟩ := backupOk_of_valid hv
  have ti := trackInv_of_run hv0 hs
  obtain ⟨hcl, -, hlen, -⟩ := backupOk_iff.mp hok
  have hht := ti.inv.base.files.height
  exact flushedB_of_fullInv' ti.inv (ti.flushed hcl) (by omega) hlim

theorem restart_committed (cfg : Cfg) (ops : List IOp2) (hv : ValidOps2 cfg {} ops) {s : Sys}
    (hs : runOps2 cfg {} ops = .ok s)
    (hcl : (Track.run cfg {} ops).dbLen = (Track.run cfg {} ops).chain.length) :
    ∃ e0 r0, recover cfg s.p = some (e0, r0) ∧ r0.m.dbst.height = s.m.st.height ∧
      runOps2 cfg {} (ops ++ [.reopen]) = .ok r0 ∧
      TrackInv cfg (Track.run cfg {} (ops ++ [.reopen])) r0 ∧
      ∀ ops', runOps2 cfg r0 ops' = runOps2 cfg {} (ops ++ .reopen :: ops') := by
  obtain ⟨e0, r0, hrec, hr0, ti0⟩ := C04run_clean_restart cfg ops hv hs
  have h1 : r0.m.dbst.height = ((Track.run cfg {} ops).dbLen : Int) - 1 := ti0.db
  rw [hcl] at h1
  refine ⟨e0, r0, hrec, h1.trans (trackInv_of_run hv hs).inv.base.files.height.symm, hr0,
    Track.run_append .. ▸ ti0, fun ops' => ?_⟩
  rw [← List.singleton_append (l := ops'), ← List.append_assoc, runOps2_append, hr0]

/-- **C05 over runs (harmless cuts, EVERY continuation).**  `s`: end state of any valid run; `b`: any
back-out the run can perform next; `[e1, e2]` its two batches.

* Crash before the history batch (cut `[]`; also: between two blocks of a reorganisation, before the
  next block is touched): the restart succeeds, reports height `N` (the height of `s`), and the
  restarted state `r0` is the end state of the crash-free run `ops ++ [reopen]`.
* Crash after the UTXO batch (cut `[e1, e2]`; also: between two blocks, after the previous one is
  done): the restart succeeds, reports height `N − 1`, and the restarted state `r3` is the end state of
  the crash-free run `ops ++ [backup b, reopen]`.

In both cases EVERY continuation `ops'` — new branch, old branch, unchanged chain, valid or not —
behaves from the restarted state exactly as the rest of that crash-free run (`runOps2` equal: same
error or same end state), and the restarted state satisfies the whole-run invariant, so by C03run
every state a valid continuation reaches answers every query as the specification of its surviving
chain does.  For these crash points C05 holds in full. -/
theorem C05run_cut_harmless (cfg : Cfg) (ops : List IOp2) {b : Block}
    (hv : ValidOps2 cfg {} (ops ++ [.backup b])) {s : Sys} (hs : runOps2 cfg {} ops = .ok s) :
    ∃ e1 e2 s', backupFull cfg s b = .ok ([e1, e2], s') ∧ cuts [e1, e2] = [[], [e1], [e1, e2]] ∧
      (∃ e0 r0, recover cfg (applyEffects s.p []) = some (e0, r0) ∧
        r0.m.dbst.height = s.m.st.height ∧
        runOps2 cfg {} (ops ++ [.reopen]) = .ok r0 ∧
        TrackInv cfg (Track.run cfg {} (ops ++ [.reopen])) r0 ∧
        ∀ ops', runOps2 cfg r0 ops' = runOps2 cfg {} (ops ++ .reopen :: ops')) ∧
      (∃ e3 r3, recover cfg (applyEffects s.p [e1, e2]) = some (e3, r3) ∧
        r3.m.dbst.height = s.m.st.height - 1 ∧
        runOps2 cfg {} (ops ++ [.backup b, .reopen]) = .ok r3 ∧
        TrackInv cfg (Track.run cfg {} (ops ++ [.backup b, .reopen])) r3 ∧
        ∀ ops', runOps2 cfg r3 ops' = runOps2 cfg {} (ops ++ .backup b :: .reopen :: ops')) := by
  obtain ⟨hv0, hok⟩ := backupOk_of_valid hv
  obtain ⟨e1, e2, s', hb, -, -, hcuts, hrun', ti', hh'⟩ := C05run_backup_defined cfg ops hv hs
  obtain ⟨hcl, -, -, -⟩ := backupOk_iff.mp hok
  obtain ⟨-, -, -, -, -, hp'⟩ := backupFull_effects hb
  refine ⟨e1, e2, s', hb, hcuts, restart_committed cfg ops hv0 hs hcl, ?_⟩
  have hcl' : (Track.run cfg {} (ops ++ [.backup b])).dbLen =
      (Track.run cfg {} (ops ++ [.backup b])).chain.length := by
    rw [Track.run_append]
    show (Track.run cfg {} ops).chain.length - 1 = (Track.run cfg {} ops).chain.dropLast.length
    rw [List.length_dropLast]
  have h := restart_committed cfg (ops ++ [IOp2.backup b]) hv hrun' hcl'
  simp only [List.append_assoc, List.cons_append, List.nil_append, hp', hh'] at h
  exact h

/-- **C05 over runs (the cut between the two batches: the restart).**  The process dies after
`History.backup`'s batch and before the UTXO batch of a back-out issued in the end state of any valid
run.  The restart succeeds (`r`), reports height `N` — the block is NOT backed out as far as the
UTXO DB and `DB.state` are concerned —, and `r` is the clean restart `r0` of the store the back-out
started from (= the end state of the crash-free run `ops ++ [reopen]`) with ANOTHER HISTORY TABLE:
same memory, same `h`/`u`/undo tables, same files, same UTXO state record; the history table is
the one the crash left — for every script hash touched by the back-out (or since the last restart:
`touched` accumulates) the history is cut to the transactions below block `N`'s first one, all other
histories are unchanged.  Every read-path answer that does not involve the history table is
therefore that of `r0`; the histories are already those of the chain WITHOUT block `N` (this mismatch
is what F8 is about). -/
theorem C05run_mid_restart (cfg : Cfg) (ops : List IOp2) {b : Block}
    (hv : ValidOps2 cfg {} (ops ++ [.backup b])) {s : Sys} (hs : runOps2 cfg {} ops = .ok s)
    (hlim : 0 < cfg.reorgLimit) :
    ∃ e1 e2 s' er r e0 r0, backupFull cfg s b = .ok ([e1, e2], s') ∧ [e1] ∈ cuts [e1, e2] ∧
      recover cfg (applyEffects s.p [e1]) = some (er, r) ∧
      r.m.dbst.height = s.m.st.height ∧
      recover cfg s.p = some (e0, r0) ∧ runOps2 cfg {} (ops ++ [.reopen]) = .ok r0 ∧
      r = { m := r0.m, p := { r0.p with hist := r.p.hist, hstate := r.p.hstate } } ∧
      r.p.hist = (applyEffects s.p [e1]).hist ∧
      (∀ hx, getTxnums r.p hx none =
        if hx ∈ s'.m.touched then (getTxnums s.p hx none).filter (· < s'.m.st.txCount)
        else getTxnums s.p hx none) := by
  obtain ⟨hv0, hok⟩ := backupOk_of_valid hv
  obtain ⟨e1, e2, s', hb, -, -, hcuts, -, -, -⟩ := C05run_backup_defined cfg ops hv hs
  have ti := trackInv_of_run hv0 hs
  have hF := C05run_flushedB cfg ops hv hs hlim
  -- the restart needs no undo window (`mid_restart`); `hlim` is for `FlushedB`, which has it as a clause
  obtain ⟨er, r, e0, r0, hrec, hrec0, hr, hhist, -, hdb, -, -, -⟩ := mid_restart ti hb
  have hr0' : runOps2 cfg {} (ops ++ [.reopen]) = .ok r0 :=
    runOps2_concat_of_ok hs (reopen_of_some hrec0)
  refine ⟨e1, e2, s', er, r, e0, r0, hb, by rw [hcuts]; simp, hrec, by rw [hdb], hrec0, hr0', hr,
    hhist, ?_⟩
  intro hx
  obtain ⟨e2x, -, hes, -⟩ := backupFull_explicit hb
  simp only [List.cons.injEq, and_true] at hes
  rw [getTxnums_congr hhist hx none]
  show getTxnums (applyEffect s.p e1) hx none = _
  rw [hes.1]
  exact getTxnums_histBackup' s _ _ hF.keys hx (hF.asc hx)

/-- **…every read-path answer of the restarted index that does not involve the history table is the
clean restart's** (so: that of a correct index of the chain WITH block `N`): `DB.state`, `fs_tx_hash`,
`all_utxos`, `lookup_utxos`, `fs_tx_hashes_at_blockheight`, `read_headers`, the undo rows.  Only the
histories (`C05run_mid_restart`, last clause) are already those of the chain without block `N`. -/
theorem C05run_mid_restart_obs (cfg : Cfg) (ops : List IOp2) {b : Block}
    (hv : ValidOps2 cfg {} (ops ++ [.backup b])) {s : Sys} (hs : runOps2 cfg {} ops = .ok s)
    (hlim : 0 < cfg.reorgLimit) :
    ∃ e1 e2 s' er r e0 r0, backupFull cfg s b = .ok ([e1, e2], s') ∧
      recover cfg (applyEffects s.p [e1]) = some (er, r) ∧ recover cfg s.p = some (e0, r0) ∧
      r.m = r0.m ∧ (∀ n, fsTxHash r n = fsTxHash r0 n) ∧
      (∀ hx, allUtxos r hx = allUtxos r0 hx) ∧
      (∀ txid idx, lookupUtxo r txid idx = lookupUtxo r0 txid idx) ∧
      (∀ h, txHashesAt r h = txHashesAt r0 h) ∧
      (∀ start count, readHeaders r start count = readHeaders r0 start count) ∧
      (∀ h, alookup h r.p.undo = alookup h r0.p.undo) := by
  obtain ⟨e1, e2, s', er, r, e0, r0, hb, -, hrec, -, hrec0, -, hr, -, -⟩ :=
    C05run_mid_restart cfg ops hv hs hlim
  refine ⟨e1, e2, s', er, r, e0, r0, hb, hrec, hrec0, ?_, ?_, ?_, ?_, ?_, ?_, ?_⟩
  · rw [hr]
  · intro n; rw [hr]; rfl
  · intro hx; rw [hr]; rfl
  · intro txid idx; rw [hr]; rfl
  · intro h; rw [hr]; rfl
  · intro st c; rw [hr]; rfl
  · intro h; rw [hr]

/-- "the index that crashed between the two batches, restarted and backed the block out again is in
    the same state as the crash-free one": `a` the end state of the crash-free run, `c` the other -/
structure SameRedo (cfg : Cfg) (a c : Sys) : Prop where
  /-- same memory, `h`/`u`/undo tables, UTXO state record, history flush count, files (up to the
      file pointers); the history TABLES are not compared -/
  rel : HRel a c
  /-- every read-path answer -/
  obs : ObsEq a c
  /-- the histories themselves, for every script hash and limit -/
  txnums : ∀ hx limit, getTxnums c.p hx limit = getTxnums a.p hx limit
  /-- `read_undo_info` of every height, on disk and pending -/
  undo : ∀ h, alookup h c.p.undo = alookup h a.p.undo ∧ undoLookup c h = undoLookup a h
  /-- the effect list (and new memory) of the next flush of either kind -/
  flush : ∀ fu, flushDbs c fu = flushDbs a fu
  /-- any further operation, valid or not: same error, or `HRel` results -/
  next : ∀ op, HRelE (stepOp2 cfg a op) (stepOp2 cfg c op)

theorem SameRedo.of_twin {cfg : Cfg} {t : Track} {a c : Sys} (T : Twin cfg t a c) : SameRedo cfg a c :=
  ⟨T.rel, T.obs, T.txnums, T.undoRows, T.flushDbs, T.next⟩

theorem chainOf2_reopen_backup (cfg : Cfg) (ops ops' : List IOp2) (b : Block)
    (hcl : (Track.run cfg {} ops).dbLen = (Track.run cfg {} ops).chain.length) :
    chainOf2 [] 0 (ops ++ .reopen :: .backup b :: ops') = chainOf2 [] 0 (ops ++ .backup b :: ops') := by
  rw [chainOf2_append cfg {}, chainOf2_append cfg {} ops]
  simp only [chainOf2, hcl, List.take_length]

/-- **C05 over runs: the case split.**  Every crash point of a back-out issued in the end state of a
valid run is one of: before the history batch / after the UTXO batch (harmless, every continuation:
`C05run_cut_harmless`), or between the two batches (`C05run_mid_restart`; new-branch continuation:
`C05run_newbranch`; old-branch or unchanged-chain continuation: F8, `C05run_F8`). -/
theorem C05run_cases (cfg : Cfg) (ops : List IOp2) {b : Block}
    (hv : ValidOps2 cfg {} (ops ++ [.backup b])) {s : Sys} (hs : runOps2 cfg {} ops = .ok s) :
    ∃ e1 e2 s', backupFull cfg s b = .ok ([e1, e2], s') ∧
      ∀ c ∈ cuts [e1, e2], (c = [] ∨ c = [e1, e2]) ∨ c = [e1] := by
  obtain ⟨e1, e2, s', hb, -, -, hcuts, -, -, -⟩ := C05run_backup_defined cfg ops hv hs
  refine ⟨e1, e2, s', hb, ?_⟩
  intro c hc
  rw [hcuts] at hc
  simp only [List.mem_cons, List.not_mem_nil, or_false] at hc
  rcases hc with h | h | h
  · exact Or.inl (Or.inl h)
  · exact Or.inr h
  · exact Or.inl (Or.inr h)

/-- the run of the F8 witness: blocks 0 and 1 indexed, full flush -/
def cxOps : List IOp2 := [.adv cxB0 1, .adv cxB1 1, .flush true]

theorem cxOps_run : runOps2 cxCfg {} cxOps = .ok cxS := by
  have h := cx_advance
  cases h0 : advance cxCfg 1 {} cxB0 with
  | error e => rw [h0] at h; simp [okSys] at h
  | ok s0 =>
    rw [h0] at h
    simp only [okSys, Option.bind_some] at h
    cases h1 : advance cxCfg 1 s0 cxB1 with
    | error e => rw [h1] at h; simp at h
    | ok s1 =>
      rw [h1] at h
      simp only [Option.some.injEq] at h
      subst h
      simp only [cxOps, runOps2, stepOp2, h0, h1, cx_flush]

/-- **F8 over whole runs (the cut between the two batches, old-branch / unchanged-chain continuation).**  The
witness of `C05_counterexample_oldbranch` is an instance of the whole-run setting: `cxS` is the end
state of the valid run `cxOps`, which can back out block 1 next; the crash between the two batches
`[cxE1, cxE2]` and the restart give `cxR`; with the daemon (back) on the old branch the index is then
wrong for good.  The property is false of the code here — restated, not repaired:
`C05_counterexample_oldbranch` has the details (height 1 reported, both UTXOs present, history `[0]`
instead of `[0, 1]`, nothing to flush, `[0, 2]` instead of `[0, 1, 2]` after block 2). -/
theorem C05run_F8 :
    ValidOps2 cxCfg {} (cxOps ++ [.backup cxB1]) ∧ runOps2 cxCfg {} cxOps = .ok cxS ∧
    (match backupFull cxCfg cxS cxB1 with | .ok (es, _) => some es | .error _ => none) = some [cxE1, cxE2] ∧
    [cxE1] ∈ cuts [cxE1, cxE2] ∧
    (recover cxCfg (applyEffects cxS.p [cxE1])).map (·.2) = some cxR ∧
    getTxnums cxR.p 7 none = [0] ∧
    EV.Spec.historyOf (EV.Spec.specChain 0 [cxB0, cxB1]) 7 = [0, 1] ∧
    flushDbs cxR true = some ([], cxR.m) ∧
    (((okSys (advance cxCfg 2 cxR cxB2)).bind (fun s => okSys (flush s true))).map
        (fun s => (s.m.dbst.height, getTxnums s.p 7 none))) = some (2, [0, 2]) ∧
    EV.Spec.historyOf (EV.Spec.specChain 0 [cxB0, cxB1, cxB2]) 7 = [0, 1, 2] := by
  obtain ⟨-, -, h3, h4, h5, -, -, h8, -, h10, h11, h12, h13⟩ := C05_counterexample_oldbranch
  exact ⟨by decide, cxOps_run, h3, h4, h5, h8, h10, h11, h12, h13⟩

/-- `Crashed cfg ops b`: the state `b` is reached from the empty index by run operations and
CRASHES of either kind, in any number and order:

* `step` — any run operation that succeeds (crash-free stretches; a crash BEFORE the history batch of
  a back-out, or between blocks, is `step reopen`; a crash AFTER the UTXO batch is `step (backup b)`
  followed by `step reopen`);
* `flushBefore` / `flushAfter` — C04's crashes: a flush of either kind is started in the current
  state, the process dies at ANY cut of its effect list (without / with the UTXO batch),
  `open_for_sync` runs in a fresh process;
* `backupMid` — C05's crash with the new-branch continuation: a back-out is started in the current
  state, the process dies BETWEEN its two batches, `open_for_sync` runs in a fresh process and the
  block is backed out again.

`ops` is the crash-free run that explains `b`: every crash replaced by a clean restart — preceded
by the flush when the cut contained the UTXO batch, followed by the back-out for `backupMid`. -/
inductive Crashed (cfg : Cfg) : List IOp2 → Sys → Prop where
  | init : Crashed cfg [] {}
  | step {ops : List IOp2} {b b' : Sys} (op : IOp2) :
      Crashed cfg ops b → stepOp2 cfg b op = .ok b' → Crashed cfg (ops ++ [op]) b'
  | flushBefore {ops : List IOp2} {b r : Sys} {fu : Bool} {es c e : List Effect} {m' : Mem} :
      Crashed cfg ops b → flushDbs b fu = some (es, m') → c ∈ cuts es →
      (∀ x ∈ c, x.isUtxoBatch = false) → recover cfg (applyEffects b.p c) = some (e, r) →
      Crashed cfg (ops ++ [.reopen]) r
  | flushAfter {ops : List IOp2} {b r : Sys} {fu : Bool} {es c e : List Effect} {m' : Mem} :
      Crashed cfg ops b → flushDbs b fu = some (es, m') → c ∈ cuts es →
      (∃ x ∈ c, x.isUtxoBatch = true) → recover cfg (applyEffects b.p c) = some (e, r) →
      Crashed cfg (ops ++ [.flush fu, .reopen]) r
  | backupMid {ops : List IOp2} {b b' r r2 : Sys} {blk : Block} {e1 e2 : Effect} {e es2 : List Effect} :
      Crashed cfg ops b → backupFull cfg b blk = .ok ([e1, e2], b') →
      recover cfg (applyEffects b.p [e1]) = some (e, r) → backupFull cfg r blk = .ok (es2, r2) →
      Crashed cfg (ops ++ [.reopen, .backup blk]) r2

theorem Crashed.run {cfg : Cfg} {ops : List IOp2} {b : Sys} (h : Crashed cfg ops b) (ops' : List IOp2)
    {b' : Sys} (hr : runOps2 cfg b ops' = .ok b') : Crashed cfg (ops ++ ops') b' :=
  run_explained Crashed.step h ops' hr

/-- **C05 + C04 over runs (any number of crashes of either kind).**  If the crash-free run `ops` that
explains a state `b` reached through crashes inside flushes (any cut) and crashes between the two
batches of back-outs (followed by the repeated back-out) is valid, it succeeds with an end state `a`,
and `a`, `b` are `Twin`: BOTH satisfy the whole-run invariant for the surviving chain and the
retained heights of `ops`, and `b` is `HRel` to `a` (same memory, tables except the history table,
state records, files up to the file pointers). -/
theorem C05run_crashes {cfg : Cfg} {ops : List IOp2} {b : Sys} (hres : Crashed cfg ops b)
    (hv : ValidOps2 cfg {} ops) :
    ∃ a, runOps2 cfg {} ops = .ok a ∧ Twin cfg (Track.run cfg {} ops) a b := by
  -- every crash is analysed at `b` alone, which is in the run invariant; `Twin` is transitive
  have ext := @explained_append cfg (Twin cfg) (fun op T hop => twin_step T op hop)
  induction hres with
  | init => exact ⟨{}, rfl, Twin.refl (trackInv_init cfg)⟩
  | step op _ hstep ih => exact ext ih hv fun _ => ⟨_, runOps2_cons_of_ok hstep, id⟩
  | flushBefore _ hf hc hnu hrec ih =>
    refine ext ih hv fun T => ?_
    obtain ⟨r0, e', r', hr0, -, hrec', R, -⟩ := crash_before_commit T.tb hf hc hnu
    cases hrec.symm.trans hrec'
    exact ⟨r0, runOps2_cons_of_ok hr0, fun T' => T'.of_resEq R⟩
  | flushAfter _ hf hc hu hrec ih =>
    refine ext ih hv fun T => ?_
    obtain ⟨s1, r', e', hs1, hr1, -, hrec'⟩ := crash_after_commit T.tb hf hc hu
    cases hrec.symm.trans hrec'
    exact ⟨_, (runOps2_cons_of_ok hs1).trans (runOps2_cons_of_ok hr1), id⟩
  | backupMid _ hb hrec hbk ih =>
    obtain ⟨-, -, hok2, -⟩ := (validOps2_append cfg {} _ [.reopen, .backup _]).mp hv
    refine ext ih hv fun T => ?_
    obtain ⟨er, r', e0, rb0, e1', s2, f1, s2', hrec', hrec0, -, -, -, -, hbk', hbk0, TR⟩ :=
      redo_twin T.tb hok2 hb
    cases hrec.symm.trans hrec'
    cases hbk.symm.trans hbk'
    exact ⟨s2', (runOps2_cons_of_ok (reopen_of_some hrec0)).trans (runOps2_cons_of_ok (backup_of_ok hbk0)),
      fun T' => T'.trans TR⟩

/-- **…in the same state as the crash-free run, and a correct index in its own right.**  For every
state reached through any number of crashes of either kind whose explaining run is valid: `SameRedo`
to the end state `a` of the explaining run (every read-path answer, histories, undo rows, next-flush
effects, outcome of any further operation), and `FullInv'` for the surviving chain holds of the
crashed state ITSELF. -/
theorem C05run_crashes_same {cfg : Cfg} {ops : List IOp2} {b : Sys} (hres : Crashed cfg ops b)
    (hv : ValidOps2 cfg {} ops) :
    ∃ a, runOps2 cfg {} ops = .ok a ∧ SameRedo cfg a b ∧
      FullInv' cfg (chainOf2 [] 0 ops) (Track.run cfg {} ops).kept a ∧
      FullInv' cfg (chainOf2 [] 0 ops) (Track.run cfg {} ops).kept b := by
  obtain ⟨a, h1, T⟩ := C05run_crashes hres hv
  exact ⟨a, h1, SameRedo.of_twin T, T.ta.inv_run, T.tb.inv_run⟩

/-- **…and it never gets stuck.**  In every such state: both kinds of flush are defined and the
restart succeeds after EVERY cut of them; every operation admissible for the explaining run
succeeds; and every back-out that is admissible (and still is after a restart) succeeds with two
batches `[e1, e2]`, the restart succeeds after the cut `[e1]` between them, and the repeated back-out
succeeds with the same UTXO batch. -/
theorem C05run_crashes_progress {cfg : Cfg} {ops : List IOp2} {b : Sys} (hres : Crashed cfg ops b)
    (hv : ValidOps2 cfg {} ops) :
    (∀ fu, ∃ es m', flushDbs b fu = some (es, m') ∧
      ∀ c ∈ cuts es, ∃ e r, recover cfg (applyEffects b.p c) = some (e, r)) ∧
    (∀ op, OkOp cfg (Track.run cfg {} ops) op → ∃ b', stepOp2 cfg b op = .ok b') ∧
    (∀ blk, BackupOk (Track.run cfg {} ops) blk = true →
      BackupOk ((Track.run cfg {} ops).step cfg .reopen) blk = true →
      ∃ e1 e2 b' e r e1' r2, backupFull cfg b blk = .ok ([e1, e2], b') ∧
        recover cfg (applyEffects b.p [e1]) = some (e, r) ∧
        backupFull cfg r blk = .ok ([e1', e2], r2)) := by
  obtain ⟨a, -, T⟩ := C05run_crashes hres hv
  have ti := T.tb
  refine ⟨flush_crash_defined ti, fun op hop => ?_, fun blk hok hok2 => ?_⟩
  · obtain ⟨b', hb', -⟩ := trackInv_step ti op hop
    exact ⟨b', hb'⟩
  · obtain ⟨b', hb', -⟩ := trackInv_step ti (.backup blk) hok
    obtain ⟨es, hbf⟩ := backup_ok hb'
    obtain ⟨e1, e2, rfl, -, -, -⟩ := backupFull_effects hbf
    obtain ⟨er, r, -, -, e1', s2, -, -, hrec, -, -, -, -, -, hbk, -, -⟩ := redo_twin ti hok2 hbf
    exact ⟨e1, e2, b', er, r, e1', s2, hbf, hrec, hbk⟩

/-- **…every observable is the specification's.**  Fully flushed, a state reached through any number
of crashes of either kind answers every query exactly as the specification of the surviving chain of
its explaining run says. -/
theorem C05run_crashes_observables {cfg : Cfg} {ops : List IOp2} {b : Sys} (hres : Crashed cfg ops b)
    (hv : ValidOps2 cfg {} ops) (hfl : b.m.dbst.height = b.m.st.height) :
    (∀ hx, ∃ rows, allUtxos b hx = some rows ∧
        rows.Perm (((specChain cfg.act (chainOf2 [] 0 ops)).utxos.filter (·.hx == hx)).map
          (fun u => ⟨u.txnum, u.idx, u.txid, u.height, u.value⟩))) ∧
    (∀ hx limit, limitedHistory b hx limit =
        some (historyPairs (specChain cfg.act (chainOf2 [] 0 ops)) hx limit)) ∧
    b.m.st.utxoCount = ((specChain cfg.act (chainOf2 [] 0 ops)).utxos.length : Int) ∧
    b.m.st.txCount = (specChain cfg.act (chainOf2 [] 0 ops)).txs.length ∧
    b.m.st.height = ((chainOf2 [] 0 ops).length : Int) - 1 ∧
    b.m.st.tip = ((chainOf2 [] 0 ops).getLast?.map (·.hash)).getD 0 ∧
    b.m.st.chainSize = ((chainOf2 [] 0 ops).map (·.size)).sum ∧
    (∀ start count, readHeaders b start count =
      (((chainOf2 [] 0 ops).map (·.header)).drop start).take
        (min (count : Int) (((chainOf2 [] 0 ops).length : Int) - start)).toNat) ∧
    (∀ (h : Nat) (blk : Block), (chainOf2 [] 0 ops)[h]? = some blk →
      txHashesAt b h = some (blk.txs.map (·.id))) := by
  obtain ⟨-, -, -, -, ib⟩ := C05run_crashes_same hres hv
  exact observables_of_fullInv' ib hfl

/-- **…every valid continuation succeeds** (and stays explained): from a state reached through any
number of crashes, every operation list that is valid for the explaining run runs without error. -/
theorem C05run_crashes_continue {cfg : Cfg} {ops : List IOp2} {b : Sys} (hres : Crashed cfg ops b)
    (ops' : List IOp2) (hv : ValidOps2 cfg {} (ops ++ ops')) :
    ∃ b', runOps2 cfg b ops' = .ok b' ∧ Crashed cfg (ops ++ ops') b' := by
  obtain ⟨hv1, hv2⟩ := (validOps2_append cfg {} ops ops').mp hv
  obtain ⟨a, -, T⟩ := C05run_crashes hres hv1
  obtain ⟨a', b', -, hb', -⟩ := twin_run ops' T hv2
  exact ⟨b', hb', hres.run ops' hb'⟩

/-- **…"again equals a fresh index of the daemon's chain", against ANY other run.**  Let `b` be
reached by a sync with any number of crashes of either kind, explained by the valid run `ops`, and
standing fully flushed.  Let `opsU` be ANY other valid run from the empty index that indexes the same
surviving chain and ends fully flushed in `u` — the run that was never interrupted and never
restarted, or the fresh index that only ever advanced the daemon's chain.  Then `b` answers every
query exactly like `u`, and the undo information of every height both runs retain is the same. -/
theorem C05run_crashes_vs_uninterrupted {cfg : Cfg} {ops : List IOp2} {b : Sys}
    (hres : Crashed cfg ops b) (hv : ValidOps2 cfg {} ops) (hfl : b.m.dbst.height = b.m.st.height)
    (opsU : List IOp2) (hvU : ValidOps2 cfg {} opsU)
    (hchain : chainOf2 [] 0 opsU = chainOf2 [] 0 ops) {u : Sys}
    (hu : runOps2 cfg {} opsU = .ok u) (hflU : u.m.dbst.height = u.m.st.height) :
    SameAnswers b u ∧
    ∀ h ∈ (Track.run cfg {} ops).kept, h ∈ (Track.run cfg {} opsU).kept →
      undoLookup b h = undoLookup u h := by
  obtain ⟨-, -, -, -, ib⟩ := C05run_crashes_same hres hv
  exact sameAnswers_of_fullInv' ib hfl (hchain ▸ C04run_inv cfg opsU hvU hu) hflU

/-- **C05 over runs (the cut between the two batches, new-branch continuation, end to end).**
`s`: end state of any valid run `ops`; `b`: any back-out the run can perform next (`hv`); the process
dies between the two batches `[e1, e2]` of that back-out, restarts, finds that the daemon's chain does
not contain block `N` and backs `b` out again, then performs ANY continuation `ops'` — further
back-outs, advances on the new branch, flushes of either kind, restarts — such that the crash-free
run with a clean restart in place of the crash, `ops ++ [reopen, backup b] ++ ops'`, is valid (`hv'`).
Then:

* the restart succeeds (`r`) and reports height `N`;
* the repeated back-out succeeds and performs THE SAME UTXO batch `e2`;
* the whole continuation succeeds from `r` (end state `c`), as the crash-free run does (end state `a`);
* `a` and `c` are `Twin`: `c` is `SameRedo` to `a` — same memory, same tables except the history
  table, same state records and files, EVERY read-path answer equal (`ObsEq`), the same histories for
  every script hash and limit, the same undo information, the same effects of the next flush, the
  same outcome (error, or `HRel` results) of ANY further operation — and `c` ITSELF satisfies the
  whole-run invariant `FullInv'` for the surviving chain `chainOf2 [] 0 (ops ++ backup b :: ops')`
  and the retained heights of the crash-free run.

Prefixes of valid lists are valid, so this holds after every step of the continuation. -/
theorem C05run_newbranch (cfg : Cfg) (ops ops' : List IOp2) {b : Block}
    (hv : ValidOps2 cfg {} (ops ++ [.backup b])) {s : Sys} (hs : runOps2 cfg {} ops = .ok s)
    (hv' : ValidOps2 cfg {} (ops ++ .reopen :: .backup b :: ops')) :
    ∃ e1 e2 s' er r e1' s2 a c, backupFull cfg s b = .ok ([e1, e2], s') ∧ [e1] ∈ cuts [e1, e2] ∧
      recover cfg (applyEffects s.p [e1]) = some (er, r) ∧
      r.m.dbst.height = s.m.st.height ∧
      backupFull cfg r b = .ok ([e1', e2], s2) ∧
      runOps2 cfg {} (ops ++ .reopen :: .backup b :: ops') = .ok a ∧
      runOps2 cfg r (.backup b :: ops') = .ok c ∧
      Twin cfg (Track.run cfg {} (ops ++ .reopen :: .backup b :: ops')) a c ∧
      SameRedo cfg a c ∧
      FullInv' cfg (chainOf2 [] 0 (ops ++ .backup b :: ops'))
        (Track.run cfg {} (ops ++ .reopen :: .backup b :: ops')).kept c := by
  obtain ⟨hv0, hok⟩ := backupOk_of_valid hv
  obtain ⟨-, -, hok2, -⟩ := (validOps2_append cfg {} ops (.reopen :: .backup b :: ops')).mp hv'
  obtain ⟨e1, e2, s', hb, -, -, hcuts, -, -, -⟩ := C05run_backup_defined cfg ops hv hs
  obtain ⟨er, r, -, -, e1', s2, -, -, hrec, -, -, -, hdb, -, hbk, -, -⟩ :=
    redo_twin (trackInv_of_run hv0 hs) hok2 hb
  -- one crash: `s2` is `Crashed`, explained by `ops ++ [reopen, backup b]`; then a crash-free stretch
  have c1 : Crashed cfg (ops ++ [.reopen, .backup b]) s2 :=
    .backupMid (by simpa using Crashed.init.run ops hs) hb hrec hbk
  have hl : ops ++ .reopen :: .backup b :: ops' = (ops ++ [.reopen, .backup b]) ++ ops' := by simp
  rw [← chainOf2_reopen_backup cfg ops ops' b (backupOk_iff.mp hok).1, hl]
  rw [hl] at hv'
  obtain ⟨c, hc, c2⟩ := C05run_crashes_continue c1 ops' hv'
  obtain ⟨a, ha, T⟩ := C05run_crashes c2 hv'
  exact ⟨e1, e2, s', er, r, e1', s2, a, c, hb, by rw [hcuts]; simp, hrec, by rw [hdb], hbk, ha,
    (runOps2_cons_of_ok (backup_of_ok hbk)).trans hc, T,
    .of_twin T, T.tb.inv_run⟩

/-- **C05 over runs (new branch): every observable is the specification's of the surviving chain.**
Setting of `C05run_newbranch`; `r`, `c` named by the equations they satisfy.  If the continuation
ends fully flushed, `all_utxos`, `limited_history` for every limit, the counters, height, tip, chain
size, `read_headers` and `fs_tx_hashes_at_blockheight` of the index that crashed between the two
batches answer exactly what the specification of the SURVIVING chain says — the chain with block `N`
(and whatever the continuation backed out) gone and the new branch's blocks in. -/
theorem C05run_newbranch_observables (cfg : Cfg) (ops ops' : List IOp2) {b : Block}
    (hv : ValidOps2 cfg {} (ops ++ [.backup b])) {s : Sys} (hs : runOps2 cfg {} ops = .ok s)
    (hv' : ValidOps2 cfg {} (ops ++ .reopen :: .backup b :: ops'))
    {e1 e2 : Effect} {s' : Sys} (hb : backupFull cfg s b = .ok ([e1, e2], s'))
    {er : List Effect} {r c : Sys} (hrec : recover cfg (applyEffects s.p [e1]) = some (er, r))
    (hc : runOps2 cfg r (.backup b :: ops') = .ok c) (hfl : c.m.dbst.height = c.m.st.height) :
    (∀ hx, ∃ rows, allUtxos c hx = some rows ∧
        rows.Perm (((specChain cfg.act (chainOf2 [] 0 (ops ++ .backup b :: ops'))).utxos.filter
          (·.hx == hx)).map (fun u => ⟨u.txnum, u.idx, u.txid, u.height, u.value⟩))) ∧
    (∀ hx limit, limitedHistory c hx limit =
        some (historyPairs (specChain cfg.act (chainOf2 [] 0 (ops ++ .backup b :: ops'))) hx limit)) ∧
    c.m.st.utxoCount = ((specChain cfg.act (chainOf2 [] 0 (ops ++ .backup b :: ops'))).utxos.length : Int) ∧
    c.m.st.txCount = (specChain cfg.act (chainOf2 [] 0 (ops ++ .backup b :: ops'))).txs.length ∧
    c.m.st.height = ((chainOf2 [] 0 (ops ++ .backup b :: ops')).length : Int) - 1 ∧
    c.m.st.tip = ((chainOf2 [] 0 (ops ++ .backup b :: ops')).getLast?.map (·.hash)).getD 0 ∧
    c.m.st.chainSize = ((chainOf2 [] 0 (ops ++ .backup b :: ops')).map (·.size)).sum ∧
    (∀ start count, readHeaders c start count =
      (((chainOf2 [] 0 (ops ++ .backup b :: ops')).map (·.header)).drop start).take
        (min (count : Int) (((chainOf2 [] 0 (ops ++ .backup b :: ops')).length : Int) - start)).toNat) ∧
    (∀ (h : Nat) (blk : Block), (chainOf2 [] 0 (ops ++ .backup b :: ops'))[h]? = some blk →
      txHashesAt c h = some (blk.txs.map (·.id))) := by
  obtain ⟨x1, x2, x3, er', r', -, -, -, c', hb', -, hrec', -, -, -, hc', -, -, inv⟩ :=
    C05run_newbranch cfg ops ops' hv hs hv'
  cases hb.symm.trans hb'
  cases hrec.symm.trans hrec'
  cases hc.symm.trans hc'
  exact observables_of_fullInv' inv hfl

/-- **C05 over runs (new branch): "the index again equals a fresh index of the daemon's chain".**
Setting of `C05run_newbranch`.  If the continuation ends fully flushed, the index that crashed between
the two batches answers every query exactly like the index `s0` of a server that only ever advanced
the surviving chain (which is a valid run of its own): same histories for every script hash and
limit, same UTXOs up to row order, same counters, height, tip and chain size, same headers, same
per-block transaction hashes. -/
theorem C05run_newbranch_fresh (cfg : Cfg) (ops ops' : List IOp2) {b : Block}
    (hv : ValidOps2 cfg {} (ops ++ [.backup b])) {s : Sys} (hs : runOps2 cfg {} ops = .ok s)
    (hv' : ValidOps2 cfg {} (ops ++ .reopen :: .backup b :: ops')) :
    ∃ e1 e2 s' er r c, backupFull cfg s b = .ok ([e1, e2], s') ∧
      recover cfg (applyEffects s.p [e1]) = some (er, r) ∧
      runOps2 cfg r (.backup b :: ops') = .ok c ∧
      (c.m.dbst.height = c.m.st.height →
        ∃ s0, ValidOps cfg [] (advOnly (chainOf2 [] 0 (ops ++ .backup b :: ops'))) ∧
          chainOf (advOnly (chainOf2 [] 0 (ops ++ .backup b :: ops'))) =
            chainOf2 [] 0 (ops ++ .backup b :: ops') ∧
          runOps cfg {} (advOnly (chainOf2 [] 0 (ops ++ .backup b :: ops')) ++ [.flush true]) = .ok s0 ∧
          SameAnswers c s0) := by
  obtain ⟨e1, e2, s', er, r, -, -, -, c, hb, -, hrec, -, -, -, hc, -, -, inv⟩ :=
    C05run_newbranch cfg ops ops' hv hs hv'
  refine ⟨e1, e2, s', er, r, c, hb, hrec, hc, fun hfl => ?_⟩
  obtain ⟨s0, hvo, hr0, hsame⟩ := fresh_of_flushed inv hfl
  exact ⟨s0, hvo, chainOf_advOnly _, hr0, hsame⟩

/-- **C05 over runs (new branch) vs the run that was never interrupted and never restarted.**
Setting of `C05run_newbranch`; suppose the crash-free run WITHOUT any restart,
`ops ++ [backup b] ++ ops'`, is valid too (end state `u`).  When both stand fully flushed, the index
that crashed between the two batches, restarted and backed the block out again answers every query
exactly like `u`.  (Literal store equality with `u` does not hold in model or code: flush ids, the
partition of history rows by flush id, pruned undo rows depend on the restart — `SameRedo` is with
the crash-free run that restarts cleanly where the crash happened.) -/
theorem C05run_newbranch_vs_uninterrupted (cfg : Cfg) (ops ops' : List IOp2) {b : Block}
    (hv : ValidOps2 cfg {} (ops ++ [.backup b])) {s : Sys} (hs : runOps2 cfg {} ops = .ok s)
    (hv' : ValidOps2 cfg {} (ops ++ .reopen :: .backup b :: ops'))
    (hvU : ValidOps2 cfg {} (ops ++ .backup b :: ops')) :
    ∃ e1 e2 s' er r c u, backupFull cfg s b = .ok ([e1, e2], s') ∧
      recover cfg (applyEffects s.p [e1]) = some (er, r) ∧
      runOps2 cfg r (.backup b :: ops') = .ok c ∧
      runOps2 cfg {} (ops ++ .backup b :: ops') = .ok u ∧
      (c.m.dbst.height = c.m.st.height → u.m.dbst.height = u.m.st.height → SameAnswers c u) := by
  obtain ⟨e1, e2, s', er, r, -, -, -, c, hb, -, hrec, -, -, -, hc, -, -, inv⟩ :=
    C05run_newbranch cfg ops ops' hv hs hv'
  obtain ⟨u, hu, invU⟩ := C03run_refinement cfg _ hvU
  exact ⟨e1, e2, s', er, r, c, u, hb, hrec, hc, hu, fun h1 h2 => sameAnswers_of_flushed inv h1 invU h2⟩

/-! ## non-vacuity

(1) The run of the F8 witness (`cxOps`: blocks 0 and 1, each a coinbase paying script hash 7, full
flush), block 1 backed out, crash between the two batches, NEW branch: block `cxB1n` on top of block
0.  (2) A run with a lost block, restarts and a history-only flush (`c05Ops` = the first seven
operations of `rxOps`), `rxB1` backed out, crash between the two batches, and a continuation with an
advance on the new branch, flushes of both kinds, a restart, and two further back-outs in a row. -/

/-- the new-branch block at height 1 (parent: block 0) -/
def cxB1n : Block :=
  { hash := 21, prev := 10, header := 201, size := 1,
    txs := [{ id := 5 * 2^224, ins := [cxGen], outs := [⟨9, 7, .normal⟩] }] }

def cxNew : List IOp2 := [.adv cxB1n 1, .flush true]

/-- all run-validity hypotheses of the theorems above hold for the witness run -/
theorem cx_valid :
    ValidOps2 cxCfg {} (cxOps ++ [.backup cxB1]) ∧
    ValidOps2 cxCfg {} (cxOps ++ .reopen :: .backup cxB1 :: cxNew) ∧
    ValidOps2 cxCfg {} (cxOps ++ .backup cxB1 :: cxNew) ∧ 0 < cxCfg.reorgLimit := by
  decide +kernel

theorem cx_names {e1 e2 : Effect} {s' : Sys} (hb : backupFull cxCfg cxS cxB1 = .ok ([e1, e2], s')) :
    e1 = cxE1 ∧ e2 = cxE2 ∧
      ∀ {er : List Effect} {r : Sys}, recover cxCfg (applyEffects cxS.p [cxE1]) = some (er, r) → cxR = r := by
  have hes := cx_backup
  rw [hb] at hes
  simp only [Option.some.injEq, List.cons.injEq, and_true] at hes
  refine ⟨hes.1, hes.2, fun hrec => ?_⟩
  have hr := cx_recover
  rw [hrec] at hr
  exact (Option.some.inj hr).symm

/-- the store the crash between the two batches leaves, once restarted, REALLY differs from the
    restart of the store before the back-out and from the store after it (and so do the restarted
    systems): it is a third state, reached by no crash-free run -/
example :
    (recover cxCfg (applyEffects cxS.p [cxE1])).map (·.2) = some cxR ∧
    cxR.p ≠ cxS.p ∧ cxR.p ≠ applyEffects cxS.p [cxE1, cxE2] ∧
    cxR.p.hist = [((7, 1), [0])] ∧ cxS.p.hist = [((7, 1), [0, 1])] ∧
    cxR.p.u = cxS.p.u ∧ (applyEffects cxS.p [cxE1, cxE2]).u = [((7, 0, 0), 5)] := by
  exact ⟨cx_recover, by decide +kernel⟩

/-- `C05run_newbranch` on the witness: after the crash between the two batches, the restart (`cxR`),
    the repeated back-out of block 1 and the new-branch block, the index is fully flushed at height 1
    with tip `cxB1n` and the history of script hash 7 is the new chain's — transactions 0 and 1 with
    the new block's tx hash — where the old-branch continuation (F8) ends with a wrong history -/
theorem cx_newbranch :
    ∃ c, runOps2 cxCfg cxR (.backup cxB1 :: cxNew) = .ok c ∧ c.m.dbst.height = c.m.st.height ∧
      c.m.st.height = 1 ∧ c.m.st.tip = 21 ∧
      limitedHistory c 7 none = some [(2^224, 0), (5 * 2^224, 1)] ∧
      getTxnums c.p 7 none = [0, 1] := by
  obtain ⟨h1, h2, -, -⟩ := cx_valid
  obtain ⟨e1, e2, s', er, r, e1', s2, a, c, hb, -, hrec, -, -, -, hc, T, -, inv⟩ :=
    C05run_newbranch cxCfg cxOps cxNew h1 cxOps_run h2
  obtain ⟨rfl, rfl, hR⟩ := cx_names hb
  cases hR hrec
  have hfl : c.m.dbst.height = c.m.st.height := T.tb.flushed (by decide +kernel)
  obtain ⟨-, hh, -, -, hht, htip, -, -, -⟩ := observables_of_fullInv' inv hfl
  have hchain : chainOf2 [] 0 (cxOps ++ .backup cxB1 :: cxNew) = [cxB0, cxB1n] := by decide +kernel
  rw [hchain] at hh hht htip inv
  refine ⟨c, hc, hfl, by rw [hht]; rfl, by rw [htip]; rfl, ?_, ?_⟩
  · rw [hh 7 none]; decide +kernel
  · rw [getTxnums_of_flushed inv.base hfl 7]
    decide +kernel

/-- …and it answers every query like the run that was never interrupted -/
example : ∃ c u, runOps2 cxCfg cxR (.backup cxB1 :: cxNew) = .ok c ∧
    runOps2 cxCfg {} (cxOps ++ .backup cxB1 :: cxNew) = .ok u ∧ SameAnswers c u := by
  obtain ⟨h1, h2, h3, -⟩ := cx_valid
  obtain ⟨c, hc, hfl, -⟩ := cx_newbranch
  obtain ⟨e1, e2, s', er, r, c', u, hb, hrec, hc', hu, hsame⟩ :=
    C05run_newbranch_vs_uninterrupted cxCfg cxOps cxNew h1 cxOps_run h2 h3
  obtain ⟨rfl, rfl, hR⟩ := cx_names hb
  cases hR hrec
  rw [hc] at hc'
  cases hc'
  exact ⟨c, u, hc, hu, hsame hfl ((trackInv_of_run h3 hu).flushed (by decide +kernel))⟩

/-- the harmless cuts and the restart after the cut between the batches on the witness: all
    hypotheses are satisfied -/
example : ∃ r0 r r3, (recover cxCfg (applyEffects cxS.p [])).map (·.2) = some r0 ∧
    (recover cxCfg (applyEffects cxS.p [cxE1])).map (·.2) = some r ∧
    (recover cxCfg (applyEffects cxS.p [cxE1, cxE2])).map (·.2) = some r3 ∧
    r0.m.dbst.height = 1 ∧ r.m.dbst.height = 1 ∧ r3.m.dbst.height = 0 := by
  obtain ⟨h1, -, -, hlim⟩ := cx_valid
  obtain ⟨e1, e2, s', hb, -, ⟨e0, r0, hrec0, hh0, -⟩, ⟨e3, r3, hrec3, hh3, -⟩⟩ :=
    C05run_cut_harmless cxCfg cxOps h1 cxOps_run
  obtain ⟨rfl, rfl, -⟩ := cx_names hb
  refine ⟨r0, cxR, r3, by rw [hrec0]; rfl, cx_recover, by rw [hrec3]; rfl, by rw [hh0]; rfl, rfl,
    by rw [hh3]; rfl⟩

/-- a run with a lost block, two restarts and a history-only flush, ending fully flushed on
    `[rxB0, rxB1]` -/
def c05Ops : List IOp2 := rxOps.take 7

def c05Cont : List IOp2 :=
  [.adv rxB1' 1, .flush true, .reopen, .adv rxB2 2, .flush false, .flush true, .backup rxB2,
   .backup rxB1']

theorem c05_valid :
    ValidOps2 rxCfg {} (c05Ops ++ [.backup rxB1]) ∧
    ValidOps2 rxCfg {} (c05Ops ++ .reopen :: .backup rxB1 :: c05Cont) := by
  decide +kernel

theorem c05Ops_valid : ValidOps2 rxCfg {} c05Ops :=
  ((validOps2_append rxCfg {} c05Ops [.backup rxB1]).mp c05_valid.1).1

/-- `FlushedB` (the hypothesis of `C05_newbranch_partial`) holds in the end state of that run — a state
    whose tip block `rxB1` SPENDS an output, so its undo list is not empty and the repeated back-out
    goes through `restoreInputs` -/
example : ∃ s, runOps2 rxCfg {} c05Ops = .ok s ∧ FlushedB rxCfg s ∧
    alookup 1 s.p.undo = some [⟨1, 0, 50⟩] := by
  obtain ⟨s, hs, inv⟩ := C03run_refinement rxCfg c05Ops c05Ops_valid
  refine ⟨s, hs, C05run_flushedB rxCfg c05Ops c05_valid.1 hs (by decide +kernel), ?_⟩
  have hk : (1 : Nat) ∈ (Track.run rxCfg {} c05Ops).kept := by decide +kernel
  have hchain : chainOf2 [] 0 c05Ops = [rxB0] ++ rxB1 :: [] := by decide +kernel
  have hu := inv.undo 1 hk [rxB0] rxB1 [] hchain rfl
  obtain ⟨-, -, hundoU⟩ := inv.base.flushedU ((trackInv_of_run c05Ops_valid hs).flushed (by decide +kernel))
  rw [undoLookup_of_nil hundoU] at hu
  rw [hu]
  decide +kernel

/-- `C05run_newbranch` on that run: the crash between the two batches of the back-out of `rxB1`, the
    restart, the repeated back-out and the whole continuation succeed; the index ends fully flushed
    on `[rxB0]` -/
example : ∃ s e1 e2 s' er r c, runOps2 rxCfg {} c05Ops = .ok s ∧
    backupFull rxCfg s rxB1 = .ok ([e1, e2], s') ∧
    recover rxCfg (applyEffects s.p [e1]) = some (er, r) ∧
    runOps2 rxCfg r (.backup rxB1 :: c05Cont) = .ok c ∧
    c.m.dbst.height = c.m.st.height ∧ c.m.st.height = 0 ∧ c.m.st.tip = 7 := by
  obtain ⟨h1, h2⟩ := c05_valid
  obtain ⟨s, hs, -⟩ := C03run_refinement rxCfg c05Ops c05Ops_valid
  obtain ⟨e1, e2, s', er, r, e1', s2, a, c, hb, -, hrec, -, -, -, hc, T, -, inv⟩ :=
    C05run_newbranch rxCfg c05Ops c05Cont h1 hs h2
  have hfl : c.m.dbst.height = c.m.st.height := T.tb.flushed (by decide +kernel)
  have hchain : chainOf2 [] 0 (c05Ops ++ .backup rxB1 :: c05Cont) = [rxB0] := by decide +kernel
  rw [hchain] at inv
  refine ⟨s, e1, e2, s', er, r, c, hs, hb, hrec, hc, hfl, ?_, ?_⟩
  · rw [inv.base.files.height]; rfl
  · rw [inv.base.tip]; rfl

/-! three crashes in one sync: between the two batches of the back-out of `rxB1`; during block
processing (cut `[]` of a flush) after the fork block was indexed — it is lost and indexed again;
between the two batches of the back-out of `rxB2` -/

def c05E1 : List IOp2 := c05Ops ++ [.reopen, .backup rxB1]
def c05E2 : List IOp2 := c05E1 ++ [.adv rxB1' 1] ++ [.reopen]
def c05E3 : List IOp2 := c05E2 ++ [.adv rxB1' 1, .flush true, .adv rxB2 2, .flush true]
def c05E4 : List IOp2 := c05E3 ++ [.reopen, .backup rxB2]
def c05E5 : List IOp2 := c05E4 ++ [.backup rxB1']

theorem c05E5_valid : ValidOps2 rxCfg {} c05E5 := by decide +kernel

/-- a state reached through those three crashes exists (`C05run_crashes_progress` supplies every
    step), its explaining run `c05E5` is valid, and it is a fully flushed correct index of `[rxB0]` -/
theorem c05Thrice : ∃ b, Crashed rxCfg c05E5 b ∧ b.m.dbst.height = b.m.st.height ∧
    b.m.st.height = 0 ∧ b.m.st.tip = 7 ∧
    limitedHistory b 1 none = some [(11, 0)] := by
  obtain ⟨s0, hs0, -⟩ := C03run_refinement rxCfg c05Ops c05Ops_valid
  have c0 : Crashed rxCfg c05Ops s0 := by
    have := (Crashed.init (cfg := rxCfg)).run c05Ops hs0
    rwa [List.nil_append] at this
  -- the explaining run is evaluated once: its prefixes are valid
  obtain ⟨v4, -⟩ := (validOps2_append rxCfg {} c05E4 _).mp c05E5_valid
  obtain ⟨v3, -⟩ := (validOps2_append rxCfg {} c05E3 _).mp v4
  obtain ⟨v2, -⟩ := (validOps2_append rxCfg {} c05E2 _).mp v3
  obtain ⟨v1, -⟩ := (validOps2_append rxCfg {} (c05E1 ++ [IOp2.adv rxB1' 1]) _).mp v2
  obtain ⟨-, -, p1⟩ := C05run_crashes_progress c0 c05Ops_valid
  obtain ⟨e1, e2, b', e, r, e1', r2, hb, hrec, hbk⟩ := p1 rxB1 (by decide +kernel) (by decide +kernel)
  have c1 : Crashed rxCfg c05E1 r2 := Crashed.backupMid c0 hb hrec hbk
  obtain ⟨b3, -, c2⟩ := C05run_crashes_continue c1 [.adv rxB1' 1] v1
  obtain ⟨p2, -, -⟩ := C05run_crashes_progress c2 v1
  obtain ⟨es, m', hf, hcuts⟩ := p2 true
  obtain ⟨e3, r3, hrec3⟩ := hcuts [] (nil_mem_cuts es)
  have c3 : Crashed rxCfg c05E2 r3 :=
    Crashed.flushBefore c2 hf (nil_mem_cuts es) (by intro x hx; simp at hx) hrec3
  obtain ⟨b4, -, c4⟩ := C05run_crashes_continue c3
    [.adv rxB1' 1, .flush true, .adv rxB2 2, .flush true] v3
  obtain ⟨-, -, p4⟩ := C05run_crashes_progress c4 v3
  obtain ⟨f1, f2, b5', e5, r5, f1', r6, hb5, hrec5, hbk5⟩ := p4 rxB2 (by decide +kernel) (by decide +kernel)
  have c5 : Crashed rxCfg c05E4 r6 := Crashed.backupMid c4 hb5 hrec5 hbk5
  obtain ⟨b7, -, c7⟩ := C05run_crashes_continue c5 [.backup rxB1'] c05E5_valid
  obtain ⟨a, -, T⟩ := C05run_crashes c7 c05E5_valid
  have hfl : b7.m.dbst.height = b7.m.st.height := T.tb.flushed (by decide +kernel)
  obtain ⟨-, hh, -, -, hht, htip, -, -, -⟩ := C05run_crashes_observables c7 c05E5_valid hfl
  have hchain : chainOf2 [] 0 (c05E4 ++ [.backup rxB1']) = [rxB0] := by decide +kernel
  rw [hchain] at hh hht htip
  refine ⟨b7, c7, hfl, by rw [hht]; rfl, by rw [htip]; rfl, ?_⟩
  rw [hh 1 none]; decide +kernel

/-- …and it answers every query like the index that only ever saw `[rxB0]` -/
example : ∃ b u, Crashed rxCfg c05E5 b ∧ runOps2 rxCfg {} [.adv rxB0 0, .flush true] = .ok u ∧
    SameAnswers b u := by
  obtain ⟨b, cb, hfl, -⟩ := c05Thrice
  obtain ⟨u, hu, ti⟩ := trackInv_run [.adv rxB0 0, .flush true] (trackInv_init rxCfg) (by decide +kernel)
  exact ⟨b, u, cb, hu,
    (C05run_crashes_vs_uninterrupted cb c05E5_valid hfl _ (by decide +kernel) (by decide +kernel) hu
      (ti.flushed (by decide +kernel))).1⟩

end EV.Index
