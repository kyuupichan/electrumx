import EV.Proofs.CompactTotal
import EV.Proofs.IndexHist
import EV.Proofs.CompactEval
import EV.Gen.Consts

/-!
# C14 — history compaction never changes any script hash's history

> Running the history compaction tool on any database - in one go, stopped and resumed after any
> batch, or killed between batches - leaves every script hash's history exactly as before; a server
> started after a complete or abandoned compaction serves the same histories, and blocks indexed or
> undone afterwards still yield exact, ordered histories.

Model: `EV/Model/Compact.lean` (literal model of `History._compact_hashX / _compact_prefix /
_compact_history / _flush_compaction`, the driver script `electrumx_compact_history`,
`DB.set_flush_count`) on the store of `EV/Model/Index.lean` (`getTxnums`, `openDbs` with
`clear_excess` and `_cancel_compaction`, `histFlushEffect`); tied to the real classes on LevelDB by
the `compaction` suite on every run.

The history of a script hash is `getTxnums p hx none` (what `History.get_txnums(hashX, None)`
yields: the rows of the hashX concatenated in key order).  All theorems are for **every** store,
every row length (rows longer than a compacted row included), every `max_hist_row_entries > 0`, every
batch limit (0 included), every number of batches.

Hypotheses, all explicit predicates (non-vacuity examples at the end of the file):
* `NodupKeys hist` - a LevelDB table holds each key once (the model keeps tables as lists);
* `HxWidth hist` - hashXs are 11 bytes (`hx < 2^88`): only such keys are reached by the 65536 prefixes;
* `IdsOrdered hist F cfc cursor` - **the ordering hypothesis**: ids of hashXs below the compaction
  cursor are `≤ comp_flush_count`, all others `≤ flush_count`.  With no compaction in progress
  (`cursor = -1`) it says that every id is `≤ flush_count`, i.e. that key order has been chronological
  order so far *and stays so for the next flush*;
* `IdsTight`, `CfcTight` - compacted hashXs occupy exactly ids `0 … n-1`, and `comp_flush_count` is
  `≤ 1` or one less than the row count of some hashX (both hold trivially when no compaction is in
  progress; they are what a partly compacted database looks like);
* `hF p ≤ uF p` (`PInv.notAhead`) - the history DB is not ahead of the UTXO DB: otherwise the first
  thing any start does is `clear_excess`, which deletes rows by design (C04's business, not C14's).
Width facts that the *model* does not need because its ids are unbounded naturals, but the
correspondence with the byte-level code does: flush ids `< 2^16` (at 65536 `pack_be_uint16` raises:
modelled as `CErr.structError` inside `_compact_hashX`, never reached by the suite), tx numbers `< 2^40`.
-/
namespace EV.Compact
open EV.Index

/-! ### constants read from the source (`harness/gen_consts.py`) -/

/-- `util.chunks` needs a positive row size (12500 at present) -/
theorem C14_maxRow_pos : 0 < EV.Gen.maxHistRowEntries := by decide

/-- the 2-byte prefix of an 11-byte hashX: `prefixOf hx = hx / 256^(HASHX_LEN - 2)` -/
theorem C14_prefix_width : (2 : Nat) ^ 72 = 256 ^ (EV.Gen.hashXLen - 2) := by decide

/-- **C14 (one batch, histories).**  A `_compact_history(limit)` call that returns leaves
`get_txnums` of **every** hashX - compacted in this batch, earlier, or not yet - unchanged; it
commits exactly one write batch.  Needs nothing but distinct keys.  (A call that raises has not
reached `_flush_compaction`: `compactHistory` then yields no effect at all.) -/
theorem C14_batch_histories (maxRow limit : Nat) (hm : 0 < maxRow) (s : Sys) (e : Effect) (s' : Sys)
    (hn : NodupKeys s.p.hist) (h : compactHistory maxRow limit s = .ok (e, s')) :
    (∀ hx, getTxnums s'.p hx none = getTxnums s.p hx none) ∧ NodupKeys s'.p.hist :=
  let ⟨_, _, hB⟩ := compactHistory_ok maxRow limit s e s' hn h
  ⟨hB.rows.getTxnums hm hn, hB.rows.nodup⟩

/-- **C14 (one batch).**  For every system whose rows satisfy the ordering hypothesis and every
limit: one `_compact_history` batch leaves the history of every hashX unchanged, is one atomic
`histBatch` (deletes, then puts, then the state record, which equals the in-memory state), touches
no other table, and re-establishes the ordering hypothesis (`SInv`) for the next batch. -/
theorem C14_batch (maxRow limit : Nat) (hm : 0 < maxRow) (s : Sys) (e : Effect) (s' : Sys)
    (hI : SInv maxRow s) (h : compactHistory maxRow limit s = .ok (e, s')) :
    (∀ hx, getTxnums s'.p hx none = getTxnums s.p hx none) ∧ SInv maxRow s' ∧
    s'.p = applyEffect s.p e ∧ (∃ dels puts, e = .histBatch dels puts (hstateOf s'.m)) ∧
    SameOther s.p s'.p := by
  obtain ⟨k, cfc', hB⟩ := compactHistory_ok maxRow limit s e s' hI.nodup h
  exact ⟨hB.rows.getTxnums hm hI.nodup, (hB.sinv hm hI).1, hB.store, hB.eff, hB.sameOther⟩

/-- the same for the row size of the source -/
theorem C14_batch_pinned (limit : Nat) (s : Sys) (e : Effect) (s' : Sys)
    (hI : SInv EV.Gen.maxHistRowEntries s)
    (h : compactHistory EV.Gen.maxHistRowEntries limit s = .ok (e, s')) :
    (∀ hx, getTxnums s'.p hx none = getTxnums s.p hx none) ∧ SInv EV.Gen.maxHistRowEntries s' :=
  let r := C14_batch EV.Gen.maxHistRowEntries limit C14_maxRow_pos s e s' hI h
  ⟨r.1, r.2.1⟩

/-- **C14 (a batch does not raise).**  The batch theorems are not vacuous: on a table without empty
rows (`History.flush` / `History.backup` / compaction never write one) in which no hashX needs more
than 65536 rows, `_compact_history(limit)` returns for every limit, given a compaction cursor `≥ 0`
(the driver script provides it) - and both hypotheses hold again afterwards.  Outside them the real
code raises (`assert n + 1 == nrows`, `struct.error`), modelled as `CErr`, before anything is written. -/
theorem C14_batch_total (maxRow limit : Nat) (hm : 0 < maxRow) (s : Sys) (hT : TInv maxRow s)
    (hc : 0 ≤ s.m.compCursor ∨ limit = 0) :
    ∃ e s', compactHistory maxRow limit s = .ok (e, s') ∧ TInv maxRow s' := by
  obtain ⟨e, s', h⟩ := compactHistory_total maxRow limit hm s hT.nodup hT.noEmpty hT.rowCount hc
  exact ⟨e, s', h, tinv_batch maxRow limit hm s e s' hT h⟩

/-- **C14 (any interruption).**  Take any sequence of processes on the database directory: runs of
the compaction script that are stopped or killed after any number of batches (each batch with any
limit; batches are atomic, so "killed during a batch" is "before" or "after" it), that resume where
the state record says, or that run to the end and die before or after `set_flush_count`; and normal
server starts in between.  Then at **every** point of the sequence the history of every hashX is
what it was at the start, the invariant holds again, and a server opened at that point
(`open_for_sync` / `open_for_serving`: `clear_excess`, `_cancel_compaction`) serves the same
histories.
Side condition (`AllOK`): a run whose `set_flush_count` is lost must start from a store whose UTXO
flush count is `≥ 1` and covers the compacted row ids (`RowsFit … (uF p)`): without it the claim is
false - `C14_counterexample_lost_set_flush_count_clear_excess`. -/
theorem C14_any_interruption (cfg : Cfg) (maxRow : Nat) (hm : 0 < maxRow) (p0 : Store) (evs : List Ev)
    (hP : PInv maxRow p0) (hok : AllOK cfg maxRow p0 evs) (n : Nat) :
    (∀ hx, getTxnums (runEvs cfg maxRow p0 (evs.take n)) hx none = getTxnums p0 hx none) ∧
    PInv maxRow (runEvs cfg maxRow p0 (evs.take n)) ∧
    (∀ keep es s, openDbs cfg (runEvs cfg maxRow p0 (evs.take n)) false keep = some (es, s) →
      ∀ hx, getTxnums s.p hx none = getTxnums p0 hx none) := by
  obtain ⟨h1, h2⟩ := runEvs_inv cfg maxRow hm p0 (evs.take n) hP (allOK_take cfg maxRow p0 evs n hok)
  refine ⟨h1, h2, ?_⟩
  intro keep es s ho hx
  obtain ⟨o1, _⟩ := openDbs_spec cfg _ false keep es s h2.notAhead ho
  rw [getTxnums_congr o1, h1]

/-- **C14 (any interruption, unrestricted).**  If no run loses its `set_flush_count`, nothing but
the invariant is assumed of the database. -/
theorem C14_any_interruption_unrestricted (cfg : Cfg) (maxRow : Nat) (hm : 0 < maxRow) (p0 : Store)
    (evs : List Ev) (hP : PInv maxRow p0)
    (hset : ∀ limits b, Ev.compact limits b ∈ evs → b = true) (n : Nat) :
    (∀ hx, getTxnums (runEvs cfg maxRow p0 (evs.take n)) hx none = getTxnums p0 hx none) ∧
    PInv maxRow (runEvs cfg maxRow p0 (evs.take n)) :=
  let r := C14_any_interruption cfg maxRow hm p0 evs hP (allOK_of_setFlush cfg maxRow p0 evs hset) n
  ⟨r.1, r.2.1⟩

/-- **C14 (in one go).**  The script with positive limits (it uses 8 000 000) allowed to run - 65536
iterations always suffice, each batch handles at least one prefix - on a database it can open
(`openDbs … = some`, `first_sync` false), without empty rows or hashXs of more than 65536 rows: it
does reach the end; afterwards every history is unchanged, no compaction is in progress on disk, both
flush counts agree, and every row id is `≤` the flush count (so `C14_then_index` applies with its
first alternative). -/
theorem C14_one_go (cfg : Cfg) (maxRow : Nat) (hm : 0 < maxRow) (p : Store) (limits : List Nat)
    (hP : PInv maxRow p) (he : NoEmptyRows p.hist) (hw : RowCountOK maxRow p)
    (hcur : (hsOf p).compCursor = -1 ∨ (0 ≤ (hsOf p).compCursor ∧ (hsOf p).compCursor < 65536))
    (hl : ∀ l ∈ limits, 0 < l) (hlen : 65536 ≤ limits.length)
    (es : List Effect) (s : Sys) (ho : openDbs cfg p true none = some (es, s))
    (hfs : s.m.dbst.firstSync = false) :
    (∀ hx, getTxnums (compactScript cfg maxRow p limits true) hx none = getTxnums p hx none) ∧
    PInv maxRow (compactScript cfg maxRow p limits true) ∧
    (hsOf (compactScript cfg maxRow p limits true)).compCursor = -1 ∧
    uF (compactScript cfg maxRow p limits true) = hF (compactScript cfg maxRow p limits true) ∧
    AllIdsLE (compactScript cfg maxRow p limits true) := by
  obtain ⟨h1, h2⟩ := compactScript_inv cfg maxRow hm p limits true hP (Or.inl rfl)
  obtain ⟨h3, h4⟩ := compactScript_completes cfg maxRow hm p limits hP he hw hcur hl hlen es s ho hfs
  exact ⟨h1, h2, h3, h4, allIdsLE_of_idle h2 h3⟩

theorem then_index_start {cfg : Cfg} {maxRow : Nat} {p : Store} (hP : PInv maxRow p)
    (hcase : (hsOf p).compCursor = -1 ∨ RowsFit maxRow p (hF p))
    {keep : Option (List Nat)} {es : List Effect} {s0 : Sys} (ho : openDbs cfg p false keep = some (es, s0))
    {s : Sys} (hp : s.p = s0.p) (hm : s.m.histFlush = s0.m.histFlush) :
    s.p.hist = p.hist ∧ s.m.histFlush = hF p ∧ HistWF s.p.hist s.m.histFlush ∧
    s0.m.compFlush = -1 ∧ s0.m.compCursor = -1 := by
  obtain ⟨o1, _, _, o4, o5, o6⟩ := openDbs_spec cfg p false keep es s0 hP.notAhead ho
  have hle : AllIdsLE p := hcase.elim (allIdsLE_of_idle hP) (allIdsLE_of_fit hP)
  have hhist : s.p.hist = p.hist := by rw [hp, o1]
  have hfl : s.m.histFlush = hF p := by rw [hm, o4]
  exact ⟨hhist, hfl, ⟨hhist ▸ hP.nodup, fun e he => hfl ▸ hle e (hhist ▸ he)⟩, o5, o6⟩

/-- **C14 (then index).**  Let `p` be any store the sequences above can reach (`PInv`), on which
either no compaction is in progress - in particular after a **complete** compaction, with or
without `set_flush_count` - or an **abandoned** one under the property's restriction: no hashX needs
more compacted rows than the flush count allows (`RowsFit maxRow p (hF p)`: at most `flush_count + 1`
rows, ids `0 … flush_count`; the property says "not more rows than the flush count").
Open it normally, let the block processor accumulate any `unflushed` dict, and flush: the flush id
`flush_count + 1` is larger than every existing id of every hashX, so for **every** hashX the new tx
numbers are appended to its history and nothing else changes; ids are again all `≤` the new flush
count (so the statement applies to the next flush as well), and the state record written has the
compaction fields cancelled. -/
theorem C14_then_index (cfg : Cfg) (maxRow : Nat) (p : Store) (hP : PInv maxRow p)
    (hcase : (hsOf p).compCursor = -1 ∨ RowsFit maxRow p (hF p))
    (keep : Option (List Nat)) (es : List Effect) (s0 : Sys)
    (ho : openDbs cfg p false keep = some (es, s0))
    (s : Sys) (hp : s.p = s0.p) (hm : s.m.histFlush = s0.m.histFlush)
    (hcf : s.m.compFlush = s0.m.compFlush) (hcc : s.m.compCursor = s0.m.compCursor)
    (hu : (s.m.unflushed.map (·.1)).Nodup) :
    (∀ e ∈ s.p.hist, e.1.2 < s.m.histFlush + 1) ∧
    (∀ hx, getTxnums (applyEffect s.p (histFlushEffect s)) hx none =
      getTxnums p hx none ++ (alookup hx s.m.unflushed).getD []) ∧
    NodupKeys (applyEffect s.p (histFlushEffect s)).hist ∧
    AllIdsLE (applyEffect s.p (histFlushEffect s)) ∧
    (applyEffect s.p (histFlushEffect s)).hstate =
      some { flushCount := hF p + 1, compFlushCount := -1, compCursor := -1 } := by
  obtain ⟨hhist, hfl, hwf, o5, o6⟩ := then_index_start hP hcase ho hp hm
  have hwf' := histWF_histFlush s hwf
  refine ⟨fun e he => Nat.lt_succ_of_le (hwf.ids e he), fun hx => ?_, hwf'.keys, fun e he => ?_, ?_⟩
  · rw [getTxnums_histFlush s hwf hu, getTxnums_congr hhist]; rfl
  · rw [hF_of_hstate (hstate_histFlush s)]; exact hwf'.ids e he
  · rw [hstate_histFlush]; unfold hstateOf
    rw [hfl, hcf, hcc, o5, o6]

/-- **C14 (then index, and on).**  Under the hypotheses of `C14_then_index`, with 11-byte hashXs in
the `unflushed` dict: once the UTXO DB has caught up with the flush (`uF ≥ flush_count + 1`: the
UTXO batch of the same `flush_dbs` writes it), the store satisfies the invariant `PInv` again - so
`C14_any_interruption` applies to the next compaction, and `C14_then_index` to the flush after it. -/
theorem C14_then_index_again (cfg : Cfg) (maxRow : Nat) (p : Store) (hP : PInv maxRow p)
    (hcase : (hsOf p).compCursor = -1 ∨ RowsFit maxRow p (hF p))
    (keep : Option (List Nat)) (es : List Effect) (s0 : Sys)
    (ho : openDbs cfg p false keep = some (es, s0))
    (s : Sys) (hp : s.p = s0.p) (hm : s.m.histFlush = s0.m.histFlush)
    (hcf : s.m.compFlush = s0.m.compFlush) (hcc : s.m.compCursor = s0.m.compCursor)
    (hu : (s.m.unflushed.map (·.1)).Nodup) (huw : ∀ e ∈ s.m.unflushed, e.1 < 2 ^ 88)
    (p' : Store) (h1 : p'.hist = (applyEffect s.p (histFlushEffect s)).hist)
    (h2 : p'.hstate = (applyEffect s.p (histFlushEffect s)).hstate) (h3 : hF p + 1 ≤ uF p') :
    PInv maxRow p' := by
  obtain ⟨hhist, _⟩ := then_index_start hP hcase ho hp hm
  obtain ⟨_, _, t3, t4, t5⟩ := C14_then_index cfg maxRow p hP hcase keep es s0 ho s hp hm hcf hcc hu
  have hF' : hF (applyEffect s.p (histFlushEffect s)) = hF p + 1 := hF_of_hstate t5
  refine pinv_of_hinv (st := { flushCount := hF p + 1, compFlushCount := -1, compCursor := -1 }) h1
    (hsOf_of_hstate (h2.trans t5)) (.idle t3 (fun e he => ?_) fun e he => hF' ▸ t4 e he) h3
  -- a row after the flush is an old one or an `unflushed` entry
  rcases mem_hist_histFlush s he with h | h
  · exact hP.width e (hhist ▸ h)
  · exact huw _ h.1

/-- **C14 (then undo).**  `History.backup(hashXs, tx_count)` - what undoing blocks does to the
history DB - on **any** table with distinct keys, hence on every store the sequences above can
reach, compacted, partly compacted or not, before or after further flushes: every touched hashX
whose history is ascending (chronological: tx numbers only grow; compaction does not change
histories, so it does not change this either) keeps exactly its entries below `tx_count`, every
other hashX keeps its history, keys stay distinct and no new key appears (so all ids stay `≤` the
flush count, which `backup` increments). -/
theorem C14_then_undo (s : Sys) (touched : List HashX) (tc : Nat) (hn : NodupKeys s.p.hist) :
    NodupKeys (applyEffect s.p (histBackupEffect s touched tc)).hist ∧
    (∀ hx ∈ touched, (getTxnums s.p hx none).Pairwise (· ≤ ·) →
      getTxnums (applyEffect s.p (histBackupEffect s touched tc)) hx none =
        (getTxnums s.p hx none).takeWhile (fun n => decide (n < tc))) ∧
    (∀ hx, hx ∉ touched →
      getTxnums (applyEffect s.p (histBackupEffect s touched tc)) hx none = getTxnums s.p hx none) ∧
    (∀ e ∈ (applyEffect s.p (histBackupEffect s touched tc)).hist, ∃ e' ∈ s.p.hist, e'.1 = e.1) :=
  ⟨nodup_keys_histBackup s touched tc hn,
    fun _ hxt hs => getTxnums_histBackup_of_mem s touched tc hn hxt hs,
    fun _ hxt => getTxnums_histBackup_of_not_mem s touched tc hn hxt,
    fun e he => List.mem_map.mp (keys_histBackup s touched tc e he)⟩

namespace Cex

def cfg : Cfg := { act := 0, reorgLimit := 10 }
/-- a hashX of the last 2-byte prefix (so that a resumed compaction has one prefix left to do) -/
def hx : HashX := 65535 * 2 ^ 72 + 7

/-- a database flushed four times (one tx number of `hx` per flush), compaction in progress with
    everything but the last prefix done -/
def pre : Store :=
  { ustate := some { height := 0, txCount := 4, chainSize := 100, tip := 1000, flushCount := 4,
                     utxoCount := 0, firstSync := false },
    hist := [((hx, 1), [0]), ((hx, 2), [1]), ((hx, 3), [2]), ((hx, 4), [3])],
    hstate := some { flushCount := 4, compFlushCount := 1, compCursor := 65535 },
    headers := [500], txcounts := [4], hashes := [10, 11, 12, 13] }

def post (uflush : Nat) : Store :=
  { ustate := some { height := 0, txCount := 4, chainSize := 100, tip := 1000, flushCount := uflush,
                     utxoCount := 0, firstSync := false },
    hist := [((hx, 0), [0, 1, 2, 3])],
    hstate := some { flushCount := 1, compFlushCount := -1, compCursor := -1 },
    headers := [500], txcounts := [4], hashes := [10, 11, 12, 13] }

/-- block 1: one transaction (tx number 4) paying `hx` -/
def blk : Block := ⟨1001, 1000, 501, 50, [⟨14, [], [⟨5, hx, .normal⟩]⟩]⟩

def exToOpt {α : Type} : Except Err α → Option α
  | .ok a => some a
  | .error _ => none

/-- server start on `p`, index block 1, flush - the process dies after the first `k` effects of the
    flush (`k = 4`: after the history commit, before the UTXO commit); server start, index block 1
    again, flush completely.  Result: the history of `hx`. -/
def crashDuringFlush (p : Store) (k : Nat) : Option (List Nat) :=
  (openDbs cfg p false none).bind fun r0 =>
  (exToOpt (advance cfg 1 r0.2 blk)).bind fun s1 =>
  (flushDbs s1 true).bind fun f1 =>
  (openDbs cfg (applyEffects s1.p (f1.1.take k)) false none).bind fun r2 =>
  (exToOpt (advance cfg 1 r2.2 blk)).bind fun s3 =>
  (exToOpt (flush s3 true)).bind fun s4 =>
  some (getTxnums s4.p hx none)

end Cex

open Cex in
/-- **Finding F9 (C14 × C04).**  The last batch of a compaction commits, the process dies before
`set_flush_count`: the history DB's flush count (1) is now *below* the UTXO DB's (4).  Histories are
intact (first two clauses: `C14_any_interruption` covers this point).  But if the server then crashes
between the history commit and the UTXO commit of its next flush, `clear_excess` does not fire
(`2 ≤ 4`), the uncommitted row survives, and re-indexing the block appends tx number 4 a second time:
`[0,1,2,3,4,4]`.  With `set_flush_count` done (`post 1`) the same crash is repaired: `[0,1,2,3,4]`. -/
theorem C14_counterexample_after_lost_set_flush_count :
    compactScript cfg 4 pre [8000000] false = post 4 ∧
    getTxnums (post 4) hx none = getTxnums pre hx none ∧
    crashDuringFlush (post 4) 4 = some [0, 1, 2, 3, 4, 4] ∧
    compactScript cfg 4 pre [8000000] true = post 1 ∧
    crashDuringFlush (post 1) 4 = some [0, 1, 2, 3, 4] := by
  simp only [compactScript, driverLoop, compactHistory, histLoop_eval, crashDuringFlush, getTxnums_eval]
  decide +kernel

namespace Cex

def pre2 : Store :=
  { ustate := some { height := 0, txCount := 10, chainSize := 100, tip := 1000, flushCount := 1,
                     utxoCount := 0, firstSync := false },
    hist := [((hx, 1), [0, 1, 2, 3, 4, 5, 6, 7, 8, 9])],
    hstate := some { flushCount := 1, compFlushCount := 1, compCursor := 65535 },
    headers := [500], txcounts := [10], hashes := [10, 11, 12, 13, 14, 15, 16, 17, 18, 19] }

end Cex

open Cex in
/-- **Finding F9b.**  Same lost `set_flush_count`, on a database where a hashX needs more compacted
rows (3: ids 0,1,2) than the UTXO flush count (1) covers.  The compaction itself preserves the
history, but it sets the history flush count to 2 > 1, so the next start of *anything* runs
`clear_excess` and deletes row 2: entries 8 and 9 are gone.  This is why `C14_any_interruption` has
the side condition `AllOK`; with `set_flush_count` done the history survives the start. -/
theorem C14_counterexample_lost_set_flush_count_clear_excess :
    getTxnums (compactScript cfg 4 pre2 [8000000] false) hx none = getTxnums pre2 hx none ∧
    getTxnums (serverStart cfg (compactScript cfg 4 pre2 [8000000] false)) hx none = [0, 1, 2, 3, 4, 5, 6, 7] ∧
    getTxnums (serverStart cfg (compactScript cfg 4 pre2 [8000000] true)) hx none = getTxnums pre2 hx none ∧
    ¬ RowsFit 4 pre2 (uF pre2) := by
  refine ⟨?_, ?_, ?_, fun h => absurd (h hx) ?_⟩ <;>
    simp only [compactScript, driverLoop, compactHistory, histLoop_eval, nchunks, getTxnums_eval] <;> decide +kernel

namespace Cex

def hx0 : HashX := 7
def pre3 : Store :=
  { ustate := some { height := 0, txCount := 10, chainSize := 100, tip := 1000, flushCount := 1,
                     utxoCount := 0, firstSync := false },
    hist := [((hx0, 1), [0, 1, 2, 3, 4, 5, 6, 7, 8, 9])],
    hstate := some { flushCount := 1, compFlushCount := -1, compCursor := -1 },
    headers := [500], txcounts := [10], hashes := [10, 11, 12, 13, 14, 15, 16, 17, 18, 19] }

/-- the server's memory after a normal start on `p` and indexing one tx (number 10) that touches `hx0` -/
def afterStart (p : Store) : Option Sys :=
  (openDbs cfg p false none).map fun r => { r.2 with m := { r.2.m with unflushed := [(hx0, [10])] } }

end Cex

open Cex in
/-- **The restriction of the abandoned-then-index clause is needed.**  A compaction is abandoned
after its first batch (limit 1: the batch stops after prefix 0); `hx0` now has rows 0,1,2 but the
flush count is still 1.  The server's next flush writes under id 2 - *onto* the third compacted
row: entries 8 and 9 are lost.  (`RowsFit` fails: 3 rows > flush count + 1.) -/
theorem C14_restriction_needed :
    getTxnums (compactScript cfg 4 pre3 [1] false) hx0 none = getTxnums pre3 hx0 none ∧
    (hsOf (compactScript cfg 4 pre3 [1] false)).compCursor = 1 ∧
    ((afterStart (compactScript cfg 4 pre3 [1] false)).map
        fun s => getTxnums (applyEffect s.p (histFlushEffect s)) hx0 none) =
      some [0, 1, 2, 3, 4, 5, 6, 7, 10] ∧
    ¬ RowsFit 4 pre3 (hF pre3) := by
  refine ⟨?_, ?_, ?_, fun h => absurd (h hx0) ?_⟩ <;>
    simp only [compactScript, driverLoop, compactHistory, histLoop_eval, nchunks, getTxnums_eval] <;> decide +kernel

/-! ### non-vacuity of the hypotheses -/

namespace Ex

def a : HashX := 3 * 2 ^ 72 + 1
def b : HashX := 3 * 2 ^ 72 + 2
def c : HashX := 7 * 2 ^ 72

/-- compaction (row size 4) in progress with cursor 5: `a` and `b` are compacted, `c` is not (its
    second row is longer than a compacted row) -/
def p : Store :=
  { ustate := some { flushCount := 5, firstSync := false },
    hist := [((a, 0), [0, 1, 2, 3]), ((a, 1), [4, 9]), ((b, 0), [5]), ((c, 2), [6]), ((c, 5), [7, 8, 10, 11, 12, 13])],
    hstate := some { flushCount := 5, compFlushCount := 1, compCursor := 5 } }

def s : Sys := { p := p, m := { histFlush := 5, compFlush := 1, compCursor := 5 } }

end Ex

open Ex in
theorem Ex.sinv : SInv 4 s := by
  refine ⟨?_, ?_, ?_, ?_, Or.inr ⟨a, ?_⟩⟩
  · unfold NodupKeys; decide +kernel
  · unfold HxWidth; decide +kernel
  · unfold IdsOrdered; decide +kernel
  · simp only [IdsTight, nchunks, getTxnums_eval]; decide +kernel
  · simp only [nchunks, getTxnums_eval]; decide +kernel

open Ex in
example : PInv 4 p := pinv_of_sinv Ex.sinv rfl rfl (by decide +kernel)

open Ex in
example : SInv 4 s := Ex.sinv

open Ex in
theorem Ex.nchunks_le (hx : HashX) : nchunks 4 p hx ≤ 5 + 1 :=
  -- the whole table has 14 entries
  chunks_length_le 4 _ 6 (Nat.le_trans (getTxnums_length_le p hx) (by decide))

open Ex in
example : TInv 4 s := by
  refine ⟨?_, ?_, fun hx => Nat.le_trans (Ex.nchunks_le hx) (by decide)⟩
  · unfold NodupKeys; decide +kernel
  · unfold NoEmptyRows; decide +kernel

open Ex in
/-- the hypothesis of `C14_then_undo` -/
example : (getTxnums p a none).Pairwise (· ≤ ·) ∧ (getTxnums p c none).Pairwise (· ≤ ·) := by
  simp only [getTxnums_eval]
  decide +kernel

open Ex in
/-- `C14_one_go`'s remaining hypotheses -/
example : (openDbs Cex.cfg p true none).map (fun r => r.2.m.dbst.firstSync) = some false ∧
    (0 ≤ (hsOf p).compCursor ∧ (hsOf p).compCursor < 65536) := by
  decide +kernel

open Ex in
/-- the abandoned-then-index restriction holds of it, and so does the side condition for a lost
    `set_flush_count` -/
example : RowsFit 4 p (hF p) ∧ EvOK 4 p (.compact [50, 1] false) :=
  ⟨Ex.nchunks_le, Or.inr ⟨by decide +kernel, Ex.nchunks_le⟩⟩

end EV.Compact
