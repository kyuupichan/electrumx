import EV.Props.C13

/-!
# C13 (canonical output) — `Tx.serialize` only ever writes minimal varints

`C13_serialize_read` needs `canonTx buf c` (every varint on the parse path is minimal).  The
serialiser's own output meets it, hence serialise → parse → serialise is the identity on bytes for
every well-formed transaction at every offset.
-/
namespace EV.TxCodec

/-- **C13 (serialiser output is canonical).**  Wherever the serialisation of a well-formed
transaction occurs in a buffer, every varint on `read_tx`'s parse path there is minimal. -/
theorem C13_serialize_canon {buf : Bytes} {c : Nat} {t : Tx} (h : At buf c (serializeRaw t)) (hw : WfTx t) :
    canonTx buf c = true := (codec_readTx.dec h hw).2

/-- **C13 (serialise → parse → serialise).**  For every well-formed transaction, at every offset of
every buffer of bytes that contains its serialisation: the parse succeeds, returns the transaction
and the end of its bytes, and serialising the parsed transaction gives back exactly those bytes.
`canonTx`, a hypothesis of `C13_serialize_read`, is none here: it holds by `C13_serialize_canon`. -/
theorem C13_serialize_read_serialize (pre post : Bytes) (t : Tx) (hw : WfTx t)
    (hb : BytesOK (pre ++ (serializeRaw t ++ post))) :
    ∃ e, readTx (pre ++ (serializeRaw t ++ post)) pre.length = .ok (t, e) ∧
      canonTx (pre ++ (serializeRaw t ++ post)) pre.length = true ∧
      serialize t = .ok (slice (pre ++ (serializeRaw t ++ post)) pre.length e) := by
  have hat := At.intro pre (serializeRaw t) post
  have hr := readTx_at hat hw
  have hc := C13_serialize_canon hat hw
  exact ⟨_, hr, hc, C13_serialize_read hr hb hc⟩

/-- non-vacuity: the hypotheses hold for the sample transaction of `C13.lean` between foreign bytes -/
example : WfTx tx0 ∧ BytesOK ([9, 9] ++ (serializeRaw tx0 ++ [5])) := by decide +kernel

end EV.TxCodec
