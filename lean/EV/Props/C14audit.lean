import EV.Props.C14
import EV.Props.RxScenario
import EV.Proofs.IndexRunInv

/-!
# C14 — the store left by a clean shutdown right after a back-out

`PInv.notAhead : hF p ≤ uF p` (history flush count not ahead of the UTXO one) is a hypothesis of every
C14 run theorem.  It EXCLUDES a store the code itself produces: `History.backup` bumps
`History.flush_count`, `flush_backup` writes the UTXO state with the OLD flush count (it does not copy
`history.flush_count` into the flushed state), and the shutdown flush that follows is a no-op; the
store on disk then has `hF = uF + 1` (`C14_after_backout_example`: the model of C06's own
`exMidBackup` run ends with `(hF, uF) = (2, 1)`).  This is NOT the case "every start first runs
`clear_excess`, which deletes rows" that the assumption list of `harness/props/C14.py` mentions: no history row has an id above the
UTXO flush count there (`FullInv'.histIds`), so `clear_excess` deletes NOTHING; it only lowers the
history flush count to the UTXO one.

`C14_clear_excess_after_backout` states exactly that, for `History.open_db`'s `clear_excess` step
(`openStore1`), which every process start performs — a server start and the compaction script's own
`_open_dbs(…, compacting=True)` alike.

The other components of `PInv` (`nodup`, `ordered`, `tight`, `cfcTight`, `width`) are derived from the
index run in `EV/Props/C14run.lean` (`C14run_pinv_started`); `FullInv'` alone does not give them: it says
nothing about the compaction fields `comp_flush_count` / `comp_cursor` of the history state record, nothing
about the 11-byte width of script hashes (`HxWidth`; the index model has unbounded naturals), and its
flush-count clause is the opposite inequality (`FullInv'.fcLe : uF ≤ hF`; equality holds after a full flush
or a restart only).
-/
namespace EV.Compact
open EV.Index

/-- **C14 (the excluded store is repaired by the first `clear_excess`).**  On a store whose history
flush count is ahead of the UTXO one but which has no history row above the UTXO flush count (what a
clean shutdown right after a back-out leaves), `History.open_db`'s `clear_excess` deletes nothing:
the history table and the UTXO state record are unchanged, and the history flush count becomes the
UTXO flush count — `PInv.notAhead` holds from then on. -/
theorem C14_clear_excess_after_backout (p : Store) (hahead : uF p < hF p)
    (hrows : ∀ e ∈ p.hist, e.1.2 ≤ uF p) :
    (openStore1 p).hist = p.hist ∧ (openStore1 p).ustate = p.ustate ∧
    hF (openStore1 p) = uF p ∧ uF (openStore1 p) = uF p ∧ hF (openStore1 p) ≤ uF (openStore1 p) := by
  rw [openStore1_of_gt hahead]
  exact ⟨histUpTo_self hrows, rfl, rfl, rfl, Nat.le_refl _⟩

theorem uF_of_fullInv {cfg : Cfg} {chain : List Block} {s : Sys} (inv : FullInv cfg chain s) :
    uF s.p = s.m.dbst.flushCount :=
  congrArg (·.flushCount) inv.ustate_getD

/-- the hypothesis `hrows` holds in every fully flushed state of the whole-run index invariant (after
    any valid run of advances, flushes, back-outs and restarts) -/
theorem C14_clear_excess_of_fullInv' {cfg : Cfg} {chain : List Block} {K : List Nat} {s : Sys}
    (inv : FullInv' cfg chain K s) (hfl : s.m.dbst.height = s.m.st.height) :
    (∀ e ∈ s.p.hist, e.1.2 ≤ uF s.p) ∧ uF s.p ≤ hF s.p := by
  rw [uF_of_fullInv inv.base]
  exact ⟨inv.histIds hfl, (show hF s.p = s.m.histFlush from inv.hstate) ▸ inv.fcLe⟩

open EV.ShutdownTask in
/-- **the excluded store exists**: C06's run `exMidBackup` (two blocks indexed, caught up, forced
reorganisation of one block, shutdown requested during the back-out, handler's flush) ends — cleanly,
task returned — with history flush count 2 and UTXO flush count 1 on disk: `PInv.notAhead` is false
of it. -/
theorem C14_after_backout_example :
    outerOf (run rxCfg {} exMidBackup) = some .returned ∧
    (run rxCfg {} exMidBackup).map (fun st => (hF st.sys.p, uF st.sys.p)) = some (2, 1) := by
  decide +kernel

end EV.Compact
