import EV.Props.C03run
import EV.Props.C04

/-!
# C04 composed with whole runs

`EV/Props/C04.lean` is about ONE flush from a state *assumed* to satisfy `FlushPre`.  Here `FlushPre` is
derived from the whole-run invariant `FullInv'`, so that the crash theorems apply to every flush issued
in the end state of every valid run of advances, flushes, back-outs and restarts, and the restart is
shown to SUCCEED on every cut and to give either the observables of a fully flushed invariant state of
the chain up to the committed height, or a fully flushed invariant state of the chain up to the height
the complete flush commits: "on restart the database opens, reports a height it had fully committed,
and every observable equals that of a clean index of the chain to that height".

"Resuming sync then reaches exactly the same final state" is proved in `C04resume.lean`.  For cuts that
contain the UTXO batch the restarted state satisfies `FullInv'`; for cuts before it this file shows
`ObsEq` with such a state (the restarted stores differ in unreadable file tails), and `C04resume.lean`
carries that relation through the resumed run.
-/
namespace EV.Index
open EV.Spec

/-- **`FlushPre` holds in every state of the whole-run invariant.** -/
theorem flushPre_of_fullInv' {cfg : Cfg} {chain : List Block} {K : List Nat} {s : Sys}
    (inv : FullInv' cfg chain K s) : FlushPre s := by
  have f := inv.base.files
  have hu := inv.base.ustate_getD
  -- record counts: committed ≤ written to the files ≤ on the files
  obtain ⟨hlenH, hlenC, hlenX⟩ := f.lens
  refine ⟨inv.hstate.symm, ?_, inv.base.hist.wf.ids, ?_, ?_, ?_, ?_, ?_⟩ <;> rw [hu]
  · exact inv.fcLe
  · exact f.order.2.1
  · show s.m.dbst.txCount ≤ priorTx s
    rw [priorTx_eq f]
    exact f.dbTx_le_fsTx
  · exact Nat.le_trans f.dbK_le_fsK hlenH
  · exact Nat.le_trans f.dbK_le_fsK hlenC
  · exact Nat.le_trans f.dbTx_le_fsTx hlenX

/-- the state a valid run ends in satisfies the invariant for the surviving chain (`C03run_refinement`
    with the result named) -/
theorem C04run_inv (cfg : Cfg) (ops : List IOp2) (hv : ValidOps2 cfg {} ops) {s : Sys}
    (hs : runOps2 cfg {} ops = .ok s) :
    FullInv' cfg (chainOf2 [] 0 ops) (Track.run cfg {} ops).kept s :=
  (trackInv_of_run hv hs).inv_run

/-- **C04 (`FlushPre` is reachable, and only reachable states need it).**  The end state of EVERY
valid run (advances with any daemon heights, history-only and full flushes, back-outs, restarts)
satisfies the hypothesis of the crash theorems. -/
theorem C04run_flushPre (cfg : Cfg) (ops : List IOp2) (hv : ValidOps2 cfg {} ops) {s : Sys}
    (hs : runOps2 cfg {} ops = .ok s) : FlushPre s :=
  flushPre_of_fullInv' (C04run_inv cfg ops hv hs)

/-- in such a state a flush of either kind is defined (none of `flush_dbs`' assertions fails), so its
    effect list and cuts exist -/
theorem C04run_flush_defined (cfg : Cfg) (ops : List IOp2) (hv : ValidOps2 cfg {} ops) {s : Sys}
    (hs : runOps2 cfg {} ops = .ok s) (fu : Bool) : ∃ es m', flushDbs s fu = some (es, m') := by
  obtain ⟨s', h1, -, -⟩ := fullInv'_flush (C04run_inv cfg ops hv hs) fu
  obtain ⟨es, m', hf, -⟩ := flush_ok (cfg := cfg) h1
  exact ⟨es, m', hf⟩

/-- **C04 (every crash point of every flush of every valid run).**  `C04_crash` without the
hypothesis `FlushPre`: for the end state `s` of any valid run, either kind of flush and every cut of
its effect list, the restart finds the committed state from before the flush or the store of the
complete flush. -/
theorem C04run_crash (cfg : Cfg) (ops : List IOp2) (hv : ValidOps2 cfg {} ops) {s : Sys}
    (hs : runOps2 cfg {} ops = .ok s) {fu : Bool} {es : List Effect} {m' : Mem}
    (hf : flushDbs s fu = some (es, m')) {c : List Effect} (hc : c ∈ cuts es) :
    RecoversSame cfg s.p (applyEffects s.p c) ∨ applyEffects s.p c = applyEffects s.p es :=
  C04_crash cfg (C04run_flushPre cfg ops hv hs) hf hc

theorem txCounts_mono_of_fullInv' {cfg : Cfg} {chain : List Block} {K : List Nat} {s : Sys}
    (inv : FullInv' cfg chain K s) : s.m.txCounts.Pairwise (· ≤ ·) := by
  rw [inv.base.files.txCounts]
  exact (cumFrom_pairwise 0 chain).1

/-- **C04 ("on restart the database opens … clean index of the chain to that height"), over whole
runs.**  Let `s` be the end state of any valid run with surviving chain `chain`, `es` the effects of a
flush (either kind) issued there and `c` ANY cut of it.  Then the restart on the cut store SUCCEEDS
(`_open_dbs` returns; none of `_read_tx_counts`' assertions fails), and

* (cut without the UTXO batch) the restart on the store the flush started from succeeds too, giving a
  fully flushed state `r0` that satisfies the whole-run invariant for `chain` cut to the committed
  height `s.m.dbst.height` — so `observables_of_fullInv'` says its observables are the
  specification's of that chain — and every read-path answer after the crash (`ObsEq`: state,
  `fs_tx_hash`, `all_utxos`, `limited_history`, `lookup_utxos`, `fs_tx_hashes_at_blockheight`,
  `read_headers`) equals that of `r0`; or
* (cut with the UTXO batch) the restarted state itself is a fully flushed state satisfying the
  invariant for `chain` cut to the height the complete flush commits (`m'.dbst.height`: the tip for a
  full flush). -/
theorem C04run_restart (cfg : Cfg) (ops : List IOp2) (hv : ValidOps2 cfg {} ops) {s : Sys}
    (hs : runOps2 cfg {} ops = .ok s) {fu : Bool} {es : List Effect} {m' : Mem}
    (hf : flushDbs s fu = some (es, m')) {c : List Effect} (hc : c ∈ cuts es) :
    ∃ e r, recover cfg (applyEffects s.p c) = some (e, r) ∧
      ((∃ e0 r0 K0, recover cfg s.p = some (e0, r0) ∧
          FullInv' cfg ((chainOf2 [] 0 ops).take (s.m.dbst.height + 1).toNat) K0 r0 ∧
          r0.m.dbst.height = r0.m.st.height ∧ r0.m.dbst.height = s.m.dbst.height ∧ ObsEq r0 r) ∨
       (∃ K1, FullInv' cfg ((chainOf2 [] 0 ops).take (m'.dbst.height + 1).toNat) K1 r ∧
          r.m.dbst.height = r.m.st.height ∧ r.m.dbst.height = m'.dbst.height)) := by
  have inv := C04run_inv cfg ops hv hs
  rcases C04run_crash cfg ops hv hs hf hc with h | h
  · obtain ⟨e0, r0, h0, inv0, hfl0, hdb0⟩ := fullInv'_reopen inv
    obtain ⟨e, r, hr, hobs⟩ := obsEq_of_recoversSame h h0 (txCounts_mono_of_fullInv' inv0)
    exact ⟨e, r, hr, Or.inl ⟨e0, r0, _, h0, inv0, hfl0, hdb0, hobs⟩⟩
  · obtain ⟨s1, h1, inv1, -⟩ := fullInv'_flush inv fu
    cases h1.symm.trans (flush_of_some hf)
    obtain ⟨e1, r1, hr1, invr, hflr, hdbr⟩ := fullInv'_reopen inv1
    refine ⟨e1, r1, ?_, Or.inr ⟨_, invr, hflr, hdbr⟩⟩
    rw [h]
    exact hr1

/-- **C04 (observables) over whole runs**: `C04_crash_observables` with `FlushPre`, `h0`, `h1` and
`hmono` all discharged — for the end state of any valid run both endpoint restarts succeed, and for
every cut the restart succeeds with every read-path answer equal to that of one of the two. -/
theorem C04run_crash_observables (cfg : Cfg) (ops : List IOp2) (hv : ValidOps2 cfg {} ops) {s : Sys}
    (hs : runOps2 cfg {} ops = .ok s) {fu : Bool} {es : List Effect} {m' : Mem}
    (hf : flushDbs s fu = some (es, m')) :
    ∃ e0 r0 e1 r1, recover cfg s.p = some (e0, r0) ∧
      recover cfg (applyEffects s.p es) = some (e1, r1) ∧
      ∀ c ∈ cuts es, ∃ e r, recover cfg (applyEffects s.p c) = some (e, r) ∧ (ObsEq r0 r ∨ r = r1) := by
  have inv := C04run_inv cfg ops hv hs
  obtain ⟨e0, r0, h0, inv0, -, -⟩ := fullInv'_reopen inv
  obtain ⟨e1, r1, h1, -⟩ := C04run_restart cfg ops hv hs hf (self_mem_cuts es)
  exact ⟨e0, r0, e1, r1, h0, h1, fun c hc =>
    C04_crash_observables cfg (C04run_flushPre cfg ops hv hs) hf hc h0 h1
      (txCounts_mono_of_fullInv' inv0)⟩

/-! ### non-vacuity

The run `rxOps.take 3 = [adv rxB0, flush true, adv rxB1]` of `C03run.lean` ends with one block
committed and one in memory.  Its full flush has six effects and ten cuts; the theorems above apply to
all of them. -/

def c04Ops : List IOp2 := [.adv rxB0 0, .flush true, .adv rxB1 1]

def c04S : Sys := okSysD (runOps2 rxCfg {} c04Ops)

theorem c04Ops_valid : ValidOps2 rxCfg {} c04Ops := validOps2_take rxOps_valid 3

theorem c04S_run : runOps2 rxCfg {} c04Ops = .ok c04S := runOps2_okSysD c04Ops_valid

/-- the hypotheses of `C04run_restart` / `C04run_crash_observables` hold of a run whose end state has
    unflushed work; the flush has cuts of every kind (before / inside the file writes, between the
    history batch and the UTXO batch, after it) -/
example : ValidOps2 rxCfg {} c04Ops ∧ runOps2 rxCfg {} c04Ops = .ok c04S ∧
    c04S.m.dbst.height = 0 ∧ c04S.m.st.height = 1 ∧
    (flushDbs c04S true).map (fun r => (r.1.length, (cuts r.1).length,
      ((cuts r.1).filter (fun c => c.any (·.isHistBatch) && !c.any (·.isUtxoBatch))).length,
      ((cuts r.1).filter (fun c => c.any (·.isUtxoBatch))).length)) = some (6, 10, 1, 2) := by
  exact ⟨c04Ops_valid, c04S_run, by decide +kernel⟩

/-- the hypotheses `FlushPre`, `h0`, `h1`, `hmono` of `C04_crash_observables` are satisfiable together
    (they hold of this state) -/
example : ∃ es m' e0 r0 e1 r1, flushDbs c04S true = some (es, m') ∧ FlushPre c04S ∧
    recover rxCfg c04S.p = some (e0, r0) ∧ recover rxCfg (applyEffects c04S.p es) = some (e1, r1) ∧
    r0.m.txCounts.Pairwise (· ≤ ·) ∧ r0.m.dbst.height = 0 := by
  have hv := c04Ops_valid
  obtain ⟨es, m', hf⟩ := C04run_flush_defined rxCfg c04Ops hv c04S_run true
  have inv := C04run_inv rxCfg c04Ops hv c04S_run
  obtain ⟨e0, r0, h0, inv0, -, hdb0⟩ := fullInv'_reopen inv
  obtain ⟨e1, r1, h1, hr⟩ := C04run_restart rxCfg c04Ops hv c04S_run hf (self_mem_cuts es)
  refine ⟨es, m', e0, r0, e1, r1, hf, C04run_flushPre rxCfg c04Ops hv c04S_run, h0, h1,
    txCounts_mono_of_fullInv' inv0, by rw [hdb0]; decide +kernel⟩

end EV.Index
