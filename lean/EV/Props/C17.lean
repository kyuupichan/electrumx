import EV.Proofs.RpcLimits

/-!
# C17 — Replies stay within the advertised size limits

> A headers request never returns more than the advertised maximum number of headers and reports
> the count it actually returned; a script hash whose confirmed history would not fit in the
> maximum reply size is answered with a 'history too large' error - consistently, also from cache
> and for subscriptions, which are then dropped - rather than with a truncated history or a status
> computed from a truncated history.

Model: `EV/Model/Rpc.lean` (`blockHeadersCore` + `readHeaders` = `ElectrumX.block_headers` +
`DB.read_headers`; `limitedHistory` = `SessionManager.limited_history`; `addressStatus`,
`execSubscribe`, `notifyInner`, `invalidate` = `address_status`, `hashX_subscribe`,
`_notify_inner`, `_notify_sessions`), tied to the real code by the `limits` and `rpc` suites.
The history limit is `L = max Gen.maxSendFloor MAX_SEND / Gen.histDiv`, floor and divisor observed
on the real `SessionManager` (`max(350000, MAX_SEND) // 99`).

All theorems are unbounded: every `start`, `count`, `cp`, chain height, cap, `MAX_SEND`, history,
mempool, cache state and touched set.
-/
namespace EV.Rpc

/-- the number of headers a request is entitled to: `min(count, cap)` cut at the chain end -/
def headersReturned (cap height start count : Nat) : Nat := min (min count cap) (height + 1 - start)

/-- it is the formula of the code, `max(0, min(min(count, cap), height + 1 - start))` on integers -/
theorem headersReturned_eq (cap height start count : Nat) :
    (headersReturned cap height start count : Int) =
      max 0 (min (min (count : Int) cap) ((height : Int) + 1 - start)) := by
  rw [show min (count : Int) cap = ((min count cap : Nat) : Int) by omega, clip_cast]; rfl

/-- **C17 (headers), for every cap.**  Whatever `start`, `count`, `cp` (validated non-negative
integers of any size) and whatever the chain height: the reply is either a result with
`count' = headersReturned …` headers — so `count' ≤ cap`; the reported `count` *is* the number of
80-byte headers returned (`hex` has `160·count'` characters); they are the bytes
`[80·start, 80·(start+count'))` of the headers file, i.e. the headers of heights
`start … start+count'-1`; `max = cap`; a merkle proof is attached iff `count' ≠ 0 ∧ cp ≠ 0`, and
then it is the proof for the *last returned* header `start+count'-1` under checkpoint `cp`, with
`start+count'-1 ≤ cp ≤ height` — or the protocol error for a checkpoint outside that range.
Never more than `cap`, never a count that differs from what was sent.

`FileOK`: the headers file holds `height+1` headers (index invariant, C01). -/
theorem C17_headers_cap (cap : Nat) (w : World) (start count cp : Nat) (hf : FileOK w) :
    headersReturned cap w.height start count ≤ cap ∧
    match blockHeadersCore false cap w start count cp with
    | .ok (.headers raw c mx proof) =>
      c = headersReturned cap w.height start count ∧ mx = cap ∧
      raw.length = 80 * c ∧ 2 * raw.length = 160 * c ∧
      raw = (w.hdrFile.drop (start * 80)).take (c * 80) ∧
      (proof.isSome = true ↔ (c ≠ 0 ∧ cp ≠ 0)) ∧
      (∀ p, proof = some p → p = (cp, start + c - 1) ∧ start + c - 1 ≤ cp ∧ cp ≤ w.height)
    | .ok _ => False
    | .error e =>
      e = .rpcError Gen.badRequest ∧ headersReturned cap w.height start count ≠ 0 ∧ cp ≠ 0 ∧
      ¬ (start + headersReturned cap w.height start count - 1 ≤ cp ∧ cp ≤ w.height) := by
  have hlen := readHeaders_length hf start (min count cap)
  unfold headersReturned blockHeadersCore merkleProof
  simp only [Bool.false_and, Bool.false_eq_true, if_false]
  rw [readHeaders_eq] at hlen ⊢
  dsimp only at hlen ⊢
  generalize hn : min (min count cap) (w.height + 1 - start) = n at hlen ⊢
  refine ⟨by omega, ?_⟩
  by_cases hcond : n ≠ 0 ∧ cp ≠ 0
  · rw [if_pos hcond]
    by_cases hrange : start + n - 1 ≤ cp ∧ cp ≤ w.height
    · rw [if_pos hrange]
      refine ⟨rfl, rfl, hlen, by omega, rfl, by simp [hcond.1, hcond.2], ?_⟩
      intro p hp
      cases hp
      exact ⟨rfl, hrange.1, hrange.2⟩
    · rw [if_neg hrange]
      exact ⟨rfl, hcond.1, hcond.2, hrange⟩
  · rw [if_neg hcond]
    exact ⟨rfl, rfl, hlen, by omega, rfl, by simpa using hcond, nofun⟩

/-- **C17 (headers), as served.**  A `blockchain.block.headers` request that passed validation is
answered by `blockHeadersCore` at the advertised maximum `Gen.maxChunkSize`
(= `SessionBase.MAX_CHUNK_SIZE`, reported in the reply as `max`), without touching any state; so
`C17_headers_cap` applies to every reply of the real handler table. -/
theorem C17_headers (w : World) (st : St) (m : String) (args : Args) (start count cp : Nat)
    (hf : FileOK w) (hp : parseRequest w st m args = .ok (.blockHeaders start count cp)) :
    (dispatch w st m args).1 = st ∧
    headersReturned Gen.maxChunkSize w.height start count ≤ Gen.maxChunkSize ∧
    match (dispatch w st m args).2 with
    | .ok (.headers raw c mx proof) =>
      c = headersReturned Gen.maxChunkSize w.height start count ∧ mx = Gen.maxChunkSize ∧
      raw.length = 80 * c ∧ 2 * raw.length = 160 * c ∧
      raw = (w.hdrFile.drop (start * 80)).take (c * 80) ∧
      (proof.isSome = true ↔ (c ≠ 0 ∧ cp ≠ 0)) ∧
      (∀ p, proof = some p → p = (cp, start + c - 1) ∧ start + c - 1 ≤ cp ∧ cp ≤ w.height)
    | .ok _ => False
    | .error e =>
      e = .rpcError Gen.badRequest ∧ headersReturned Gen.maxChunkSize w.height start count ≠ 0 ∧
      cp ≠ 0 ∧
      ¬ (start + headersReturned Gen.maxChunkSize w.height start count - 1 ≤ cp ∧ cp ≤ w.height) := by
  have hd : dispatch w st m args =
      (st, blockHeadersCore false Gen.maxChunkSize w start count cp) := by
    unfold dispatch; rw [hp]; rfl
  rw [hd]
  refine ⟨rfl, ?_⟩
  dsimp only
  exact C17_headers_cap Gen.maxChunkSize w start count cp hf

/-- **C17 (history: whole or refused, never truncated; hit = miss).**  For *every* coherent cache
state — empty (a miss) or already holding this script hash (a hit), including a cached error —
`limited_history` returns the **whole** confirmed history iff it has fewer than `L` entries, and
raises "history too large" iff it has `L` or more.  In particular hit and miss agree, and no
reply is ever a proper prefix of the history.  The cache stays coherent. -/
theorem C17_history (w : World) (m : Mgr) (hx : Bytes) (hok : CacheOK w m) :
    ((w.history hx).length < histLimit w.maxSend ∧
      (limitedHistory w m hx).2 = .ok (w.history hx)) ∨
    (histLimit w.maxSend ≤ (w.history hx).length ∧
      (limitedHistory w m hx).2 = .error (.rpcError Gen.badRequest)) := by
  obtain ⟨_, -, ⟨hl, e⟩ | ⟨hl, e⟩⟩ := limitedHistory_cases hok hx <;> rw [e]
  · exact .inr ⟨hl, rfl⟩
  · exact .inl ⟨hl, rfl⟩

/-- **C17 (history: a hit answers as a miss).**  From any coherent cache `limited_history` gives the
answer it gives from the empty cache, and the cache it leaves is coherent again. -/
theorem C17_history_cache (w : World) (m : Mgr) (hx : Bytes) (hok : CacheOK w m) :
    (limitedHistory w m hx).2 = (limitedHistory w {} hx).2 ∧ CacheOK w (limitedHistory w m hx).1 := by
  refine ⟨?_, CacheOK.of_growth (limitedHistory_growth w m hx) hok⟩
  rw [limitedHistory_snd hok, limitedHistory_snd (CacheOK.empty w)]

/-- **C17 (`get_history`).**  The reply is the whole confirmed history followed by the mempool
entries, or the error; decided by `|history| < L` alone. -/
theorem C17_get_history (w : World) (st : St) (hx : Bytes) (hok : CacheOK w st.mgr) :
    match (exec w st (.getHistory hx)).2 with
    | .ok (.history conf mp) =>
      (w.history hx).length < histLimit w.maxSend ∧ conf = w.history hx ∧ mp = w.mempool hx
    | .ok _ => False
    | .error e => histLimit w.maxSend ≤ (w.history hx).length ∧ e = .rpcError Gen.badRequest := by
  dsimp only [exec, execGetHistory]
  obtain ⟨_, -, ⟨hl, e⟩ | ⟨hl, e⟩⟩ := limitedHistory_cases hok hx <;> rw [e]
  · exact ⟨hl, rfl⟩
  · exact ⟨hl, rfl, rfl⟩

/-- **C17 (`subscribe`).**  A subscription either succeeds with the status of the **whole** history
(plus mempool) and is stored, or — history of `L` or more — fails with the error, stores **no**
subscription and leaves the session exactly as it was. -/
theorem C17_subscribe (w : World) (st : St) (hx : Bytes) (alias : String) (hok : CacheOK w st.mgr) :
    match (exec w st (.subscribe hx alias)).2 with
    | .ok (.status s) =>
      (w.history hx).length < histLimit w.maxSend ∧
      s = statusOf (w.history hx) (w.mempool hx) ∧
      dGet hx (exec w st (.subscribe hx alias)).1.sess.subs = some alias
    | .ok _ => False
    | .error e =>
      histLimit w.maxSend ≤ (w.history hx).length ∧ e = .rpcError Gen.badRequest ∧
      (exec w st (.subscribe hx alias)).1.sess = st.sess := by
  dsimp only [exec, execSubscribe, addressStatus]
  obtain ⟨_, -, ⟨hl, e⟩ | ⟨hl, e⟩⟩ := limitedHistory_cases hok hx <;> rw [e]
  · exact ⟨hl, rfl, rfl⟩
  · exact ⟨hl, rfl, dGet_dSet_self _ _ _⟩

/-- **C17 (notifications).**  One run of `_notify_inner` on a session, for any touched set and
either kind of notification (new block / mempool only), from any coherent cache state:
* every `(alias, status)` sent belongs to a script hash the session was subscribed to, and the
  status is either computed from the **whole** history (when it has fewer than `L` entries) or is
  `null` (when it has `L` or more — never a status of a truncated history);
* every touched subscription whose history has reached `L` is **dropped**;
* no subscription is dropped for any other reason (`SubsShrink`), and the cache stays coherent. -/
theorem C17_notify (w : World) (st : St) (touched : List Bytes) (heightChanged : Bool)
    (hok : CacheOK w st.mgr) :
    (∀ a s, (a, s) ∈ (notifyInner w st touched heightChanged).2.2 →
      ∃ hx, dGet hx st.sess.subs = some a ∧ StatusRight w hx s) ∧
    (∀ hx a, hx ∈ touched → dGet hx st.sess.subs = some a → a ≠ "" →
      histLimit w.maxSend ≤ (w.history hx).length →
      dGet hx (notifyInner w st touched heightChanged).1.sess.subs = none) ∧
    SubsShrink w st.sess.subs (notifyInner w st touched heightChanged).1.sess.subs ∧
    CacheOK w (notifyInner w st touched heightChanged).1.mgr := by
  obtain ⟨keys, hk, sp⟩ := notifyInner_spec w st touched heightChanged hok
  refine ⟨fun a s h => ?_, fun hx a hm hs => sp.dropped hx a (hk hx hm (by rw [hs]; rfl)) hs,
    sp.shrink, sp.ok⟩
  obtain ⟨hx, _, h2, h3⟩ := sp.notes a s h
  exact ⟨hx, h2, h3⟩

/-- **C17 (the cache across a new block).**  `_notify_sessions` drops the touched script hashes from
the history cache when the height changed (whether or not it also does so on mempool-only
notifications, `Gen.invalidateAlways`); if only touched script hashes changed their history,
the cache is coherent with the *new* index — so `C17_notify` and `C17_history` apply after the
block: an entry cached before the block (a list, or the error object) is never served for a
script hash the block touched. -/
theorem C17_invalidate (w0 w : World) (m : Mgr) (touched : List Bytes) (h0 : CacheOK w0 m)
    (hsame : ∀ hx, ¬ hx ∈ touched → w.history hx = w0.history hx)
    (hms : w.maxSend = w0.maxSend) (hh : w0.height ≤ w.height) :
    CacheOK w (invalidate m touched true) := by
  refine ⟨invalidate_hist h0.hist ?_ Gen.invalidateAlways, ?_⟩
  · intro hx hnot
    unfold histCompute dbLimitedHistory
    rw [hsame hx hnot, hms]
  · intro h hm
    have := h0.tx h (by simpa [invalidate, invalidateWith] using hm)
    omega

/-! ### non-vacuity -/

def exChain : World :=
  { height := 2, hdrFile := List.replicate 240 7,
    blockTxs := fun _ => [], history := fun _ => [], mempool := fun _ => [], daemonTxs := [],
    broadcastOk := fun _ => true, maxSend := 0, intOfStr := fun _ => none,
    dropClient := fun _ => false, discoveryOn := false, skipResolve := fun _ => false,
    permitNoResolve := fun _ => false, resolve := fun _ => .ok false }

example : FileOK exChain := by
  show (List.replicate 240 7).length = 80 * (2 + 1)
  rw [List.length_replicate]

set_option maxRecDepth 20000 in
/-- `headers(1, 5000, cp=2)` on it: two headers (cut by the chain end), with a proof for height 2 -/
example : (match blockHeadersCore false 2016 exChain 1 5000 2 with
    | .ok (.headers raw c mx proof) => (raw.length, c, mx, proof)
    | _ => (0, 0, 0, none)) = (160, 2, 2016, some (2, 2)) := by decide +kernel

/-- a cap smaller than the request bites; the chain end cuts; beyond the tip nothing is returned -/
example : headersReturned 2 5 0 3 = 2 ∧ headersReturned 2016 4100 2000 5000 = 2016 ∧
    headersReturned 2016 4100 4100 5000 = 1 ∧ headersReturned 2016 4100 4101 1 = 0 := by decide

/-- a script hash with `n` confirmed transactions, limit `L = 350000 / 99 = 3535` -/
def exHist (n : Nat) : World :=
  { exChain with history := fun hx => if hx = [1] then List.replicate n ([7], 1) else [] }

theorem exHist_hist (n : Nat) : (exHist n).history [1] = List.replicate n ([7], 1) := by
  simp [exHist]

theorem exHist_limit (n : Nat) : histLimit (exHist n).maxSend = 3535 := by
  simp [histLimit, exHist, exChain, Gen.maxSendFloor, Gen.histDiv]

/-- the hypotheses hold of real states: an empty cache, and a cache holding the error object -/
example (n : Nat) : CacheOK (exHist n) {} := CacheOK.empty _

example : CacheOK (exHist 3535) { histCache := [([1], .tooLarge)] } := by
  refine .single (histCompute_large ?_).symm
  rw [exHist_limit, exHist_hist, List.length_replicate]
  omega

/-- both sides of the limit are inhabited: 3534 entries are returned whole, 3535 are refused -/
example : (limitedHistory (exHist 3534) {} [1]).2 = .ok (List.replicate 3534 ([7], 1)) := by
  rcases C17_history (exHist 3534) {} [1] (CacheOK.empty _) with ⟨_, h⟩ | ⟨hl, _⟩
  · rw [h, exHist_hist]
  · rw [exHist_limit, exHist_hist, List.length_replicate] at hl; omega

example : (limitedHistory (exHist 3535) {} [1]).2 = .error (.rpcError 1) := by
  rcases C17_history (exHist 3535) {} [1] (CacheOK.empty _) with ⟨hl, _⟩ | ⟨_, h⟩
  · rw [exHist_limit, exHist_hist, List.length_replicate] at hl; omega
  · rw [h]; rfl

end EV.Rpc
