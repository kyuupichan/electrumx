import EV.Props.C01
import EV.Props.C03run
-- the checks of C01 and C02 build this module and audit theorems of `C01run` and `C01sync` through it
import EV.Props.C01run
import EV.Props.C01sync

/-!
# C01 — confirmed balance, states between flushes, a prefix collision

`ElectrumX.get_balance` computes `sum(utxo.value for utxo in await self.db.all_utxos(hashX))`; the
specification's counterpart is `Spec.balanceOf`, and at fully flushed states the two agree.  In states that
are NOT fully flushed (between flushes, after a history-only flush while caught up) `DB.state`, the UTXO
table on disk and the `all_utxos` answer are those of the COMMITTED chain (up to the last UTXO flush), and a
tx number above the committed height resolves to no hash (`limited_history` then answers `none` = "sleep
and retry").  Last, a `ValidOps2` run with a genuine 4-byte prefix collision (the examples of `C01run.lean`
and `C03run.lean` have txids with prefix 0).
-/
namespace EV.Index
open EV.Spec

/-- the sum `get_balance` computes over an `all_utxos` answer -/
def balanceOfRows (rows : List UtxoRow) : Nat := (rows.map (·.value)).foldl (· + ·) 0

/-- **C01 (confirmed balance).**  In a fully flushed state of the whole-run invariant (after any valid
run of advances, flushes, back-outs and restarts), `all_utxos` succeeds and the sum of the values it
returns — what `get_balance` reports as `confirmed` — is the specification's balance of the script
hash on the (surviving) chain. -/
theorem C01run_balance {cfg : Cfg} {chain : List Block} {K : List Nat} {s : Sys}
    (inv : FullInv' cfg chain K s) (hf : s.m.dbst.height = s.m.st.height) (hx : HashX) :
    ∃ rows, allUtxos s hx = some rows ∧
      balanceOfRows rows = balanceOf (specChain cfg.act chain) hx := by
  obtain ⟨u1, -, -, -⟩ := C01_observables inv.base (flushed_of_db inv.base hf)
  obtain ⟨rows, h1, hp⟩ := u1 hx
  refine ⟨rows, h1, ?_⟩
  unfold balanceOfRows balanceOf utxosOf
  rw [(hp.map (·.value)).foldl_eq' (fun _ _ _ _ _ => Nat.add_right_comm ..), List.map_map]
  rfl

/-- **C01 (confirmed balance), end to end**: any valid run with reorganisations and restarts, followed
by a full flush. -/
theorem C01run_balance_end_to_end (cfg : Cfg) (ops : List IOp2) (hv : ValidOps2 cfg {} ops) :
    ∃ s, runOps2 cfg {} (ops ++ [.flush true]) = .ok s ∧
      ∀ hx, ∃ rows, allUtxos s hx = some rows ∧
        balanceOfRows rows = balanceOf (specChain cfg.act (chainOf2 [] 0 ops)) hx := by
  obtain ⟨s, h1, inv, hf⟩ := fullInv'_run_flushed ops (trackInv_init cfg) hv
  exact ⟨s, h1, C01run_balance inv hf⟩

/-- **C01 (what the index answers between flushes — the committed view).**  In ANY state of the
whole-run invariant (flushed or not; `dbc` = the chain up to the last UTXO flush, `DB.state.height + 1`
blocks):

1. `DB.state` — what sessions and the header / merkle code read — is the state of an index of `dbc`:
   height, tx count, UTXO count, tip, chain size;
2. the `u` table on disk holds exactly the rows of the specification's UTXO set of `dbc`;
3. the tx number of every UTXO of `dbc` resolves (through the files, which may have been written
   ahead by history-only flushes, and the in-memory `tx_counts`, which cover the WHOLE chain) to that
   UTXO's txid and height;
4. hence `all_utxos` succeeds, and the rows it returns are exactly (as a set) the specification's
   UTXOs of the script hash on `dbc` — the UTXOs as of the last UTXO flush, not those of the blocks
   indexed since;
5. a tx number of a block ABOVE `DB.state.height` resolves to no hash, so `limited_history` of a
   script hash whose flushed history rows contain such a number (possible after a history-only flush)
   is `none` — the model's value for "sleep and retry" (`DB.limited_history` loops until the hashes
   are resolvable).

Not stated (not cheap): multiplicities in 4 ("each exactly once" is proved at fully flushed states
only: `C01run_observables`), and the exact list `limited_history` returns in a non-flushed state when
it does return (all numbers committed). -/
theorem C01run_committed_view {cfg : Cfg} {chain : List Block} {K : List Nat} {s : Sys}
    (inv : FullInv' cfg chain K s) :
    -- 1
    (s.m.dbst.height = (((chain.take (s.m.dbst.height + 1).toNat).length : Nat) : Int) - 1 ∧
      s.m.dbst.txCount = (specChain cfg.act (chain.take (s.m.dbst.height + 1).toNat)).txs.length ∧
      s.m.dbst.utxoCount =
        ((specChain cfg.act (chain.take (s.m.dbst.height + 1).toNat)).utxos.length : Int) ∧
      s.m.dbst.tip = ((chain.take (s.m.dbst.height + 1).toNat).getLast?.map (·.hash)).getD 0 ∧
      s.m.dbst.chainSize = ((chain.take (s.m.dbst.height + 1).toNat).map (·.size)).sum) ∧
    -- 2
    (∀ e, e ∈ s.p.u ↔
      ∃ u ∈ (specChain cfg.act (chain.take (s.m.dbst.height + 1).toNat)).utxos,
        e = (ukey u, u.value)) ∧
    -- 3
    (∀ u ∈ (specChain cfg.act (chain.take (s.m.dbst.height + 1).toNat)).utxos,
      fsTxHash s u.txnum = (some u.txid, u.height)) ∧
    -- 4
    (∀ hx, ∃ rows, allUtxos s hx = some rows ∧ ∀ r, r ∈ rows ↔
      ∃ u ∈ utxosOf (specChain cfg.act (chain.take (s.m.dbst.height + 1).toNat)) hx,
        r = ⟨u.txnum, u.idx, u.txid, u.height, u.value⟩) ∧
    -- 5
    (∀ n, s.m.dbst.height < (bisectRight (cumCounts chain) n : Int) → (fsTxHash s n).1 = none) := by
  have f := inv.base.files
  have hord := f.order
  have hK := f.dbK
  have hres3 : ∀ u ∈ (specChain cfg.act (chain.take (s.m.dbst.height + 1).toNat)).utxos,
      fsTxHash s u.txnum = (some u.txid, u.height) := by
    intro u hu
    obtain ⟨hlt, hid, hh⟩ := spec_txid cfg.act _ hu
    rw [fsTxHash_of_files f hlt, bisect_take chain _ hlt,
      ← allTxids_prefix_getD (List.take_prefix _ _) hlt, ← hid, ← hh]
  refine ⟨⟨?_, ?_, inv.db.utxoCount, inv.base.dbTip, inv.db.chainSize⟩, inv.db.rowsU, hres3, ?_, ?_⟩
  · rw [List.length_take, Nat.min_eq_left hK]; omega
  · rw [specChain_txs_length]; exact f.dbTx
  · intro hx
    obtain ⟨rows, h1, h2⟩ := allUtxos_rows (rowsOf_committed inv) hx
    refine ⟨rows, h1, fun r => ?_⟩
    rw [h2.mem_iff, List.mem_map]
    refine exists_congr fun u => and_congr_right fun hu => ?_
    rw [hres3 u (List.mem_filter.mp hu).1, eq_comm]
  · intro n hn
    unfold fsTxHash
    simp only
    rw [f.txCounts, if_pos hn]

/-- …for every state a valid run passes through (the hypothesis is satisfiable: `C03run_every_step`
    produces such states, flushed or not) -/
theorem C01run_committed_view_run (cfg : Cfg) (ops : List IOp2) (hv : ValidOps2 cfg {} ops) (k : Nat) :
    ∃ s, runOps2 cfg {} (ops.take k) = .ok s ∧
      ∀ hx, ∃ rows, allUtxos s hx = some rows ∧ ∀ r, r ∈ rows ↔
        ∃ u ∈ utxosOf (specChain cfg.act
            ((chainOf2 [] 0 (ops.take k)).take (s.m.dbst.height + 1).toNat)) hx,
          r = ⟨u.txnum, u.idx, u.txid, u.height, u.value⟩ := by
  obtain ⟨s, h1, inv⟩ := C03run_every_step cfg ops hv k
  exact ⟨s, h1, (C01run_committed_view inv).2.2.2.1⟩

/-! Non-vacuity with a real 4-byte prefix collision: two transactions whose ids `5·2^224 + 1` and
`5·2^224 + 2` share the 4-byte prefix 5 (`pfx`), each creating output 0 — so their `h` rows have the same
`(prefix, index)` part and `spend_utxo` has two candidates, which it tells apart through the tx-number
files.  Both are spent FROM DISK (a full flush lies in between) by a third transaction; a back-out and
re-advance of that block follow. -/

def colA : Hash := 5 * 2 ^ 224 + 1
def colB : Hash := 5 * 2 ^ 224 + 2

example : pfx colA = pfx colB ∧ colA ≠ colB := by decide +kernel

def colCfg : Cfg := { act := 1, reorgLimit := 2 }
def colB0 : Block :=
  ⟨7, 0, 100, 80, [⟨colA, [⟨0, 4294967295⟩], [⟨50, 1, .normal⟩]⟩,
                   ⟨colB, [⟨0, 4294967295⟩], [⟨60, 2, .normal⟩]⟩]⟩
/-- spends the second colliding output first, then the first -/
def colB1 : Block := ⟨8, 7, 101, 81, [⟨12, [⟨colB, 0⟩, ⟨colA, 0⟩], [⟨110, 3, .normal⟩]⟩]⟩

def colOps : List IOp2 :=
  [.adv colB0 0, .flush true, .adv colB1 1, .flush true, .backup colB1, .adv colB1 1, .flush false]

theorem colOps_valid : ValidOps2 colCfg {} colOps := by decide +kernel

example : ValidOps2 colCfg {} colOps := colOps_valid

example : chainOf2 [] 0 colOps = [colB0, colB1] := by decide +kernel

/-- after the first full flush both colliding outputs are on disk and `all_utxos` tells them apart -/
example :
    (allUtxos (okSysD (runOps2 colCfg {} (colOps.take 2))) 1).map (·.map (fun r => (r.txid, r.value)))
      = some [(colA, 50)] ∧
    (allUtxos (okSysD (runOps2 colCfg {} (colOps.take 2))) 2).map (·.map (fun r => (r.txid, r.value)))
      = some [(colB, 60)] := by decide +kernel

/-- the hypotheses of `C01run_balance` hold after the back-out (fully flushed, chain `[colB0]`), and
    those of `C01run_committed_view` at the end of the run (NOT fully flushed: one block committed,
    two indexed, history written ahead) -/
example : ∃ s, FullInv' colCfg [colB0] [0] s ∧ s.m.dbst.height = s.m.st.height := by
  obtain ⟨s, -, ti⟩ := trackInv_run_prefix colOps (trackInv_init colCfg) colOps_valid 5
  exact ⟨s, ti.inv, ti.flushed (by decide +kernel)⟩

example : ∃ s, FullInv' colCfg [colB0, colB1] [1, 0] s ∧ s.m.dbst.height = 0 ∧ s.m.st.height = 1 ∧
    s.m.fsHeight = 1 := by
  obtain ⟨s, h, ti⟩ := trackInv_run colOps (trackInv_init colCfg) colOps_valid
  have h2 : (okSysD (runOps2 colCfg {} colOps)).m.fsHeight = 1 := by decide +kernel
  rw [h] at h2
  exact ⟨s, ti.inv, ti.db, ti.inv.base.files.height, h2⟩

end EV.Index
