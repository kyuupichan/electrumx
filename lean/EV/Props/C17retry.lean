import EV.Proofs.IndexHist
import EV.Props.C17audit

/-!
# C17 — the retry loop of `DB.limited_history`

`DB.limited_history(hashX, limit=limit)` reads the tx numbers (at most `limit`) and resolves each to
(hash, height); while some number does not resolve (a flush or a back-out is in progress) it sleeps
and reads again **with the same `limit`**.  The model of one attempt is `EV.Index.limitedHistory`
(`none` = "retry"); the loop sees one database view per attempt.

The caller (`SessionManager.limited_history`) treats a result of fewer than `limit` entries as the
WHOLE history.  `C17_retry_whole` is what makes that sound on the retry path too: whichever attempt
answered, a result shorter than the limit is the complete, unlimited history of the view it was read
from.  (Seeded change C17-5 re-entered `limited_history` without `limit=` on the retry path: the
answering attempt then ran with the default 1000 and the caller took 1000 entries for a whole
history; the flush-window part of the limits suite replays that on the real server.)
-/
namespace EV.Index

/-- the loop: the first attempt that resolves every number answers; `none` = still retrying after
    all the given views -/
def limitedHistoryLoop (views : List Sys) (hx : HashX) (limit : Option Nat) :
    Option (List (Hash × Nat)) :=
  views.findSome? (fun s => limitedHistory s hx limit)

theorem limitedHistory_length {s : Sys} {hx : HashX} {limit : Option Nat} {l : List (Hash × Nat)}
    (h : limitedHistory s hx limit = some l) : l.length = (getTxnums s.p hx limit).length :=
  mapM_option_length _ _ _ h

theorem limitedHistory_whole {s : Sys} {hx : HashX} {n : Nat} {l : List (Hash × Nat)}
    (h : limitedHistory s hx (some n) = some l) (hlt : l.length < n) :
    limitedHistory s hx none = some l := by
  -- fewer than `n` numbers were read, so the limit cut nothing off
  rw [limitedHistory_length h, getTxnums_some, List.length_take] at hlt
  unfold limitedHistory at h ⊢
  rwa [getTxnums_some, List.take_of_length_le (by omega)] at h

/-- **C17 (retry: same limit).**  The answer of the loop is the answer of one attempt, made with the
    caller's limit, on one of the views. -/
theorem C17_retry_attempt (views : List Sys) (hx : HashX) (limit : Option Nat) (l : List (Hash × Nat))
    (h : limitedHistoryLoop views hx limit = some l) :
    ∃ s ∈ views, limitedHistory s hx limit = some l :=
  List.exists_of_findSome?_eq_some h

/-- **C17 (retry: bounded).**  Never more than `limit` entries. -/
theorem C17_retry_bounded (views : List Sys) (hx : HashX) (n : Nat) (l : List (Hash × Nat))
    (h : limitedHistoryLoop views hx (some n) = some l) : l.length ≤ n := by
  obtain ⟨s, _, hs⟩ := C17_retry_attempt views hx (some n) l h
  rw [limitedHistory_length hs, getTxnums_some, List.length_take]
  exact Nat.min_le_left _ _

/-- **C17 (retry: whole or at the limit, never silently truncated).**  If the loop answers with fewer
    than `limit` entries, the answer is the complete history of the view it was read from: the
    unlimited read of that view resolves to the very same list. -/
theorem C17_retry_whole (views : List Sys) (hx : HashX) (n : Nat) (l : List (Hash × Nat))
    (h : limitedHistoryLoop views hx (some n) = some l) (hlt : l.length < n) :
    ∃ s ∈ views, limitedHistory s hx none = some l := by
  obtain ⟨s, hmem, hs⟩ := C17_retry_attempt views hx (some n) l h
  exact ⟨s, hmem, limitedHistory_whole hs hlt⟩

end EV.Index

/-! non-vacuity: the views of a real flush window.  Block 7 (one transaction paying script hash 1) is
advanced on the opened empty index; after a history-only flush the history row names tx number 0 while
the committed state has no block (the attempt answers "retry"); after the full flush it resolves. -/
namespace C17retryEx
open EV.Index

def cfg : Cfg := { act := 1, reorgLimit := 2 }
def blk : Block := ⟨7, 0, 0, 100, [⟨11, [⟨0, 4294967295⟩], [⟨50, 1, .normal⟩]⟩]⟩

def flushed (s : Sys) (fu : Bool) : Option Sys :=
  (flushDbs s fu).map (fun (es, m) => { m := m, p := applyEffects s.p es })

def views : Option (Sys × Sys) := do
  let (_, s0) ← openDbs cfg {} false none
  let s1 ← (advance cfg 0 s0 blk).toOption
  let s2 ← flushed s1 false
  let s3 ← flushed s2 true
  pure (s2, s3)

example : views.isSome = true := by decide +kernel
example : (views.map fun v => limitedHistory v.1 1 (some 5)) = some none := by decide +kernel
example : (views.map fun v => limitedHistory v.2 1 (some 5)) = some (some [(11, 0)]) := by decide +kernel
example : (views.map fun v => limitedHistoryLoop [v.1, v.1, v.2] 1 (some 5)) = some (some [(11, 0)]) := by
  decide +kernel

end C17retryEx
