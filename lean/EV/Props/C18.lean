import EV.Proofs.DaemonProc

/-!
# C18 — daemon calls ride out transient faults and return only genuine results

"For any finite sequence of transient daemon failures (timeouts, disconnects, connection resets,
refused service, warming-up replies) followed by availability, every daemon call eventually returns
the daemon's real answer - never a partial, reordered or stale one - failing over to the next
configured URL round-robin once retries back off to the maximum, while genuine RPC errors are raised
to the caller instead of retried; batched calls return results positionally aligned with their
requests."

Model: `EV/Model/Daemon.lean` (literal model of `daemon.py :: Daemon._send`, its `log_error` /
`failover`, `_post_json`, the processors of `_send_single` / `_send_vector`, `getrawtransactions`,
`_get_to_file`), tied to the class in /repo by the `daemon` correspondence suite on every run.

A call is run against the list of what its successive attempts meet.  Every theorem quantifies over
*every* list of transient faults (any length, any mix of the seven kinds), every configuration
`(nUrls, initRetry, maxRetry)` and every starting URL index; the hypotheses are spelled out at each
theorem.  `IsTransient cls x` = "attempt `x` raises something one of the seven `except` clauses of
`_send` catches".
-/
namespace EV.Daemon

variable {α ε σ ι : Type}

/-- The five network exception families, in the order the `except` chain asks, a non-JSON reply
(`ServiceRefusedError`), a single reply whose error code is `WARMING_UP`, and a batch reply with a
warming-up item *anywhere* in it (whatever the other items are, `replace_errs` or not) are all
transient; a transport exception is transient **only** if one of the five families matches. -/
theorem C18_fault_alphabet (wu : Int) (x : ExcClass) (proc : JReply → Outcome α Exc) :
    (IsTransient (classify proc) (.raises x) ↔
      (x.isTimeout || x.isServerDisconnected || x.isConnectionReset || x.isClientConnection
        || x.isClientError) = true) ∧
    IsTransient (classify proc) .nonJson ∧
    (∀ tag v, IsTransient (classify (procSingle wu)) (.json (.obj ⟨.obj (some wu) tag, v⟩))) ∧
    (∀ replace (as : List Ans), (∃ a ∈ as, a.warm wu = true) →
      IsTransient (classify (procVector wu replace)) (.json (.arr (as.map Ans.item)))) := by
  refine ⟨?_, ⟨.serviceRefused, rfl⟩, ?_, ?_⟩
  · exact catchExc_transient_iff x
  · intro tag v; exact ⟨.warmingUp, by rw [classify, procSingle_warm]⟩
  · intro replace as h; exact ⟨.warmingUp, by rw [classify, procVector_items, if_pos (List.any_eq_true.mpr h)]⟩

/-- bitcoind's `RPC_IN_WARMUP` is −28: the code must treat exactly that error code as "warming up"
(environment constant, pinned; regenerated from `Daemon.WARMING_UP` on every run). -/
theorem C18_warming_up_code : Gen.daemonWarmingUp = -28 := rfl

/-- the defaults of `Daemon.__init__` satisfy the hypotheses `0 < init ≤ max` of `C18_failover` -/
theorem C18_defaults_ok : 0 < Gen.daemonInitRetry ∧ Gen.daemonInitRetry ≤ Gen.daemonMaxRetry := by
  decide

/-- **C18 (real answer, genuine errors raised).**  Let the attempts of a `_send` call meet any list
`faults` of transient faults and then an attempt `x` that is not transient, followed by anything
(`rest`).  If `x` returns `v`, the call returns `v` — the value of the *first* non-transient attempt —
after exactly `faults.length` sleeps and `faults.length + 1` attempts, and the side state (the block
file) is what `x` left on top of what the faults left.  If `x` raises a non-listed exception `e`
(a `DaemonError` from the processor, or anything else), the call raises `e` after exactly
`faults.length` sleeps: it is not retried.  In both cases the whole outcome is independent of
`rest`: nothing after the first non-transient attempt is ever looked at.  No hypotheses on the
configuration. -/
theorem C18_returns_real (c : Cfg) (cls : ι → Outcome α ε) (eff : σ → ι → σ) (u : Nat) (s : σ)
    (faults : List ι) (hf : ∀ x ∈ faults, IsTransient cls x) (x : ι) (rest : List ι) :
    (∀ v, cls x = .ok v →
      (send c cls eff u s (faults ++ x :: rest)).res = .returned v ∧
      (send c cls eff u s (faults ++ x :: rest)).sleeps.length = faults.length ∧
      (send c cls eff u s (faults ++ x :: rest)).contacted.length = faults.length + 1 ∧
      (send c cls eff u s (faults ++ x :: rest)).side = eff (faults.foldl eff s) x) ∧
    (∀ e, cls x = .fatal e →
      (send c cls eff u s (faults ++ x :: rest)).res = .raised e ∧
      (send c cls eff u s (faults ++ x :: rest)).sleeps.length = faults.length ∧
      (send c cls eff u s (faults ++ x :: rest)).contacted.length = faults.length + 1) ∧
    (¬ IsTransient cls x →
      send c cls eff u s (faults ++ x :: rest) = send c cls eff u s (faults ++ [x])) := by
  have h (rest : List ι) {o : Outcome α ε} := send_decided c cls eff u s faults hf x rest (o := o)
  refine ⟨fun v hx => ?_, fun e hx => ?_, fun hnt => ?_⟩
  · rw [h rest hx nofun]
    exact ⟨rfl, length_map_range _ _, length_map_range _ _, rfl⟩
  · rw [h rest hx nofun]
    exact ⟨rfl, length_map_range _ _, length_map_range _ _⟩
  · rw [h rest rfl fun k hk => hnt ⟨k, hk⟩, h [] rfl fun k hk => hnt ⟨k, hk⟩]

/-- The statement in the shape of DESIGN.md: the attempts are given directly as outcomes. -/
theorem C18_returns_real_outcomes (c : Cfg) (u : Nat) (ks : List Transient) (rest : List (Outcome α ε)) :
    (∀ v, (send c id (fun (s : Unit) _ => s) u () (ks.map .transient ++ [.ok v] ++ rest)).res = .returned v ∧
          (send c id (fun (s : Unit) _ => s) u () (ks.map .transient ++ [.ok v] ++ rest)).sleeps.length
            = ks.length) ∧
    (∀ e, (send c id (fun (s : Unit) _ => s) u () (ks.map .transient ++ [.fatal e] ++ rest)).res = .raised e ∧
          (send c id (fun (s : Unit) _ => s) u () (ks.map .transient ++ [.fatal e] ++ rest)).sleeps.length
            = ks.length) := by
  have hf : ∀ x ∈ ks.map (Outcome.transient (α := α) (ε := ε)), IsTransient id x := by
    intro x hx
    obtain ⟨k, _, rfl⟩ := List.mem_map.mp hx
    exact ⟨k, rfl⟩
  refine ⟨fun v => ?_, fun e => ?_⟩
  · have h := (C18_returns_real c id (fun (s : Unit) _ => s) u () _ hf (.ok v) rest).1 v rfl
    rw [List.length_map] at h
    rw [List.append_assoc]
    exact ⟨h.1, h.2.1⟩
  · have h := (C18_returns_real c id (fun (s : Unit) _ => s) u () _ hf (.fatal e) rest).2.1 e rfl
    rw [List.length_map] at h
    rw [List.append_assoc]
    exact ⟨h.1, h.2.1⟩

/-- **C18 (only genuine results), converse direction.**  Whatever the attempts meet — no assumption
at all on the list — if the call returns `v` then `v` is what one particular attempt returned, every
attempt before it was a transient fault, the side state was last written by that same attempt, and
the number of sleeps is the number of those faults.  If it raises `e`, some attempt raised exactly `e`
and everything before it was transient. -/
theorem C18_only_genuine (c : Cfg) (cls : ι → Outcome α ε) (eff : σ → ι → σ) (u : Nat) (s : σ)
    (xs : List ι) :
    (∀ v, (send c cls eff u s xs).res = .returned v →
      ∃ pre x post, xs = pre ++ x :: post ∧ (∀ y ∈ pre, IsTransient cls y) ∧ cls x = .ok v ∧
        (send c cls eff u s xs).side = eff (pre.foldl eff s) x ∧
        (send c cls eff u s xs).sleeps.length = pre.length) ∧
    (∀ e, (send c cls eff u s xs).res = .raised e →
      ∃ pre x post, xs = pre ++ x :: post ∧ (∀ y ∈ pre, IsTransient cls y) ∧ cls x = .fatal e ∧
        (send c cls eff u s xs).sleeps.length = pre.length) := by
  obtain ⟨pre, fin, rfl, hpre, hfin⟩ := transient_split cls xs
  cases fin with
  | nil => rw [List.append_nil, send_pending c cls eff u s pre hpre]; exact ⟨nofun, nofun⟩
  | cons x post =>
    rw [send_decided c cls eff u s pre hpre x post rfl fun k hk => hfin x rfl ⟨k, hk⟩]
    exact ⟨fun v h => ⟨pre, x, post, rfl, hpre, Outcome.eq_of_res h nofun, rfl, length_map_range _ _⟩,
      fun e h => ⟨pre, x, post, rfl, hpre, Outcome.eq_of_res h nofun, length_map_range _ _⟩⟩

/-- **C18 for `_send_single`** (`height`, `mempool_hashes`, `getrawtransaction`, …).  After any list
of transient replies, a reply `{"error": e, "result": v}` with a null (falsy) error makes the call
return exactly `v`; a reply whose error is an object with a code other than `WARMING_UP` makes the
call raise `DaemonError(that error)` — after exactly `faults.length` sleeps in both cases. -/
theorem C18_single_real (c : Cfg) (wu : Int) (u : Nat) (faults : List Reply)
    (hf : ∀ r ∈ faults, IsTransient (classify (procSingle wu)) r) (e : JErr) (v : Val)
    (rest : List Reply) :
    (e.truthy = false →
      (sendSingle c wu u (faults ++ .json (.obj ⟨e, v⟩) :: rest)).res = .returned v ∧
      (sendSingle c wu u (faults ++ .json (.obj ⟨e, v⟩) :: rest)).sleeps.length = faults.length) ∧
    (∀ code tag, e = .obj code tag → code ≠ some wu →
      (sendSingle c wu u (faults ++ .json (.obj ⟨e, v⟩) :: rest)).res = .raised (.daemonErrorOne e) ∧
      (sendSingle c wu u (faults ++ .json (.obj ⟨e, v⟩) :: rest)).sleeps.length = faults.length) := by
  have hreal := C18_returns_real c _ noEff u () faults hf (.json (.obj ⟨e, v⟩)) rest
  refine ⟨fun he => ?_, fun code tag he hc => ?_⟩
  · have h := hreal.1 v (by rw [classify, procSingle_result wu e v he])
    exact ⟨h.1, h.2.1⟩
  · subst he
    have h := hreal.2.1 (.daemonErrorOne (.obj code tag)) (by rw [classify, procSingle_error wu code tag v hc])
    exact ⟨h.1, h.2.1⟩

/-- `height()` caches the height only when the call returns: a raised error leaves `cached_height()`
as it was. -/
theorem C18_height_cache (c : Cfg) (wu : Int) (u : Nat) (cached : Option Val) (replies : List Reply) :
    (∀ v, (height c wu u cached replies).1.res = .returned v → (height c wu u cached replies).2 = some v) ∧
    (∀ e, (height c wu u cached replies).1.res = .raised e → (height c wu u cached replies).2 = cached) := by
  refine ⟨?_, ?_⟩
  · intro v h; simp only [height] at h ⊢; rw [h]; rfl
  · intro e h; simp only [height] at h ⊢; rw [h]; rfl

/-- attempts per fail-over cycle: the number of doublings that take `init_retry` to `max_retry`,
plus one (the attempt made *at* `max_retry`) -/
def period (c : Cfg) : Nat := doublings c.maxRetry c.initRetry + 1

/-- `k`: how many of the first `L` faults were observed while `retry = max_retry` and another URL was
there to go to -/
def failovers (c : Cfg) (L : Nat) : Nat := if 1 < c.nUrls then L / period c else 0

/-- the argument of the `i`-th sleep (0-based) -/
def sleepAt (c : Cfg) (i : Nat) : Nat :=
  if 1 < c.nUrls then
    (if i % period c = period c - 1 then 0 else c.initRetry * 2 ^ (i % period c))
  else min c.maxRetry (c.initRetry * 2 ^ i)

theorem period_eq (c : Cfg) (hinit : 0 < c.initRetry) (p : Nat) (hp : Reaches c p) : period c = p + 1 := by
  rw [period, reaches_unique c _ p (reaches_doublings c hinit) hp]

/-! `failovers` and `sleepAt` are the closed forms of `backoff_many`, `sleepAfter_many` and `retryAt` of
`Proofs/Daemon.lean` at `p := doublings …`, where `period c = p + 1` -/
section
variable (c : Cfg) (hinit : 0 < c.initRetry) (hle : c.initRetry ≤ c.maxRetry) (u : Nat)
  (hu : u < c.nUrls) (i : Nat)
include hinit hle hu

theorem urlAt_closed : urlAt c u c.initRetry i = (u + failovers c i) % c.nUrls := by
  by_cases hn : 1 < c.nUrls
  · rw [urlAt, backoff_many c _ (reaches_doublings c hinit) hle hn u hu, failovers, if_pos hn, period]
  · rw [urlAt, backoff_single c hle hn, failovers, if_neg hn, Nat.add_zero, Nat.mod_eq_of_lt hu]

theorem sleepAfter_closed : sleepAfter c u c.initRetry i = sleepAt c i := by
  by_cases hn : 1 < c.nUrls
  · rw [sleepAfter_many c _ (reaches_doublings c hinit) hle hn u hu, sleepAt, if_pos hn, period,
      Nat.add_sub_cancel]
  · rw [sleepAfter_single c hle hn, sleepAt, if_neg hn, retryAt]

end

/-- **C18 (fail-over), closed form.**  Hypotheses: `0 < initRetry ≤ maxRetry` (true of the defaults,
`C18_defaults_ok`; with `init > max` the code never reaches `retry == max_retry` and never fails
over), and the starting index is a valid index (`set_url` and `failover` keep it so).  For every list
of transient faults followed by nothing (call still pending) or by a non-transient attempt:

* `url_index` ends at `(u + k) % nUrls`, `k = faults.length / period` — one fail-over per `period`
  faults, round-robin — and `k = 0` when there is a single URL;
* the `i`-th sleep is `init·2^(i % period)`, except the last of each period which is `0` (the
  fail-over resets `retry` to 0, and the next value is `init` again); with a single URL it is
  `min max (init·2^i)`;
* the `i`-th attempt is sent to URL `(u + i / period) % nUrls`. -/
theorem C18_failover (c : Cfg) (hinit : 0 < c.initRetry) (hle : c.initRetry ≤ c.maxRetry)
    (cls : ι → Outcome α ε) (eff : σ → ι → σ) (u : Nat) (hu : u < c.nUrls) (s : σ)
    (faults : List ι) (hf : ∀ x ∈ faults, IsTransient cls x) (fin : List ι)
    (hfin : ∀ x, fin.head? = some x → ¬ IsTransient cls x) :
    (send c cls eff u s (faults ++ fin)).urlIndex = (u + failovers c faults.length) % c.nUrls ∧
    (send c cls eff u s (faults ++ fin)).sleeps = (List.range faults.length).map (sleepAt c) ∧
    (send c cls eff u s (faults ++ fin)).contacted =
      (List.range (faults.length + (if fin.isEmpty then 0 else 1))).map
        (fun i => (u + failovers c i) % c.nUrls) := by
  have h (n : Nat) := And.intro (urlAt_closed c hinit hle u hu faults.length) <| And.intro
    (List.map_congr_left (l := List.range faults.length) fun i _ => sleepAfter_closed c hinit hle u hu i)
    (List.map_congr_left (l := List.range n) fun i _ => urlAt_closed c hinit hle u hu i)
  cases fin with
  | nil => rw [List.append_nil, send_pending c cls eff u s faults hf]; exact h _
  | cons x rest =>
    rw [send_decided c cls eff u s faults hf x rest rfl fun k hk => hfin x rfl ⟨k, hk⟩]; exact h _

/-- **C18 (fail-over), the single step.**  No hypothesis on the configuration: a fault observed while
`retry = max_retry` with more than one URL moves to the next URL round-robin and is followed by
`sleep(0)`; the retry time after that sleep is `init_retry` (back-off restarts); with a single URL
nothing changes (`k = 0`), and a fault observed at any other retry time changes neither. -/
theorem C18_failover_step (c : Cfg) (u r : Nat) :
    (1 < c.nUrls → logError c u c.maxRetry = ((u + 1) % c.nUrls, 0) ∧ nextRetry c 0 = c.initRetry) ∧
    (¬ 1 < c.nUrls → logError c u r = (u, r)) ∧
    (r ≠ c.maxRetry → logError c u r = (u, r)) :=
  ⟨fun hn => ⟨logError_many_at_max c hn u, nextRetry_zero c⟩,
   fun hn => logError_single c hn u r,
   fun hr => logError_not_max c u r hr⟩

/-- In the closed form: a sleep is `0` exactly at a fail-over, and (when `init < max`) the sleep after
it is `init_retry`. -/
theorem C18_failover_restart (c : Cfg) (hinit : 0 < c.initRetry) (hle : c.initRetry ≤ c.maxRetry)
    (i : Nat) :
    (sleepAt c i = 0 ↔ 1 < c.nUrls ∧ (i + 1) % period c = 0) ∧
    (1 < c.nUrls → (i + 1) % period c = 0 → c.initRetry < c.maxRetry → sleepAt c (i + 1) = c.initRetry) := by
  refine ⟨?_, ?_⟩
  · rw [sleepAt, period, Nat.succ_mod_succ_eq_zero_iff, Nat.add_sub_cancel]
    generalize doublings c.maxRetry c.initRetry = d
    by_cases hn : 1 < c.nUrls
    · rw [if_pos hn]
      by_cases h : i % (d + 1) = d
      · rw [if_pos h]; exact ⟨fun _ => ⟨hn, h⟩, fun _ => rfl⟩
      · rw [if_neg h]
        exact ⟨fun h0 => absurd h0 (Nat.ne_of_gt (Nat.mul_pos hinit (Nat.two_pow_pos _))),
          fun h1 => absurd h1.2 h⟩
    · rw [if_neg hn]
      exact ⟨fun h0 => absurd h0 (Nat.ne_of_gt (retryAt_pos c hinit hle i)), fun h1 => absurd h1.1 hn⟩
  · intro hn h0 hlt
    -- `init < max` needs at least one doubling, so the period is longer than 1
    have hd : doublings c.maxRetry c.initRetry ≠ 0 := by
      intro hd
      have hr := (reaches_doublings c hinit).reach
      rw [hd, Nat.pow_zero, Nat.mul_one] at hr
      exact absurd hlt (Nat.not_lt.mpr hr)
    have : ¬ (0 = period c - 1) := by
      rw [period, Nat.add_sub_cancel]; exact fun h => hd h.symm
    rw [sleepAt, if_pos hn, h0, if_neg this, Nat.pow_zero, Nat.mul_one]

/-- **C18 (batched calls are positionally aligned).**  Environment hypothesis (DESIGN §5.5): the batch
reply answers the requests in order — it is `reqs.map (item ∘ ans)` where `ans r` is the daemon's real
answer to request `r` (a result, or an error object; bitcoind's encoding `Ans.item`) — and none of
those answers is the warming-up error (that case is a transient fault: `C18_fault_alphabet`).
After any list of transient faults, for a non-empty request list:

* with `replace_errs`, or when no answer is an error, the call returns `reqs.map (value ∘ ans)`: same
  length, and item `i` is the result of request `i`, or `null` where that request's answer was an error;
* without `replace_errs` and with at least one error answer, it raises `DaemonError` carrying exactly
  the error objects, in request order — nothing is returned. -/
theorem C18_vector_aligned {ρ : Type} (c : Cfg) (wu : Int) (u : Nat) (replace : Bool) (reqs : List ρ)
    (hne : reqs ≠ []) (ans : ρ → Ans) (hnw : ∀ r ∈ reqs, (ans r).warm wu = false)
    (faults : List Reply) (hf : ∀ r ∈ faults, IsTransient (classify (procVector wu replace)) r)
    (rest : List Reply) :
    ((replace = true ∨ ∀ r ∈ reqs, (ans r).isErr = false) →
      (sendVector c wu u replace reqs
        (faults ++ .json (.arr (reqs.map (fun r => (ans r).item))) :: rest)).res
          = .returned (reqs.map (fun r => (ans r).value)) ∧
      (reqs.map (fun r => (ans r).value)).length = reqs.length ∧
      (∀ i (hi : i < reqs.length), (reqs.map (fun r => (ans r).value))[i]? = some (ans reqs[i]).value)) ∧
    (replace = false → (∃ r ∈ reqs, (ans r).isErr = true) →
      (sendVector c wu u replace reqs
        (faults ++ .json (.arr (reqs.map (fun r => (ans r).item))) :: rest)).res
          = .raised (.daemonErrorMany (errList (reqs.map ans)))) ∧
    (sendVector c wu u replace reqs
        (faults ++ .json (.arr (reqs.map (fun r => (ans r).item))) :: rest)).sleeps.length
      = faults.length := by
  obtain ⟨hres, hlen⟩ := sendVector_answers c wu u replace reqs hne (reqs.map ans)
    (List.forall_mem_map.mpr hnw) faults hf rest
  simp only [List.map_map] at hres hlen
  have hcond : ((errList (reqs.map ans)).isEmpty || replace) = true ↔
      (replace = true ∨ ∀ r ∈ reqs, (ans r).isErr = false) := by
    rw [Bool.or_eq_true, errList_isEmpty, List.forall_mem_map, Or.comm]
  refine ⟨fun hor => ⟨hres.trans (if_pos (hcond.mpr hor)), by simp, fun i hi => by simp [hi]⟩,
    fun hrep ⟨r, hr, he⟩ => hres.trans (if_neg fun hc => ?_), hlen⟩
  rcases hcond.mp hc with h | h
  · rw [hrep] at h; exact absurd h (by decide)
  · rw [h r hr] at he; exact absurd he (by decide)

/-- "`None` exactly where that item carried an error": provided the daemon's genuine results are not
themselves `null`. -/
theorem C18_vector_null_iff_error (a : Ans) (hres : ∀ v, a = .result v → v ≠ .null) :
    a.value = .null ↔ a.isErr = true := by
  cases a with
  | result v => simpa [Ans.value, Ans.isErr] using hres v rfl
  | error code tag => simp [Ans.value, Ans.isErr]

/-- An empty request list returns `[]` without contacting the daemon, whatever the daemon would say. -/
theorem C18_vector_empty {ρ : Type} (c : Cfg) (wu : Int) (u : Nat) (replace : Bool) (replies : List Reply) :
    sendVector c wu u replace ([] : List ρ) replies = ⟨.returned [], u, [], [], none, ()⟩ := rfl

/-- the daemon's answer to one `getrawtransaction` of a batch -/
inductive TxAns where
  | tx (raw : Bytes)
  | missing (code : Option Int) (tag : Nat)
deriving Repr, DecidableEq

/-- bitcoind sends the serialised transaction as lower-case hex -/
def TxAns.ans : TxAns → Ans
  | .tx raw => .result (.str (hexChars raw))
  | .missing code tag => .error code tag

def TxAns.expected : TxAns → Option Bytes
  | .tx raw => some raw
  | .missing _ _ => none

/-- **C18 for `getrawtransactions(hashes)`** (`replace_errs=True`, the default).  If the batch reply
answers the hashes in order, each with the hex of a non-empty transaction or with an error that is
not "warming up", the call returns — after any list of transient faults — the list whose item `i` is
the raw bytes of the transaction for hash `i`, or `None` where the daemon reported an error. -/
theorem C18_rawtx_aligned {ρ : Type} (c : Cfg) (wu : Int) (u : Nat) (hashes : List ρ) (hne : hashes ≠ [])
    (ans : ρ → TxAns)
    (hvalid : ∀ h ∈ hashes, ∀ raw, ans h = .tx raw → raw ≠ [] ∧ ∀ b ∈ raw, b < 256)
    (hnw : ∀ h ∈ hashes, (ans h).ans.warm wu = false)
    (faults : List Reply) (hf : ∀ r ∈ faults, IsTransient (classify (procVector wu true)) r)
    (rest : List Reply) :
    (getRawTransactions c wu u true hashes
        (faults ++ .json (.arr (hashes.map (fun h => (ans h).ans.item))) :: rest)).res
      = .returned (hashes.map (fun h => (ans h).expected)) ∧
    (getRawTransactions c wu u true hashes
        (faults ++ .json (.arr (hashes.map (fun h => (ans h).ans.item))) :: rest)).sleeps.length
      = faults.length := by
  have hv := C18_vector_aligned c wu u true hashes hne (fun h => (ans h).ans) hnw faults hf rest
  obtain ⟨h1, _, h3⟩ := hv
  have hres := (h1 (Or.inl rfl)).1
  refine ⟨?_, h3⟩
  simp only [getRawTransactions, hres, convRes]
  have hconv : convAll (hashes.map (fun h => (ans h).ans.value)) =
      .ok (hashes.map (fun h => (ans h).expected)) := by
    apply convAll_map
    intro h hh
    cases ha : ans h with
    | tx raw =>
      obtain ⟨hne', hb⟩ := hvalid h hh raw ha
      simp only [TxAns.ans, Ans.value, TxAns.expected]
      exact hexToBytes_hex raw hne' hb
    | missing code tag => simp [TxAns.ans, Ans.value, TxAns.expected, hexToBytes]
  rw [hconv]

/-- **C18 (block-to-file streaming).**  Whatever the file held before and whatever partial bytes the
failed attempts left in it, when `get_block` returns — after any list of transient faults, including
ones that struck in the middle of a stream — the returned size is the length of the file and the file
holds exactly the chunks of the successful attempt, in order. -/
theorem C18_file (c : Cfg) (u : Nat) (file0 : Bytes) (faults : List FileReply)
    (hf : ∀ r ∈ faults, IsTransient fileOutcome r) (chunks : List Bytes) (rest : List FileReply) :
    (getBlock c u file0 (faults ++ .stream chunks .done :: rest)).res = .returned chunks.flatten.length ∧
    (getBlock c u file0 (faults ++ .stream chunks .done :: rest)).side = chunks.flatten ∧
    (getBlock c u file0 (faults ++ .stream chunks .done :: rest)).sleeps.length = faults.length := by
  obtain ⟨he, ho⟩ := fileEffect_done (faults.foldl fileEffect file0) chunks
  have h := (C18_returns_real c fileOutcome fileEffect u file0 faults hf _ rest).1 _ ho
  exact ⟨h.1, by rw [getBlock, h.2.2.2, he], h.2.1⟩

/-- Converse, with no assumption on the attempts: if `get_block` returns `size`, then some attempt
streamed to completion, all attempts before it were transient faults, the file holds exactly that
attempt's chunks and `size` is its length. -/
theorem C18_file_only (c : Cfg) (u : Nat) (file0 : Bytes) (replies : List FileReply) (size : Nat)
    (h : (getBlock c u file0 replies).res = .returned size) :
    ∃ pre chunks post, replies = pre ++ .stream chunks .done :: post ∧
      (∀ r ∈ pre, IsTransient fileOutcome r) ∧
      (getBlock c u file0 replies).side = chunks.flatten ∧ size = chunks.flatten.length := by
  obtain ⟨pre, x, post, hxs, hpre, hx, hside, _⟩ :=
    (C18_only_genuine c fileOutcome fileEffect u file0 replies).1 size h
  obtain ⟨chunks, rfl⟩ := fileOutcome_ok x size hx
  obtain ⟨he, ho⟩ := fileEffect_done (pre.foldl fileEffect file0) chunks
  refine ⟨pre, chunks, post, hxs, hpre, ?_, ?_⟩
  · rw [getBlock, hside, he]
  · rw [ho] at hx; injection hx with hx; exact hx.symm

/-- Every attempt starts by truncating: what an attempt leaves in the file does not depend on what
was there, in particular not on the partial bytes of a failed attempt. -/
theorem C18_file_truncates (f f' : Bytes) (r : FileReply) : fileEffect f r = fileEffect f' r := by
  cases r <;> rfl

/-! ## non-vacuity -/

/-- the default configuration with two URLs: six timeouts, then an answer.  Sleeps 1,2,4,8 units
(0.25 … 2 s), the fifth fault is observed at `max_retry` = 16 units: fail-over, sleep 0, back to 1. -/
example :
    send ⟨2, 1, 16⟩ id (fun (s : Unit) _ => s) 0 ()
      ((List.replicate 6 (Outcome.transient .timeout)) ++ [Outcome.ok 7, (Outcome.fatal 3 : Outcome Nat Nat)]) =
    ⟨.returned 7, 1, [1, 2, 4, 8, 0, 1], [0, 0, 0, 0, 0, 1, 1], none, ()⟩ := by decide +kernel

example : period ⟨2, 1, 16⟩ = 5 :=
  period_eq _ (by decide) 4 ⟨by decide, by decide⟩

/-- one URL: no fail-over, the retry time saturates -/
example :
    (send ⟨1, 1, 4⟩ id (fun (s : Unit) _ => s) 0 ()
      ((List.replicate 5 (Outcome.transient .warmingUp)) ++ [(Outcome.fatal 9 : Outcome Nat Nat)])) =
    ⟨.raised 9, 0, [1, 2, 4, 4, 4], [0, 0, 0, 0, 0, 0], none, ()⟩ := by decide +kernel

/-- `init = max`: every fault fails over and every sleep is 0 -/
example :
    (send ⟨3, 2, 2⟩ id (fun (s : Unit) _ => s) 2 ()
      ((List.replicate 4 (Outcome.transient .reset)) ++ [(Outcome.ok 1 : Outcome Nat Nat)])) =
    ⟨.returned 1, 0, [0, 0, 0, 0], [2, 0, 1, 2, 0], some .restored, ()⟩ := by decide +kernel

/-- a vector reply with one warming-up item next to a genuine error is a transient fault, after which
the aligned answer (one error replaced by null) is returned -/
example :
    (sendVector ⟨1, 1, 16⟩ (-28) 0 true [10, 11, 12]
      [.json (.arr [⟨.null, .str ['a']⟩, ⟨.obj (some (-28)) 0, .null⟩, ⟨.obj (some (-5)) 1, .null⟩]),
       .raises ⟨true, false, false, false, false, 0⟩, .nonJson,
       .json (.arr [⟨.null, .str ['a']⟩, ⟨.obj (some (-5)) 1, .null⟩, ⟨.null, .str ['c']⟩])]).res =
    .returned [.str ['a'], .null, .str ['c']] := by decide +kernel

/-- a stream cut by a disconnect after two chunks, then a complete one: the file holds only the latter -/
example :
    getBlock ⟨1, 1, 16⟩ 0 [9, 9, 9]
      [.stream [[1, 2], [3]] (.raises ⟨false, true, false, true, true, 0⟩), .stream [[4], [5, 6]] .done] =
    ⟨.returned 3, 0, [1], [0, 0], some .restored, [4, 5, 6]⟩ := by decide +kernel

/-- …and if the cut is fatal (say, the disk is full: an `OSError`), the partial bytes stay -/
example :
    getBlock ⟨1, 1, 16⟩ 0 [9, 9, 9]
      [.stream [[1, 2], [3]] (.raises ⟨false, false, false, false, false, 7⟩), .stream [[4]] .done] =
    ⟨.raised (.other 7), 0, [], [0], none, [1, 2, 3]⟩ := by decide +kernel

example : hexToBytes (.str (hexChars [0, 171, 255])) = .ok (some [0, 171, 255]) := rfl

end EV.Daemon
