import EV.Proofs.IndexUndo

/-!
# C15 — Exactly the configured window of recent blocks can be undone

Model: `advance` (keeps a block's undo list iff `height ≥ daemon_height − reorg_limit + 1`),
`flushDbs` (writes the kept lists with the UTXO batch), `openDbs` (`clear_excess_undo_info`),
`backupFull` (refuses without a row).  Tie to the code: suite `index` (undo rows are dumped and
compared after every operation, for reorg limits 1, 2, 3, 4, 200 and daemon-height trajectories
far-ahead / tracking / jumping).
-/
namespace EV.Index

/-- **C15 (what `advance_block` keeps).**  The block's undo list is appended to the unflushed undo
infos exactly when its height is at least `daemon_height − reorg_limit + 1`. -/
theorem C15_keep {cfg : Cfg} {daemonH : Int} {s s' : Sys} {b : Block}
    (h : advance cfg daemonH s b = .ok s') :
    ∃ a : Acc Sys,
      advanceTxs sysOps cfg (s.m.st.height + 1).toNat b.txs { s := s, txNum := s.m.st.txCount } = .ok a ∧
      s'.m.undoU = (if undoKept cfg daemonH (s.m.st.height + 1).toNat
                    then a.s.m.undoU ++ [(a.undo, (s.m.st.height + 1).toNat)] else a.s.m.undoU) ∧
      s'.m.st.height = ((s.m.st.height + 1).toNat : Int) ∧ s'.p = a.s.p :=
  advance_undo h

/-- **C15 (window).**  A block at height `b` with `H − reorg_limit < b ≤ H`, indexed while the
daemon showed a height `D ≤ H` (true whenever daemon heights do not fall before the server catches
up at `H`), kept its undo information — whether it was indexed during initial sync or while caught
up. -/
theorem C15_window (cfg : Cfg) (H D : Int) (b : Nat) (hD : D ≤ H) (hb : H - cfg.reorgLimit < b) :
    undoKept cfg D b = true :=
  undoKept_of_window cfg H D b hD hb

/-- the hypothesis `D ≤ H` cannot be dropped (F10): reorg limit 2, block 8 indexed while the daemon
    showed 10, server later catches up at 9: block 8 is inside the window {8, 9} but has no undo -/
theorem C15_counterexample_falling_daemon_height :
    undoKept { act := 0, reorgLimit := 2 } 10 8 = false ∧ ((9 : Int) - 2 < 8) := by decide

/-- **C15 (pruning on start-up).**  After `_open_dbs` the undo rows are exactly the previous rows
whose height is not below `height − reorg_limit + 1`: older ones do not accumulate, rows inside the
window survive every restart. -/
theorem C15_prune {cfg : Cfg} {p : Store} {compacting : Bool} {keep : Option (List Nat)}
    {es : List Effect} {s : Sys} (h : openDbs cfg p compacting keep = some (es, s)) (k : Nat) :
    k ∈ s.p.undo.map (·.1) ↔
      k ∈ p.undo.map (·.1) ∧ ¬ ((k : Int) < s.m.st.height - cfg.reorgLimit + 1) :=
  openDbs_undo_keys h k

/-- **C15 (refusal).**  A back-out at a height without an undo row fails with `ChainError` before
anything is changed (depth `limit + 1` is refused exactly when the row is absent). -/
theorem C15_refuse (cfg : Cfg) (s : Sys) (b : Block)
    (hflushed : assertFlushed s = true) (hpos : 0 < s.m.st.height)
    (hnone : alookup s.m.st.height.toNat s.p.undo = none) :
    backupFull cfg s b = .error .chainError :=
  backup_refused_without_undo cfg s b hflushed hpos hnone

example : undoKept { act := 0, reorgLimit := 3 } 10 8 = true ∧ undoKept { act := 0, reorgLimit := 3 } 10 7 = false := by
  decide

end EV.Index
