import EV.Props.C17

/-!
# C17 — the history cache across either kind of notification

`C17_invalidate` is stated for `height_changed = true` only.  `SessionManager._notify_sessions` is
also called for mempool-only notifications (`height_changed = false`); the code after the fix for F4
drops the touched script hashes from the history cache in both cases (`Gen.invalidateAlways`,
regenerated from the source and evaluated by `invalidate_flag`).

Not covered (acknowledged in `harness/props/C17.py`): any statement about the BYTE size of a reply
(`L` is an entry count), and the liveness half of `C17_notify` (the `null` notification IS sent).
-/
namespace EV.Rpc

/-- **C17 (the cache across any notification).**  Whatever the `height_changed` flag of
`_notify_sessions`, if only touched script hashes changed their history between the world `w0` the
cache was coherent with and the world `w` of the notification (same `MAX_SEND`, height not lower),
the cache after the invalidation is coherent with `w`. -/
theorem C17_invalidate_any (hc : Bool) (w0 w : World) (m : Mgr) (touched : List Bytes)
    (h0 : CacheOK w0 m)
    (hsame : ∀ hx, ¬ hx ∈ touched → w.history hx = w0.history hx)
    (hms : w.maxSend = w0.maxSend) (hh : w0.height ≤ w.height) :
    CacheOK w (invalidate m touched hc) := by
  rw [invalidate_flag]
  exact C17_invalidate w0 w m touched h0 hsame hms hh

set_option maxRecDepth 20000 in
/-- non-vacuity with `w ≠ w0`: the history of script hash `[1]` grows from 3534 entries (cached as a
    list, one below the limit 3535) to 3535 entries ("history too large"); `[1]` is touched, the
    stale list is dropped by a mempool-only notification (`hc = false`) and the cache is coherent
    with the new world -/
example : CacheOK (exHist 3535)
    (invalidate { histCache := [([1], .ok (List.replicate 3534 ([7], 1)))] } [[1]] false) := by
  apply C17_invalidate_any false (exHist 3534) (exHist 3535) _ [[1]]
  · refine .single ?_
    rw [histCompute_small (by rw [exHist_limit, exHist_hist, List.length_replicate]; omega),
      exHist_hist]
  · intro hx hn
    have : hx ≠ [1] := by intro h; apply hn; simp [h]
    simp only [exHist, this, if_false]
  · rfl
  · exact Nat.le_refl _

/-- the two worlds of the example differ on the touched script hash -/
example : (exHist 3535).history [1] ≠ (exHist 3534).history [1] := by
  rw [exHist_hist, exHist_hist]
  intro h
  have := congrArg List.length h
  rw [List.length_replicate, List.length_replicate] at this
  omega

end EV.Rpc
