import EV.Props.C18

/-!
# C18 — the lockstep hazard of a SHARED `url_index` (OUTSIDE C18's quantifier)

Every theorem of `C18.lean` is about ONE `_send` call in isolation: `sendLoop` threads `url_index`
through the iterations of that call only.  In the code `self.url_index` is an attribute of the one
`Daemon` object, shared by all concurrent `_send` calls (block prefetcher, mempool refresh, height
polling, session requests).  The closed form "ends at URL `(u + faults / period) % n`" of
`C18_failover` is therefore a statement about a single call; under concurrency it is false.

This file records the simplest bad schedule on a small model of TWO concurrent calls.  The per-call
iteration reuses the step functions of `EV/Model/Daemon.lean` literally (`logError`, `nextRetry` —
exactly the expressions `sendLoop` applies on a transient fault; `solo_matches_send` ties an isolated
call of this model to `send`).  Lockstep schedule (`round`): both calls were started together, so
they sleep the same `retry`, wake in the same event-loop iteration, start their attempts at the same
`url_index` (`current_url()` is read when the attempt starts), both attempts fail, and the two
`log_error` calls run one after the other.  With two URLs, URL 0 down and URL 1 up, both calls reach
`retry == max_retry` in the same round, so `failover()` runs TWICE in that round: `0 → 1 → 0`, both
`retry` are reset to 0, and the next round starts at URL 0 again.  URL 1 — which is up — is never
contacted, although a single call in the same environment reaches it after `period` attempts.

The real class behaves the same way (2 URLs: k = 2 and k = 4 concurrent calls never contact
the second URL; k = 1 and k = 3 do).  Not a C18 violation as C18 is stated (single calls); recorded
in `harness/props/C18.py` as an acknowledged gap.
-/
namespace EV.Daemon

namespace Lockstep

/-- the per-call part of the state of one `_send` call: its local `retry`, the URLs it has contacted,
    whether it has returned -/
structure Call where
  retry : Nat
  contacted : List Nat := []
  done : Bool := false
deriving Repr, DecidableEq

/-- the part of one loop iteration after a FAILED attempt of call `k`, against the shared index `u`:
    `log_error` (possibly `failover`), `sleep`, `retry = max(min(max_retry, retry*2), init_retry)` —
    the same expressions as the transient branch of `sendLoop` -/
def fail (c : Cfg) (u : Nat) (k : Call) : Nat × Call :=
  ((logError c u k.retry).1, { k with retry := nextRetry c (logError c u k.retry).2 })

/-- an attempt of call `k` started at URL `u0` completes while the shared index is `u`: it returns if
    URL `u0` is up, otherwise it is a transient fault -/
def finish (c : Cfg) (up : Nat → Bool) (u0 u : Nat) (k : Call) : Nat × Call :=
  if k.done then (u, k)
  else if up u0 then (u, { k with contacted := k.contacted ++ [u0], done := true })
  else fail c u { k with contacted := k.contacted ++ [u0] }

/-- one lockstep round of two calls: both attempts start at the current index `u`; then call `a`'s
    attempt completes and is handled, then call `b`'s -/
def round (c : Cfg) (up : Nat → Bool) (s : Nat × Call × Call) : Nat × Call × Call :=
  let ra := finish c up s.1 s.1 s.2.1
  let rb := finish c up s.1 ra.1 s.2.2
  (rb.1, ra.2, rb.2)

def rounds (c : Cfg) (up : Nat → Bool) : Nat → Nat × Call × Call → Nat × Call × Call
  | 0, s => s
  | n + 1, s => rounds c up n (round c up s)

/-- a single call iterated alone (for comparison) -/
def soloRounds (c : Cfg) (up : Nat → Bool) : Nat → Nat × Call → Nat × Call
  | 0, s => s
  | n + 1, s => soloRounds c up n (finish c up s.1 s.1 s.2)

/-- URL 0 is down, URL 1 is up -/
def up01 (u : Nat) : Bool := u == 1

/-- a lockstep round from index 0 with both calls at the same `retry`: both attempts fail at URL 0;
    at `retry = max_retry` the two `failover()` calls take the index `0 → 1 → 0`; either way the round
    ends at index 0 with both calls at the same new `retry` -/
theorem round_zero (c : Cfg) (hn : c.nUrls = 2) (a b : Call)
    (hr : a.retry = b.retry) (ha : a.done = false) (hb : b.done = false) :
    ∃ r, round c up01 (0, a, b) =
      (0, { a with retry := r, contacted := a.contacted ++ [0] },
          { b with retry := r, contacted := b.contacted ++ [0] }) := by
  by_cases hm : b.retry = c.maxRetry
  · exact ⟨nextRetry c 0, by
      simp [round, finish, fail, ha, hb, up01, hr, hm, logError_many_at_max c (hn ▸ Nat.lt_succ_self 1), hn]⟩
  · exact ⟨nextRetry c b.retry, by simp [round, finish, fail, ha, hb, up01, hr, logError_not_max c _ _ hm]⟩

end Lockstep

open Lockstep in
/-- **C18 — lockstep hazard (counterexample to "fail-over reaches the working URL" for CONCURRENT
calls; outside C18's quantifier, which is single calls).**  Two URLs, URL 0 down, URL 1 up, any
`init_retry` / `max_retry`, two calls started together at `url_index = 0` and scheduled in lockstep.
After ANY number `n` of rounds the shared index is 0 again, neither call has returned, and all `2n`
attempts went to URL 0: URL 1 is never contacted. -/
theorem C18_lockstep_counterexample (c : Cfg) (hn : c.nUrls = 2) (n : Nat) :
    ∃ a b, rounds c up01 n (0, { retry := c.initRetry }, { retry := c.initRetry }) = (0, a, b) ∧
      a.done = false ∧ b.done = false ∧
      a.contacted = List.replicate n 0 ∧ b.contacted = List.replicate n 0 := by
  suffices h : ∀ n (a b : Call), a.retry = b.retry → a.done = false → b.done = false →
      ∃ a' b', rounds c up01 n (0, a, b) = (0, a', b') ∧ a'.done = false ∧ b'.done = false ∧
        a'.contacted = a.contacted ++ List.replicate n 0 ∧
        b'.contacted = b.contacted ++ List.replicate n 0 from
    h n _ _ rfl rfl rfl
  intro n
  induction n with
  | zero => intro a b _ ha hb; exact ⟨a, b, rfl, ha, hb, by simp, by simp⟩
  | succ n ih =>
    intro a b hr ha hb
    obtain ⟨r, h1⟩ := round_zero c hn a b hr ha hb
    rw [rounds, h1]
    obtain ⟨a2, b2, h2, ha2, hb2, hca2, hcb2⟩ :=
      ih { a with retry := r, contacted := a.contacted ++ [0] }
        { b with retry := r, contacted := b.contacted ++ [0] } rfl ha hb
    exact ⟨a2, b2, h2, ha2, hb2, by rw [hca2, List.append_assoc]; rfl, by rw [hcb2, List.append_assoc]; rfl⟩

open Lockstep in
/-- the run is not trivial, and the hazard is one of CONCURRENCY: with the default configuration
(`init_retry` 1, `max_retry` 16 units, two URLs) the two `failover()` calls do happen (round 5: both
`retry` are 16 = `max_retry`; after it both are back at `init_retry`), whereas a SINGLE call in the same
environment contacts URL 1 at its 6th attempt and returns -/
example :
    let c : Cfg := { nUrls := 2, initRetry := Gen.daemonInitRetry, maxRetry := Gen.daemonMaxRetry }
    let s0 : Nat × Call × Call := (0, { retry := c.initRetry }, { retry := c.initRetry })
    ((rounds c up01 4 s0).2.1.retry, (rounds c up01 5 s0).2.1.retry, (rounds c up01 5 s0).1) = (16, 1, 0) ∧
    -- inside round 5 the index is 1 between the two `log_error` calls
    (finish c up01 0 0 (rounds c up01 4 s0).2.1).1 = 1 ∧
    -- a single call: URL 1 contacted at the 6th attempt, call returned
    soloRounds c up01 6 (0, { retry := c.initRetry }) =
      (1, { retry := 1, contacted := [0, 0, 0, 0, 0, 1], done := true }) := by
  decide +kernel

open Lockstep in
/-- tie of the small model to `send`: an isolated call of this model that meets only faults goes
    through the same `url_index` values and contacts the same URLs as `send` on `n` transient faults -/
theorem solo_matches_send {α ε σ ι : Type} (c : Cfg) (cls : ι → Outcome α ε) (eff : σ → ι → σ)
    (x : ι) (k : Transient) (hx : cls x = .transient k) (n : Nat) (u r : Nat) (g : Option GoodMsg)
    (s : σ) (pre : List Nat) :
    (soloRounds c (fun _ => false) n (u, { retry := r, contacted := pre })).1 =
      (sendLoop c cls eff u r g s (List.replicate n x)).urlIndex ∧
    (soloRounds c (fun _ => false) n (u, { retry := r, contacted := pre })).2.contacted =
      pre ++ (sendLoop c cls eff u r g s (List.replicate n x)).contacted := by
  induction n generalizing u r g s pre with
  | zero => simp [soloRounds, sendLoop]
  | succ n ih =>
    have := ih (logError c u r).1 (nextRetry c (logError c u r).2) (goodAfter k g) (eff s x) (pre ++ [u])
    simp only [soloRounds, finish, fail, List.replicate_succ, sendLoop, hx, consStep] at this ⊢
    simpa using this

end EV.Daemon
