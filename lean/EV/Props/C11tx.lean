import EV.Proofs.TxCacheInv

/-!
# C11 (transaction-proof half) and C10 (by-height answers) — which tx-hash list is folded

> C11: For any indexed chain, also after reorganisations and with requests in flight while blocks
> are undone, a transaction merkle proof (by hash or by position, classic or TSC format) folds to the
> merkle root in the header of that block …; requests outside the chain are refused rather than
> answered wrongly.
> C10: answers served to clients are never stale once quiescent (incl. `transaction.id_from_pos` by
> height).

Composition (DESIGN.md §6 C11): C12 says that whatever list is folded, the branch folds to that
list's merkle root.  **This file** says WHICH list a transaction proof folds.  Model
`EV/Model/TxCache.lean`: the by-height caches of `SessionManager` (`_tx_hashes_cache`,
`_merkle_cache`, `_reorg_count`, the `_handle_chain_reorgs` task), any number of concurrent requests
(`transaction.id_from_pos`, `merkle_branch_for_tx_pos`, `merkle_branch_for_tx_hash`,
`tsc_merkle_proof_for_tx_hash`) each a program counter over its real awaits (the worker-thread read
of the tx hashes inside the `_reorg_count` re-read loop; the worker-thread read of the header of a
TSC proof), every read cut into issue / perform against the DB *as it is then* / deliver; the DB as
its readers see it (`tx_counts`, the hashes file, the headers file, `DB.state.height`); new blocks
advanced (`tx_counts` appended, nothing written) and flushed (files written, then the state raised);
reorganisations as the real sequence (per block: `tx_counts.pop()`, later `DB.state` lowered; then
`backed_up_event`; `_handle_chain_reorgs` runs at some LATER event); LRU evictions at any time.

The theorems hold for **all** event sequences, any number of requests, every threshold.  The variants
of the code are refuted by machine-checked counterexamples: the code AS PINNED (no
`height <= db.state.height` test on a cache hit) — **finding F20**, fixed by
`/verif/integration/txcache-fix.diff` —, the seeded changes C11-1, C10-1, C10-3, a TSC proof without
its sanity check, and (environment) `_handle_chain_reorgs` delayed beyond the next `advance_block`.
Tie to the code: suite `txcache` (the real `SessionManager` coroutines and the real `DB` read / flush
/ back-out methods on a stub, stepped event by event against this model) and suite `system`.
-/
namespace EV.TxCache
open EV.Merkle

variable {Node : Type} [DecidableEq Node] (H : Node → Node → Node)

/-- **the ghost history is sound** (every variant of the code): a new request starts with the
singleton history `[visible chain]`; in one step an existing request keeps what it asks for, and its
history either stays as it is or gets the *new* visible chain pushed in front, the latter only for a
request that has not finished.  So `seen` lists values the visible chain (`disk[: DB.state.height+1]`)
had between the request's start and its end. -/
theorem seen_sound (cfg : Cfg) (s : St Node) (ev : Ev Node) :
    (∀ (i : Nat) (r : Req Node), s.reqs[i]? = some r → ∃ r' : Req Node, (step H cfg s ev).reqs[i]? = some r' ∧
      r'.kind = r.kind ∧ r'.height = r.height ∧
      (r'.seen = r.seen ∨ (r'.seen = visible (step H cfg s ev) :: r.seen ∧ r.active = true))) ∧
    (∀ (i : Nat) (r' : Req Node), s.reqs.length ≤ i → (step H cfg s ev).reqs[i]? = some r' →
      r'.seen = [visible (step H cfg s ev)]) :=
  (step_Step H cfg s ev).continues

section
omit [DecidableEq Node]
variable {L : List Node} {pos : Nat} {tsc : Bool} {tx : Node} {br : List (Elt Node)} {root : Node}

theorem verifies (htx : L[pos]? = some tx) (hbar : branchAndRoot H L (.int pos) none tsc = .ok (br, root)) :
    (tsc = false → ∃ nodes, br = nodes.map .node ∧ rootFromProof H tx nodes pos = .ok root) ∧
      rootFromProofTsc H tx br pos = .ok root := by
  obtain ⟨hlt, rfl⟩ := List.getElem?_eq_some_iff.mp htx
  obtain ⟨_, _, _, h⟩ := bar_ok H hbar
  exact h

end

/-- **C11 (transaction proofs) / C10 (by-height answers): linearizability.**  Start from a server
that is consistent (`Init`: e.g. caught up on any chain, `init_ofChain`) and let *any* sequence of
events happen — any number of requests of the four kinds started at any time, each worker-thread
read performed at any later time against the DB as it is then and delivered at any time after
that, LRU evictions, new blocks advanced and flushed, reorganisations of any depth (per block
`tx_counts.pop()` then `DB.state` lowered; then `backed_up_event`), the `_handle_chain_reorgs` task
running at any later event (before the next block is advanced) — in any order, for any threshold
of `_merkle_branch`.  Then every answer a request for height `h` returns is computed from the
tx-hash list of a block `b` that was at height `h` on the chain visible (`DB.state`) at some moment
between the request's start and its answer (`S ∈ seen`, see `seen_sound`):
  * `id_from_pos(h, pos)` returns `b.txs[pos]`;
  * `merkle_branch_for_tx_pos(h, pos)` returns `b.txs[pos]` and the from-scratch
    `branch_and_root(b.txs, pos)`, whose root is the Bitcoin merkle root of `b.txs`;
  * `merkle_branch_for_tx_hash(h, tx)` returns the first position of `tx` in `b.txs` and that branch;
  * `tsc_merkle_proof_for_tx_hash(h, tx)` returns that position, the TSC branch of `b.txs` at it,
    and as target the header of a block `b2` that was at height `h` at some moment of the request,
    and the root of the branch — the merkle root of `b.txs` — is the merkle-root field of that
    header. -/
theorem C11_tx_safe (thr : Nat) (s : St Node) (evs : List (Ev Node)) (h0 : Init H s) :
    ∀ r ∈ (run H (Cfg.fixed thr) s evs).reqs,
      (∀ tx, r.pc = .done (.txid tx) →
        ∃ pos, r.kind = .idPos pos ∧ ∃ S ∈ r.seen, ∃ b, S[r.height]? = some b ∧ b.txs[pos]? = some tx) ∧
      (∀ br tx, r.pc = .done (.branchPos br tx) →
        ∃ pos, r.kind = .brPos pos ∧ ∃ S ∈ r.seen, ∃ b, S[r.height]? = some b ∧ b.txs[pos]? = some tx ∧
          ∃ hne, branchAndRoot H b.txs (.int pos) none false = .ok (br, merkleRoot H b.txs hne)) ∧
      (∀ br pos, r.pc = .done (.branchHash br pos) →
        ∃ tx, r.kind = .brHash tx ∧ ∃ S ∈ r.seen, ∃ b, S[r.height]? = some b ∧
          pos = b.txs.idxOf tx ∧ b.txs[pos]? = some tx ∧
          ∃ hne, branchAndRoot H b.txs (.int pos) none false = .ok (br, merkleRoot H b.txs hne)) ∧
      (∀ pos hd br, r.pc = .done (.tsc pos hd br) →
        ∃ tx, r.kind = .tsc tx ∧
          (∃ S ∈ r.seen, ∃ b, S[r.height]? = some b ∧ pos = b.txs.idxOf tx ∧ b.txs[pos]? = some tx ∧
            ∃ hne, branchAndRoot H b.txs (.int pos) none true = .ok (br, merkleRoot H b.txs hne) ∧
              hd.root = merkleRoot H b.txs hne) ∧
          (∃ S ∈ r.seen, ∃ b2, S[r.height]? = some b2 ∧ b2.hdr = hd)) := by
  intro r hr
  have hs := ((inv_run H thr s evs h0.inv).reqs r hr).safe
  unfold Req.Safe at hs
  -- in each clause `Req.Safe` is its case for that answer; a request of another kind has none
  refine ⟨fun tx hpc => ?_, fun br tx hpc => ?_, fun br pos hpc => ?_, fun pos hd br hpc => ?_⟩
  · rw [hpc] at hs
    revert hs
    cases r.kind with
    | idPos pos => exact fun hs => ⟨pos, rfl, hs⟩
    | _ => exact False.elim
  · rw [hpc] at hs
    revert hs
    cases r.kind with
    | brPos pos =>
      rintro ⟨S, hS, b, hb, htx, hbr⟩
      exact ⟨pos, rfl, S, hS, b, hb, htx, branchOnly_some H hbr⟩
    | _ => exact False.elim
  · rw [hpc] at hs
    revert hs
    cases r.kind with
    | brHash tx =>
      rintro ⟨S, hS, b, hb, rfl, hlt, hbr⟩
      exact ⟨tx, rfl, S, hS, b, hb, rfl, getElem?_idxOf hlt, branchOnly_some H hbr⟩
    | _ => exact False.elim
  · rw [hpc] at hs
    revert hs
    cases r.kind with
    | tsc tx =>
      rintro ⟨⟨S, hS, b, hb, rfl, hlt, hbar⟩, h2⟩
      have hbar := (barOpt_eq_some H).mp hbar
      obtain ⟨-, hne, hroot, -⟩ := bar_ok H hbar
      exact ⟨tx, rfl, ⟨S, hS, b, hb, rfl, getElem?_idxOf hlt, hne, hroot ▸ hbar, hroot⟩, h2⟩
    | _ => exact False.elim

/-- **C11 (the proof verifies) — composition with C12** (`bar_fold`, `tsc_spec`).  Under the
hypotheses of `C11_tx_safe`: the classic branch handed out for `(h, pos)` / `(h, tx)` consists of
nodes only and the real verification procedure `root_from_proof(tx, branch, pos)` returns the
Bitcoin merkle root of the tx-hash list of a block that was at height `h` during the request; the
TSC proof's nodes, folded with the running hash substituted for `*`, give the merkle-root field of
the header the proof names as its target — the header of a block that was at height `h` during the
request. -/
theorem C11_tx_fold (thr : Nat) (s : St Node) (evs : List (Ev Node)) (h0 : Init H s) :
    ∀ r ∈ (run H (Cfg.fixed thr) s evs).reqs,
      (∀ br tx, r.pc = .done (.branchPos br tx) →
        ∃ pos, r.kind = .brPos pos ∧ ∃ S ∈ r.seen, ∃ b, S[r.height]? = some b ∧ ∃ hne nodes,
          br = nodes.map .node ∧ rootFromProof H tx nodes pos = .ok (merkleRoot H b.txs hne)) ∧
      (∀ br pos, r.pc = .done (.branchHash br pos) →
        ∃ tx, r.kind = .brHash tx ∧ ∃ S ∈ r.seen, ∃ b, S[r.height]? = some b ∧ ∃ hne nodes,
          br = nodes.map .node ∧ rootFromProof H tx nodes pos = .ok (merkleRoot H b.txs hne)) ∧
      (∀ pos hd br, r.pc = .done (.tsc pos hd br) →
        ∃ tx, r.kind = .tsc tx ∧ rootFromProofTsc H tx br pos = .ok hd.root ∧
          ∃ S ∈ r.seen, ∃ b2, S[r.height]? = some b2 ∧ b2.hdr = hd) := by
  intro r hr
  obtain ⟨_, s2, s3, s4⟩ := C11_tx_safe H thr s evs h0 r hr
  refine ⟨fun br tx hpc => ?_, fun br pos hpc => ?_, fun pos hd br hpc => ?_⟩
  · obtain ⟨pos, hk, S, hS, b, hb, htx, hne, hbar⟩ := s2 br tx hpc
    exact ⟨pos, hk, S, hS, b, hb, hne, (verifies H htx hbar).1 rfl⟩
  · obtain ⟨tx, hk, S, hS, b, hb, _, htx, hne, hbar⟩ := s3 br pos hpc
    exact ⟨tx, hk, S, hS, b, hb, hne, (verifies H htx hbar).1 rfl⟩
  · obtain ⟨tx, hk, ⟨S, hS, b, hb, _, htx, hne, hbar, hroot⟩, h2⟩ := s4 pos hd br hpc
    exact ⟨tx, hk, hroot ▸ (verifies H htx hbar).2, h2⟩

/-- **C11 / C10 (no chain change during the request: the current chain).**  If the visible chain had
one single value `S` from the request's start to its answer, the answer is computed from `S`. -/
theorem C11_tx_unchanged (thr : Nat) (s : St Node) (evs : List (Ev Node)) (h0 : Init H s) :
    ∀ r ∈ (run H (Cfg.fixed thr) s evs).reqs, ∀ S, r.seen = [S] →
      (∀ tx, r.pc = .done (.txid tx) → ∃ pos b, r.kind = .idPos pos ∧ S[r.height]? = some b ∧ b.txs[pos]? = some tx) ∧
      (∀ br tx, r.pc = .done (.branchPos br tx) → ∃ pos b, r.kind = .brPos pos ∧ S[r.height]? = some b ∧
        b.txs[pos]? = some tx ∧ ∃ hne, branchAndRoot H b.txs (.int pos) none false = .ok (br, merkleRoot H b.txs hne)) ∧
      (∀ br pos, r.pc = .done (.branchHash br pos) → ∃ tx b, r.kind = .brHash tx ∧ S[r.height]? = some b ∧
        pos = b.txs.idxOf tx ∧ b.txs[pos]? = some tx ∧
        ∃ hne, branchAndRoot H b.txs (.int pos) none false = .ok (br, merkleRoot H b.txs hne)) ∧
      (∀ pos hd br, r.pc = .done (.tsc pos hd br) → ∃ tx b, r.kind = .tsc tx ∧ S[r.height]? = some b ∧
        pos = b.txs.idxOf tx ∧ b.txs[pos]? = some tx ∧ b.hdr = hd ∧
        ∃ hne, branchAndRoot H b.txs (.int pos) none true = .ok (br, merkleRoot H b.txs hne) ∧
          hd.root = merkleRoot H b.txs hne) := by
  intro r hr S hS
  obtain ⟨s1, s2, s3, s4⟩ := C11_tx_safe H thr s evs h0 r hr
  have one : ∀ S' ∈ r.seen, S' = S := fun S' h => List.mem_singleton.mp (hS ▸ h)
  refine ⟨fun tx hpc => ?_, fun br tx hpc => ?_, fun br pos hpc => ?_, fun pos hd br hpc => ?_⟩
  · obtain ⟨pos, hk, S', hS', b, hb, htx⟩ := s1 tx hpc
    cases one S' hS'
    exact ⟨pos, b, hk, hb, htx⟩
  · obtain ⟨pos, hk, S', hS', b, hb, htx⟩ := s2 br tx hpc
    cases one S' hS'
    exact ⟨pos, b, hk, hb, htx⟩
  · obtain ⟨tx, hk, S', hS', b, hb, htx⟩ := s3 br pos hpc
    cases one S' hS'
    exact ⟨tx, b, hk, hb, htx⟩
  · obtain ⟨tx, hk, ⟨S', hS', b, hb, hpos, htx, hroot⟩, ⟨S2, hS2, b2, hb2, hbh⟩⟩ := s4 pos hd br hpc
    cases one S' hS'
    cases one S2 hS2
    cases Option.some.inj (hb.symm.trans hb2)
    exact ⟨tx, b, hk, hb, hpos, htx, hbh, hroot⟩

/-- **C10 (an answer served from the cache is current — in every reachable state).**  Whatever
happened before — also while blocks are being undone and before `_handle_chain_reorgs` has run —
a request that is answered without any await (its tx hashes found in `_tx_hashes_cache`) starts and
ends with the history `[visible chain]`: by `C11_tx_unchanged` its answer is computed from the
chain visible at that very moment. -/
theorem C10_tx_hit_current (cfg : Cfg) (s : St Node) (k : Kind Node) (h : Nat) :
    ∃ r, (step H cfg s (.start k h)).reqs = s.reqs ++ [r] ∧ r.seen = [visible s] ∧ r.height = h ∧ r.kind = k ∧
      visible (step H cfg s (.start k h)) = visible s :=
  have ⟨_, hpc⟩ := newReq_pc H cfg s k h
  ⟨_, rfl, hpc ▸ rfl, hpc ▸ rfl, hpc ▸ rfl, rfl⟩

/-- **C10 (nothing stale is cached).**  In every reachable state — any number of requests in
flight —: every entry of `_tx_hashes_cache` is the tx-hash list of the block at that height on the
reference chain `ref`, every entry of `_merkle_cache` is a `MerkleCache` that satisfies the C12
invariant over that list (so C12 `cache_correct` applies to it), and the visible chain is an
initial part of `ref`.  Whenever no reorganisation is under way and `_handle_chain_reorgs` has run
(quiescent), `ref` IS the visible chain: both caches hold only lists of the current chain, whatever
was queried and cached before. -/
theorem C10_tx_caches (thr : Nat) (s : St Node) (evs : List (Ev Node)) (h0 : Init H s) :
    (∀ h L, (run H (Cfg.fixed thr) s evs).txc h = some L →
      ∃ b, (run H (Cfg.fixed thr) s evs).ref[h]? = some b ∧ L = b.txs) ∧
    (∀ h e, (run H (Cfg.fixed thr) s evs).mc h = some e →
      ∃ b, (run H (Cfg.fixed thr) s evs).ref[h]? = some b ∧ e.src = b.txs ∧ CacheInv H e.c e.src) ∧
    visible (run H (Cfg.fixed thr) s evs) <+: (run H (Cfg.fixed thr) s evs).ref ∧
    ((run H (Cfg.fixed thr) s evs).bp = .idle → (run H (Cfg.fixed thr) s evs).woken = false →
      (run H (Cfg.fixed thr) s evs).ref = visible (run H (Cfg.fixed thr) s evs)) := by
  have hinv := inv_run H thr s evs h0.inv
  exact ⟨hinv.txc, hinv.mc, hinv.pre, hinv.closed⟩

/-- the reference chain of the window: it is frozen from the first back-out of a reorganisation
until `_handle_chain_reorgs` runs — no event other than the handler (and, when no window is open, a
flush) changes it -/
theorem ref_window (cfg : Cfg) (s : St Node) (ev : Ev Node) :
    (step H cfg s ev).ref = s.ref ∨ (ev = .handler ∧ s.woken = true ∧ (step H cfg s ev).ref = visible s) ∨
      (ev = .flushSt ∧ s.bp = .idle ∧ s.woken = false ∧ (step H cfg s ev).ref = visible (step H cfg s ev)) := by
  have h := step_Step H cfg s ev
  generalize step H cfg s ev = s' at h ⊢
  cases h with
  | handler hw => exact .inr (.inl ⟨rfl, hw, rfl⟩)
  | flushSt =>
    by_cases hc : s.bp = .idle ∧ s.woken = false
    · exact .inr (.inr ⟨rfl, hc.1, hc.2, if_pos hc⟩)
    · exact .inl (if_neg hc)
  | _ => exact .inl rfl

/-- **C11 (never a wrong answer).**  However a request ends — in every reachable state — it was
refused (`RPCError`), it failed with an error, or it returned an answer that satisfies the safety
clause. -/
theorem C11_tx_never_wrong (thr : Nat) (s : St Node) (evs : List (Ev Node)) (h0 : Init H s) :
    ∀ r ∈ (run H (Cfg.fixed thr) s evs).reqs, ∀ res, r.pc = .done res →
      (∃ w, res = .refused w) ∨ (∃ e, res = .error e) ∨ r.Safe H := fun r hr _ _ =>
  Or.inr (Or.inr ((inv_run H thr s evs h0.inv).reqs r hr).safe)

/-- **C11 (requests outside the chain are not answered).**  If no chain visible between the
request's start and its end had a block at the requested height, the request ends refused or with
an error — never with an answer. -/
theorem C11_tx_outside (thr : Nat) (s : St Node) (evs : List (Ev Node)) (h0 : Init H s) :
    ∀ r ∈ (run H (Cfg.fixed thr) s evs).reqs, (∀ S ∈ r.seen, S.length ≤ r.height) →
      ∀ res, r.pc = .done res → (∃ w, res = .refused w) ∨ (∃ e, res = .error e) := by
  intro r hr hout res hpc
  obtain ⟨s1, s2, s3, s4⟩ := C11_tx_safe H thr s evs h0 r hr
  have hno : ∀ S ∈ r.seen, ∀ b, S[r.height]? = some b → False := fun S hS b hb =>
    Nat.not_le_of_lt (List.getElem?_eq_some_iff.mp hb).1 (hout S hS)
  cases res with
  | refused w => exact Or.inl ⟨w, rfl⟩
  | error e => exact Or.inr ⟨e, rfl⟩
  | txid tx =>
    obtain ⟨_, _, S, hS, b, hb, _⟩ := s1 tx hpc
    exact (hno S hS b hb).elim
  | branchPos br tx =>
    obtain ⟨_, _, S, hS, b, hb, _⟩ := s2 br tx hpc
    exact (hno S hS b hb).elim
  | branchHash br pos =>
    obtain ⟨_, _, S, hS, b, hb, _⟩ := s3 br pos hpc
    exact (hno S hS b hb).elim
  | tsc pos hd br =>
    obtain ⟨_, _, ⟨S, hS, b, hb, _⟩, _⟩ := s4 pos hd br hpc
    exact (hno S hS b hb).elim

/-- **C11 (a height beyond `DB.state.height` is refused) — in ANY state, no invariant needed.**
Under the fixed code a request for a height the DB does not have (`vis ≤ h`) is not served from the
cache, whatever the cache holds: it issues its read; a read performed while the height is still
beyond `DB.state.height` raises `DBError`; delivered, the request ends with
`RPCError(BAD_REQUEST, 'db error: …')` and neither cache is touched. -/
theorem C11_tx_refused (thr : Nat) (s : St Node) (k : Kind Node) (h : Nat) (hv : s.vis ≤ h) :
    (newReq H (Cfg.fixed thr) s k h).req.pc = .rd s.rc .issued ∧
    (newReq H (Cfg.fixed thr) s k h).mc = s.mc ∧
    ∀ (s' : St Node) (r : Req Node), s'.vis ≤ r.height → ∀ rc0, r.pc = .rd rc0 .issued →
      (performReq (Cfg.fixed thr) s' r).pc = .rd rc0 .dbError ∧
      ∀ s'' : St Node, (deliverReq H (Cfg.fixed thr) s'' (performReq (Cfg.fixed thr) s' r)).req.pc =
          .done (.refused .dbError) ∧
        (deliverReq H (Cfg.fixed thr) s'' (performReq (Cfg.fixed thr) s' r)).txc = s''.txc ∧
        (deliverReq H (Cfg.fixed thr) s'' (performReq (Cfg.fixed thr) s' r)).mc = s''.mc := by
  have hmiss : cacheHit (Cfg.fixed thr) s h = none := by
    unfold cacheHit
    split
    · simp [hv]
    · rfl
  unfold newReq
  rw [hmiss]
  refine ⟨rfl, rfl, fun s' r hv' rc0 hpc => ?_⟩
  have hp : performReq (Cfg.fixed thr) s' r = { r with pc := .rd rc0 .dbError } := by
    unfold performReq
    rw [hpc]
    simp only [read_beyond (Cfg.fixed thr) rfl s' r.height hv']
  rw [hp]
  exact ⟨rfl, fun s'' => ⟨rfl, rfl, rfl⟩⟩

/-- Cantor pairing: an *injective* stand-in for the hash on `Nat` -/
def Hc (a b : Nat) : Nat := (a + b) * (a + b + 1) / 2 + b

def blk (id : Nat) (txs : List Nat) : Block Nat :=
  ⟨⟨id, match Merkle.root Hc txs none with | .ok r => r | .error _ => 0⟩, txs⟩

def ch3 : List (Block Nat) := [blk 0 [10], blk 1 [11, 12], blk 2 [13, 14, 15]]

/-- the hypothesis `Init` of the theorems is satisfiable: a caught-up server (on any chain:
`init_ofChain`; here on `ch3`) -/
theorem ch3_init : Init Hc (St.ofChain ch3) := init_ofChain Hc ch3

instance (r : Req Nat) : Decidable (r.Safe Hc) := by
  unfold Req.Safe
  split <;> (try split) <;> infer_instance

/-- what the examples below observe of a run: for every request how it stands and whether it is safe -/
def obs (cfg : Cfg) (evs : List (Ev Nat)) : List (Bool × Bool) :=
  (run Hc cfg (St.ofChain ch3) evs).reqs.map (fun r => (r.active, decide (r.Safe Hc)))

/-- the finding: a client caches block 2; a reorganisation backs block 2 out (`DB.state` lowered to
height 1); before `reorg_chain` has finished and `_handle_chain_reorgs` has run, a second request
for height 2 arrives -/
def evsHit : List (Ev Nat) :=
  [.start (.idPos 0) 2, .perform 0, .deliver 0, .reorgStart 1, .boPop, .boLower, .start (.idPos 0) 2]

/-- **Finding F20 (code as pinned: a cache hit is served whatever `DB.state.height` is).**  The second
request is answered from `_tx_hashes_cache` with tx 13 of the block that has been backed out: at no
moment between its start and its answer did the visible chain (heights 0..1) have a block at
height 2 — a header request for height 2 made at the same moment is refused — so the answer is for
a height outside the chain: "requests outside the chain are refused rather than answered wrongly"
is violated, for `id_from_pos`, `get_merkle` and `id_from_pos(merkle=True)` alike, from the moment
`flush_backup` lowers `DB.state` until `_handle_chain_reorgs` has run (for a reorganisation of `n`
blocks: `n` worker-thread back-outs). -/
theorem stale_hit_counterexample :
    obs { hitBound := false, thr := 2 } evsHit = [(false, true), (false, false)] ∧
    ((run Hc { hitBound := false, thr := 2 } (St.ofChain ch3) evsHit).reqs.map (·.pc))[1]? = some (.done (.txid 13)) ∧
    (run Hc { hitBound := false, thr := 2 } (St.ofChain ch3) evsHit).vis = 2 ∧
    readHdr (run Hc { hitBound := false, thr := 2 } (St.ofChain ch3) evsHit) 2 = .outOfRange := by decide +kernel

/-- the same for a merkle proof through the per-height `MerkleCache` (threshold 2) -/
theorem stale_hit_counterexample_merkle :
    obs { hitBound := false, thr := 2 }
      [.start (.brPos 1) 2, .perform 0, .deliver 0, .reorgStart 1, .boPop, .boLower, .start (.brHash 15) 2] =
    [(false, true), (false, false)] := by decide +kernel

/-- the fixed code on the same schedule -/
example :
    obs (Cfg.fixed 2) (evsHit ++ [.perform 1, .deliver 1]) = [(false, true), (false, true)] ∧
    ((run Hc (Cfg.fixed 2) (St.ofChain ch3) (evsHit ++ [.perform 1, .deliver 1])).reqs.map (·.pc))[1]? =
      some (.done (.refused .dbError)) := by decide +kernel

/-- C11-1: a proof request for height 2 has its tx-hash read performed; block 2 is replaced by
block 7 (reorganisation, `_handle_chain_reorgs`, advance, flush); the read is delivered; a second
proof request for height 2 follows -/
def evsC11_1 : List (Ev Nat) :=
  [.start (.brPos 0) 2, .perform 0, .reorgStart 1, .boPop, .boLower, .reorgEnd, .handler,
   .advance (blk 7 [23, 24, 25]), .flushFs, .flushSt, .deliver 0, .start (.brPos 1) 2, .perform 1, .deliver 1]

/-- **Re-read loop removed (seeded change C11-1).**  The stale list is returned (here still
linearizable: it was current when read) but `_merkle_branch` stores a `MerkleCache` over it under
height 2 AFTER the caches were cleared; the second request reads the new block's hashes and is
answered with tx 24 of the new block and a branch of the OLD block's tree. -/
theorem C11_1_counterexample :
    obs { reread := false, thr := 2 } evsC11_1 = [(false, true), (false, false)] ∧
    ((run Hc { reread := false, thr := 2 } (St.ofChain ch3) evsC11_1).mc 2).map (·.src) = some [13, 14, 15] ∧
    visible (run Hc { reread := false, thr := 2 } (St.ofChain ch3) evsC11_1) =
      [blk 0 [10], blk 1 [11, 12], blk 7 [23, 24, 25]] := by decide +kernel

/-- C10-1: block 2 is replaced by block 7 (one tx fewer); between `advance_block` and the flush a
request for height 2 reads the DB -/
def evsC10_1 : List (Ev Nat) :=
  [.reorgStart 1, .boPop, .boLower, .reorgEnd, .handler, .advance (blk 7 [23, 24]),
   .start (.idPos 0) 2, .perform 0, .deliver 0, .flushFs, .flushSt, .start (.idPos 1) 2]

/-- **`fs_tx_hashes_at_blockheight` bounded by `len(tx_counts) - 1` (seeded change C10-1).**
`tx_counts` already has the new block, the hashes file still has the old block's hashes at those
offsets: the read returns `[13, 14]`, it is cached (`_reorg_count` did not move), and it is served
at quiescence after the new block has been flushed. -/
theorem C10_1_counterexample :
    obs { stateBound := false, thr := 2 } evsC10_1 = [(false, false), (false, false)] ∧
    (run Hc { stateBound := false, thr := 2 } (St.ofChain ch3) evsC10_1).txc 2 = some [13, 14] ∧
    (run Hc { stateBound := false, thr := 2 } (St.ofChain ch3) evsC10_1).bp = .idle ∧
    (run Hc { stateBound := false, thr := 2 } (St.ofChain ch3) evsC10_1).woken = false := by decide +kernel

def evsC10_3 : List (Ev Nat) :=
  [.start (.idPos 0) 2, .perform 0, .deliver 0, .reorgStart 1, .boPop, .boLower, .reorgEnd, .handler,
   .advance (blk 7 [23, 24]), .flushFs, .flushSt, .start (.idPos 1) 2]

/-- **`backed_up_event` not signalled (seeded change C10-3).**  `_handle_chain_reorgs` never
runs, the cache keeps the orphaned block's hashes and serves tx 14 at quiescence. -/
theorem C10_3_counterexample :
    obs { signal := false, thr := 2 } evsC10_3 = [(false, true), (false, false)] ∧
    (run Hc { signal := false, thr := 2 } (St.ofChain ch3) evsC10_3).txc 2 = some [13, 14, 15] ∧
    (run Hc { signal := false, thr := 2 } (St.ofChain ch3) evsC10_3).bp = .idle ∧
    (run Hc { signal := false, thr := 2 } (St.ofChain ch3) evsC10_3).woken = false := by decide +kernel

/-- a TSC request for tx 14 at height 2 reads block 2's hashes; block 2 is replaced by block 7,
which also contains tx 14 (at the same position); the header is read afterwards -/
def evsTsc : List (Ev Nat) :=
  [.start (.tsc 14) 2, .perform 0, .reorgStart 1, .boPop, .boLower, .deliver 0, .reorgEnd, .handler,
   .advance (blk 7 [23, 14]), .flushFs, .flushSt, .perform 0, .deliver 0]

/-- **TSC proof without the `root != root_from_header` sanity check.**  The proof names the header
of block 7 as its target and carries the branch of block 2: it does not verify.  (With the
check the request is refused: second and third conjunct, under `Cfg.fixed`.) -/
theorem tsc_sanity_counterexample :
    obs { sanity := false, thr := 2 } evsTsc = [(false, false)] ∧
    obs (Cfg.fixed 2) evsTsc = [(false, true)] ∧
    (run Hc (Cfg.fixed 2) (St.ofChain ch3) evsTsc).reqs.map (·.pc) = [.done (.refused .sanity)] := by decide +kernel

def evsFifo : List (Ev Nat) :=
  [.start (.idPos 0) 2, .perform 0, .deliver 0, .reorgStart 1, .boPop, .boLower, .reorgEnd,
   .advance (blk 7 [23, 24]), .flushFs, .flushSt, .start (.idPos 1) 2]

/-- **Environment hypothesis `fifo` is necessary.**  If the `_handle_chain_reorgs` task, woken by
`backed_up_event.set()`, could be delayed beyond the next `advance_block` and flush, the (fixed)
code would serve tx 14 of the orphaned block for a height the DB has again.  asyncio's ready queue
is FIFO and the block processor needs at least one more loop iteration (`run_with_lock` creates a
task) before it advances: the model excludes the schedule (`advance` is ignored while `woken`), and
the `sched` check of suite `txcache` validates that on a real event loop. -/
theorem fifo_needed_counterexample :
    obs { fifo := false, thr := 2 } evsFifo = [(false, true), (false, false)] ∧
    obs (Cfg.fixed 2) evsFifo = [(false, true), (true, true)] := by decide +kernel

/-- the same schedules under the fixed code: answers do occur — through the direct path and through
the `MerkleCache` path (threshold 2), before, during and after a reorganisation -/
example :
    obs (Cfg.fixed 2) (evsC11_1 ++ [.perform 0, .deliver 0]) = [(false, true), (false, true)] ∧
    (run Hc (Cfg.fixed 2) (St.ofChain ch3) (evsC11_1 ++ [.perform 0, .deliver 0])).reqs.map (·.pc) =
      [.done (.branchPos [.node 24, .node (Hc 25 25)] 23), .done (.branchPos [.node 23, .node (Hc 25 25)] 24)] ∧
    obs (Cfg.fixed 2) (evsC10_1 ++ [.perform 1, .deliver 1]) = [(false, true), (false, true)] ∧
    (run Hc (Cfg.fixed 2) (St.ofChain ch3) (evsC10_1 ++ [.perform 1, .deliver 1])).reqs.map (·.pc) =
      [.done (.refused .dbError), .done (.txid 24)] ∧
    obs (Cfg.fixed 2) (evsC10_3 ++ [.perform 1, .deliver 1]) = [(false, true), (false, true)] ∧
    (run Hc (Cfg.fixed 2) (St.ofChain ch3) (evsC10_3 ++ [.perform 1, .deliver 1])).reqs.map (·.pc) =
      [.done (.txid 13), .done (.txid 24)] := by decide +kernel

/-- non-vacuity of the TSC clause -/
example :
    (run Hc (Cfg.fixed 2) (St.ofChain ch3) [.start (.tsc 15) 2, .perform 0, .deliver 0, .perform 0, .deliver 0]).reqs.map
      (fun r => (r.pc, decide (r.Safe Hc))) =
    [(.done (.tsc 2 (blk 2 [13, 14, 15]).hdr [.star, .node (Hc 13 14)]), true)] := by decide +kernel

/-- `C11_tx_unchanged` / `C10_tx_hit_current` are not vacuous (a cache hit), nor is `C11_tx_outside` -/
example :
    (run Hc (Cfg.fixed 2) (St.ofChain ch3) [.start (.idPos 1) 1, .perform 0, .deliver 0, .start (.brHash 12) 1]).reqs.map
      (fun r => (r.pc, r.seen.length)) =
      [(.done (.txid 12), 1), (.done (.branchHash [.node 11] 1), 1)] ∧
    (run Hc (Cfg.fixed 2) (St.ofChain ch3) [.start (.idPos 0) 3, .perform 0, .deliver 0]).reqs.map (·.pc) =
      [.done (.refused .dbError)] := by decide +kernel

/-- the `tx_counts.pop()` window of `backup_block`: a read of the tip performed between the pop and
the lowering of `DB.state` fails with `IndexError` (an error, not an answer) -/
example :
    (run Hc (Cfg.fixed 2) (St.ofChain ch3) [.start (.idPos 0) 2, .reorgStart 1, .boPop, .perform 0, .deliver 0]).reqs.map
      (·.pc) = [.done (.error .readError)] := by decide +kernel

end EV.TxCache
