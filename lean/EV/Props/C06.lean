import EV.Proofs.Shutdown

/-!
# C06 — Shutdown at any moment leaves a consistent database and keeps finished work

The failure mode a shutdown can provoke is two writer jobs (flushes / block advance / back-out) at
the same time — the defect F6: `on_caught_up` and `reorg_chain` flushed outside `state_lock`, so a
cancellation during that flush started the shutdown flush alongside it.  Once writer jobs are
serialised, every execution is a sequential sequence of `advance`, `flush`, `backup` on the index,
whose persistent state is consistent after each of them (C01–C04), and the shutdown flush — which
can only start after the job in flight has finished — stores every block advanced before it.

This file proves the serialisation for every trace that obeys the locking discipline as
implemented (writer jobs are started by the task holding `state_lock`, which releases it only
after the job has returned; cancellation never releases it early because the holder is shielded);
suite `shutdown` ties the real task to the discipline: with the shutdown request injected at every
scheduling point (worker jobs gated at every storage effect) each real trace of lock and job events
must be accepted by `EV.Shutdown.step`, and the database is reopened and compared with the
specification of the chain at the stored height.

The argument of the first paragraph (sequential jobs, the shutdown flush after the job in flight, every
advanced block stored) is proved in `EV/Props/C06task.lean` for the transition system of the task itself
(`EV/Model/ShutdownTask.lean`); this file is only about the four-event monitor `EV.Shutdown.step`.
-/
namespace EV.Shutdown

/-- **C06 (mutual exclusion).**  After any event sequence accepted by the discipline, from the
initial state, at most one writer job is running, and the task that started it holds the lock. -/
theorem C06_mutex (es : List Ev) (st : St) (h : run {} es = some st) :
    st.running.length ≤ 1 ∧ ∀ t ∈ st.running, st.lock = some t := by
  have := run_inv (st := {}) (by intro t ht; simp at ht) (by simp) h
  exact ⟨running_le_one this.1 this.2, this.1⟩

/-- a second writer job can never be started while one is running (so the shutdown flush waits) -/
theorem C06_no_second_job (es : List Ev) (st : St) (h : run {} es = some st) (t t' : Nat)
    (ht : t ∈ st.running) : t' ≠ t → step st (.jobStart t') = none := by
  intro hne
  have := (C06_mutex es st h).2 t ht
  simp only [step, this]
  rw [if_neg]
  intro hh; simp at hh; exact hne hh.1.symm

/-- F6 (`on_caught_up` and `reorg_chain` flushing outside `state_lock`): a flush started without the lock is not accepted — and accepting it
    (i.e. the code as it was) allows two jobs: the shutdown flush's task 2 acquires the free lock
    and starts its job while task 1's unlocked flush is still running -/
theorem C06_counterexample_unlocked_flush :
    run {} [.jobStart 1] = none ∧
    (match step { lock := none, running := [1] } (.acquire 2) with
     | some st => (step st (.jobStart 2)).map (·.running.length)
     | none => none) = some 2 := by decide

/-! non-vacuity -/
example : (run {} [.acquire 1, .jobStart 1, .jobEnd 1, .release 1, .acquire 2, .jobStart 2, .jobEnd 2, .release 2]).isSome := by
  decide

end EV.Shutdown
