import EV.Props.C19

/-!
# C19 — "spread over networks" with a concrete bucket function

`C19_bucket` holds for ANY labelling: `bucket` is a free field of the modelled peer (`PeerV`) and
`bucketOf` a free parameter of `viewOf`; with a constant label it only says "at most 2 clearnet peers in
total".  What the property means by bucket is `Peer.bucket_for_external_interface`: the IPv4 `/16`,
resp. the IPv6 `/56` network of the peer's `ip_addr`.  Here that content is made explicit on a small
type of IP literals: an IPv4 literal `a.b.c.d` lies in the network `(a, b)`; an IPv6 literal with the
eight 16-bit groups `g0 … g7` lies in the network `(g0, g1, g2, g3 / 256)` — its first 56 bits.  No
injectivity of the labelling is needed in `C19_spread`: a labelling that merges two networks only
makes the answer sparser.

What stays outside Lean: that `bucket_for_external_interface` computes these prefixes (Python
`ipaddress`; pinned on a table by suite `peers`), and the parsing of `ip_addr` strings into literals
(`ip : PeerV → Option IpLit` is a parameter).
-/
namespace EV.Peers

inductive IpLit where
  | v4 (a b c d : Nat)
  | v6 (g0 g1 g2 g3 g4 g5 g6 g7 : Nat)
deriving Repr, DecidableEq

/-- a network in the sense of `bucket_for_external_interface` -/
inductive IpNet where
  | p16 (a b : Nat)               -- IPv4 a.b.0.0/16
  | p56 (g0 g1 g2 hi : Nat)       -- IPv6 g0:g1:g2:hi00::/56 (`hi` = the high byte of the 4th group)
deriving Repr, DecidableEq

/-- `IPv4Network(ip).supernet(prefixlen_diff=32-16)` / `IPv6Network(ip).supernet(prefixlen_diff=128-56)` -/
def netOf : IpLit → IpNet
  | .v4 a b _ _ => .p16 a b
  | .v6 g0 g1 g2 g3 _ _ _ _ => .p56 g0 g1 g2 (g3 / 256)

/-- **C19 (spread over networks).**  Let `ip` give the parsed `ip_addr` of a peer and `label` be the
rendering of networks as strings.  If every returned non-onion peer that has an address carries the
label of that address's network as its bucket (what `bucket_for_external_interface` returns), then
for every network `net` at most **two** returned non-onion peers other than the server's own
identities have their address in `net` — whatever the peer list, the requester kind and the shuffle
outcomes. -/
theorem C19_spread (now : Int) (peers myselves : List PeerV) (isTor : Bool)
    (shuf : Nat → List PeerV → List PeerV) (hshuf : IsShuffle shuf)
    (ip : PeerV → Option IpLit) (label : IpNet → String)
    (hlab : ∀ r ∈ onPeersSubscribe now peers myselves isTor shuf, r.isTor = false →
      ∀ a, ip r = some a → r.bucket = label (netOf a))
    (net : IpNet) :
    (onPeersSubscribe now peers myselves isTor shuf).countP
      (fun r => !r.isTor && decide ((ip r).map netOf = some net) && !isMyself myselves r) ≤ 2 := by
  refine Nat.le_trans (List.countP_mono_left ?_) (C19_bucket now peers myselves isTor shuf hshuf (label net))
  intro r hr hp
  simp only [Bool.and_eq_true, Bool.not_eq_eq_eq_not, Bool.not_true, decide_eq_true_eq] at hp ⊢
  obtain ⟨⟨h1, h2⟩, h3⟩ := hp
  obtain ⟨a, hip, rfl⟩ := Option.map_eq_some_iff.mp h2
  exact ⟨⟨h1, hlab r hr h1 a hip⟩, h3⟩

/-! ### non-vacuity: a concrete answer -/

/-- a toy rendering of networks as strings (decimal rendering is Python's business) -/
def toyLabel : IpNet → String
  | .p16 a b => String.ofList ['4', Char.ofNat (48 + a), Char.ofNat (48 + b)]
  | .p56 g0 g1 g2 hi =>
    String.ofList ['6', Char.ofNat (48 + g0), Char.ofNat (48 + g1), Char.ofNat (48 + g2), Char.ofNat (48 + hi)]

def toyIp (p : PeerV) : Option IpLit :=
  if p.id = 1 then some (.v4 8 8 1 1) else if p.id = 2 then some (.v4 8 8 2 2)
  else if p.id = 3 then some (.v4 8 8 200 3) else if p.id = 4 then some (.v4 9 9 9 9)
  else if p.id = 5 then some (.v6 1 2 3 0x1234 0 0 0 1)
  else if p.id = 6 then some (.v6 1 2 3 0x12ff 0 0 0 2) else none

def toyPeer (i : Nat) : PeerV :=
  { id := i, host := "h", lastGood := 1000,
    bucket := match toyIp { id := i } with | some a => toyLabel (netOf a) | none => "" }

/-- same /16 for 8.8.1.1, 8.8.2.2, 8.8.200.3 (different /24s); same /56 for the two IPv6 literals
    (4th groups 0x1234 and 0x12ff: same high byte); 9.9.9.9 elsewhere -/
example : netOf (.v4 8 8 1 1) = netOf (.v4 8 8 200 3) ∧ netOf (.v4 8 8 1 1) ≠ netOf (.v4 9 9 9 9) ∧
    netOf (.v6 1 2 3 0x1234 0 0 0 1) = netOf (.v6 1 2 3 0x12ff 0 0 0 2) ∧
    netOf (.v6 1 2 3 0x1234 0 0 0 1) ≠ netOf (.v6 1 2 3 0x1334 0 0 0 1) := by decide +kernel

/-- six recent good peers, three of them in 8.8.0.0/16: the answer has two of those three, the one in
    9.9.0.0/16 and both IPv6 peers (one /56, two members) -/
example : (onPeersSubscribe 1000 (List.map toyPeer [1, 2, 3, 4, 5, 6]) [] false (fun _ l => l)).map (·.id)
    = [1, 2, 4, 5, 6] := by decide +kernel

/-- the hypothesis `hlab` of `C19_spread` holds of that answer (with `toyIp`, `toyLabel`), so the
    theorem applies to it: at most two returned peers in 8.8.0.0/16 — and exactly two are -/
example : (onPeersSubscribe 1000 (List.map toyPeer [1, 2, 3, 4, 5, 6]) [] false (fun _ l => l)).countP
      (fun r => !r.isTor && decide ((toyIp r).map netOf = some (.p16 8 8)) && !isMyself [] r) ≤ 2 := by
  apply C19_spread 1000 _ [] false (fun _ l => l) (fun _ l => List.Perm.refl l) toyIp toyLabel
  intro r hr hT a ha
  have hall : (onPeersSubscribe 1000 (List.map toyPeer [1, 2, 3, 4, 5, 6]) [] false (fun _ l => l)).all
      (fun r => match toyIp r with | some a => r.bucket == toyLabel (netOf a) | none => true) = true := by
    decide +kernel
  have := List.all_eq_true.mp hall r hr
  rw [ha] at this
  exact eq_of_beq this

example : (onPeersSubscribe 1000 (List.map toyPeer [1, 2, 3, 4, 5, 6]) [] false (fun _ l => l)).countP
      (fun r => !r.isTor && decide ((toyIp r).map netOf = some (.p16 8 8)) && !isMyself [] r) = 2 := by
  decide +kernel

end EV.Peers
