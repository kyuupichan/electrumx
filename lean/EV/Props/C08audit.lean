import EV.Props.C08lookup

/-!
# C08 / C09 — a quiet round does hand over the exact view; the invariant inside a refresh

* `refreshRound_quiet_exact` (C08, `_refresh_hashes` level).  `C08_touched_handed_over`,
  `C09_height_guard` and `C09_loop` all have the shape "`l' = l` or …" and therefore also hold of a
  loop that never hands anything over.  This is the positive direction: a round in a quiet
  environment whose three heights agree DOES call `on_mempool` (exactly once, with a fresh `touched`
  afterwards), and the view handed over is the exact one of `C08_exact`.
* `chunkPhase_inv`, `C09_inv_every_suspension` (C09, "at every suspension point").  `C09_inv` is about
  the END of a refresh.  `_process_mempool` suspends only while the chunk tasks run (the removal phase
  and the deferred loop are synchronous), and each chunk task touches shared state only in its final
  synchronous segment; sessions that query the mempool between two chunk completions therefore see
  the state after the removal phase and after some PREFIX of the accept segments in completion order.
  The theorems say that every such state satisfies `MpInv` (so `balance_delta`, `potential_spends`,
  `transaction_summaries`, `unordered_UTXOs` cannot raise and return only true pairs there), for every
  sound environment, listing, completion order and prefix length.

Tie to the code: suite `mempool`; its race entry calls `check_inv` after each round only, not
between chunk completions (acknowledged in `harness/props/C09.py`).
-/
namespace EV.Mempool

/-- **C08 (`_refresh_hashes`, positive direction).**  From any `MpInv` state, a round whose listing
is `M`, whose environment is quiet for `M` and `U`, whose daemon height is the same before and after
the listing (`h1`) and equals the DB height (`h2`), with the chunk tasks completing in any order
(`hord`), succeeds, emits exactly one `on_mempool(t, cachedHeight)`, starts a fresh `touched`, and
leaves exactly the specification pool (with the invariant, hence with the observables of
`C08_observables_inv`). -/
theorem refreshRound_quiet_exact (W : Hash → Option RawTx) (M : List Hash) (U : List (Prevout × Pair))
    (l : Loop) (r : Round) (hinv : MpInv W l.st) (hM : r.hashes = M)
    (henv : EnvQuiet W M U r.fetch r.lookup)
    (h1 : r.cachedHeight = r.height) (h2 : r.cachedHeight = r.dbHeight)
    (hord : r.order.Perm (List.range (numChunks EV.Gen.mempoolChunk l.st M))) :
    ∃ l' t, refreshRound EV.Gen.mempoolChunk l r = .ok l' ∧
      l'.emits = l.emits ++ [(t, r.cachedHeight)] ∧ l'.touched = [] ∧
      l'.st.txs.Perm (specPool W M U) ∧ MpInv W l'.st := by
  obtain ⟨p, g1, _, g3, g4⟩ :=
    C08_exact W M U r.fetch r.lookup l.st l.touched r.cachedHeight r.order hinv henv hord
  exact ⟨_, p.touched, refreshRound_ok _ l r h1 (by rw [← h2, hM]; exact g1), rfl, rfl, g3, g4⟩

/-- **C09 (mid-refresh, the chunk phase).**  From any `MpInv` state, after the accept segments of ANY
list `order` of chunk tasks (in particular any prefix of the completion order) the chunk phase has
not raised and the shared state satisfies `MpInv`. -/
theorem chunkPhase_inv {W : Hash → Option RawTx} {allHashes : List Hash}
    {fetch : Hash → Option RawTx} {lookup : Nat → List Prevout → List (Option Pair)}
    (henv : SoundOn W allHashes fetch lookup) (cs : Nat) {st : St} (hinv : MpInv W st)
    (touched : List HashX) (order : List Nat) :
    ∃ m, chunkPhase allHashes fetch lookup (chunksOf cs (newHashes st.txs allHashes))
        { st := st, txMap := [], um := [], touched := touched } order = .ok m ∧ MpInv W m.st := by
  obtain ⟨m, h1, hm⟩ := chunkPhase_sound henv
    (fun k h hh => (mem_newHashes.mp (chunksOf_subset hh)).1) hinv touched order
  exact ⟨m, h1, hm.grow.inv⟩

/-- **C09 (the invariant at every suspension point inside a refresh).**  From any `MpInv` state, under
any sound environment, for every listing, pending `touched`, completion order `order` of the chunk
tasks and every `k`: the removal phase succeeds and leaves an `MpInv` state, and after the first `k`
chunk completions (`order.take k`; `k = 0`: right after the removal phase, `k ≥ order.length`: when the
last task has completed and the synchronous deferred loop starts) the shared state `m.st` that
sessions can read satisfies `MpInv`. -/
theorem C09_inv_every_suspension (W : Hash → Option RawTx) (fetch : Hash → Option RawTx)
    (lookup : Nat → List Prevout → List (Option Pair)) (st : St)
    (hinv : MpInv W st) (henv : EnvSound W fetch lookup)
    (allHashes : List Hash) (order : List Nat) (touched : List HashX) (k : Nat) :
    ∃ st1 t1, removalLoop st touched (st.txs.filter (fun e => !allHashes.contains e.1)) = .ok (st1, t1) ∧
      MpInv W st1 ∧
      ∃ m, chunkPhase allHashes fetch lookup
          (chunksOf EV.Gen.mempoolChunk (newHashes st1.txs allHashes))
          { st := st1, txMap := [], um := [], touched := t1 } (order.take k) = .ok m ∧
        MpInv W m.st := by
  obtain ⟨st1, t1, h1, h2, -, -⟩ := removal_facts hinv allHashes touched
  obtain ⟨m, h3, h4⟩ := chunkPhase_inv (henv.soundOn allHashes) EV.Gen.mempoolChunk h2 t1 (order.take k)
  exact ⟨st1, t1, h1, h2, m, h3, h4⟩

namespace AuditExample
open Example

def round1 : Round :=
  { cachedHeight := 100, hashes := M, height := 100, dbHeight := 100,
    fetch := dget tb, lookup := lookupFrom U, order := [0] }

/-- all hypotheses of `refreshRound_quiet_exact` hold of it, from the empty tracker … -/
example : ∃ l' t, refreshRound EV.Gen.mempoolChunk {} round1 = .ok l' ∧
    l'.emits = ([] : List (List HashX × Int)) ++ [(t, 100)] ∧ l'.touched = [] ∧
    l'.st.txs.Perm (specPool (dget tb) M U) ∧ MpInv (dget tb) l'.st :=
  refreshRound_quiet_exact (dget tb) M U {} round1 (MpInv_empty _) rfl quiet rfl rfl order_ok

/-- … and what is handed over is not trivial: four transactions, script hashes 6, 7, 8, 9 touched -/
example : (match refreshRound EV.Gen.mempoolChunk {} round1 with
    | .ok l => some (l.st.txs.map (·.1), l.emits.map (fun (e : List HashX × Int) => (dedup e.1, e.2)), l.touched)
    | .error _ => none) = some ([13, 10, 11, 12], [([6, 9, 8, 7], 100)], []) := by decide +kernel

/-- the state after that round: a NON-EMPTY `MpInv` state (`MpInv_empty` witnesses the empty
    tracker only) -/
def st1 : St := match refreshRound EV.Gen.mempoolChunk {} round1 with
  | .ok l => l.st
  | .error _ => {}

theorem st1_inv : MpInv (dget tb) st1 ∧ st1.txs.length = 4 := by
  obtain ⟨l', t, h, -, -, hp, hinv⟩ :=
    refreshRound_quiet_exact (dget tb) M U {} round1 (MpInv_empty _) rfl quiet rfl rfl order_ok
  have : st1 = l'.st := by rw [st1, h]
  rw [this]
  exact ⟨hinv, by rw [hp.length_eq]; decide⟩

/-- second round from that non-empty state: the parent 10 has confirmed (listing `[11]`, UTXO set
    `U'`), no new hashes, so no chunk task and an empty completion order -/
def round2 : Round :=
  { cachedHeight := 101, hashes := [11], height := 101, dbHeight := 101,
    fetch := dget tb, lookup := lookupFrom U', order := [] }

theorem order2_ok : round2.order.Perm (List.range (numChunks EV.Gen.mempoolChunk st1 [11])) := by
  have : numChunks EV.Gen.mempoolChunk st1 [11] = 0 := by decide +kernel
  rw [this]; exact List.Perm.refl _

example : ∃ l' t, refreshRound EV.Gen.mempoolChunk { st := st1 } round2 = .ok l' ∧
    l'.emits = ([] : List (List HashX × Int)) ++ [(t, 101)] ∧ l'.touched = [] ∧
    l'.st.txs.Perm (specPool (dget tb) [11] U') ∧ MpInv (dget tb) l'.st :=
  refreshRound_quiet_exact (dget tb) [11] U' { st := st1 } round2 st1_inv.1 rfl quiet' rfl rfl
    order2_ok

/-- `C09_inv_every_suspension` on the racing world of `C09.lean` (`Race.sound`: 10 and 99 are never
    delivered, the index knows one output), from the NON-EMPTY state `st1` whose transactions 10 and 12
    have vanished from the listing: the removal phase removes them, and after 0 and after 1 chunk
    completions the state satisfies `MpInv` -/
example (k : Nat) : ∃ st' t1, removalLoop st1 [] (st1.txs.filter (fun e => ![11, 13, 99].contains e.1))
      = .ok (st', t1) ∧ MpInv (dget tb) st' ∧
    ∃ m, chunkPhase [11, 13, 99] (fun h => if [10, 99].contains h then none else dget tb h)
        (lookupFrom [((5, 1), (6, 30))])
        (chunksOf EV.Gen.mempoolChunk (newHashes st'.txs [11, 13, 99]))
        { st := st', txMap := [], um := [], touched := t1 } (([0] : List Nat).take k) = .ok m ∧
      MpInv (dget tb) m.st :=
  C09_inv_every_suspension _ _ _ st1 st1_inv.1 Race.sound [11, 13, 99] [0] [] k

end AuditExample

end EV.Mempool
