import EV.Props.C17retry
import EV.Proofs.HistFresh

/-!
# C17 — freshness of `SessionManager.limited_history` while the index moves

Property C17 (second half): "a script hash whose confirmed history would not fit in the maximum reply
size is answered with a 'history too large' error — consistently, also from cache and for
subscriptions, which are then dropped — rather than with a truncated history or a status computed
from a truncated history."

`C17.lean` / `C17audit.lean` prove this for one request against a fixed index, given `CacheOK`
(`C17retry.lean`: the retry loop of the database read under it, over the database views of
`EV.Index`).  The theorems here are about the transition system of `EV/Model/HistFresh.lean`: any number
of concurrent requests, blocks (growth or shrink) and notifications in ANY interleaving, the database
read of a request seeing ANY index version between the start of the read and the resumption of the
coroutine.  Hypothesis of all of them: `RunOK` — each block changes only the histories of the script
hashes in its touched set.  Nothing is assumed about the touched sets of notifications, about their
order or about how many blocks one of them covers: "pending" is defined from what actually happened
(`Pending s hx`: a block touched `hx`, and no notification naming `hx` that was called after that
block has run its cache deletion yet).

`limit` is a parameter (`EV.Rpc.histLimit maxSend` in the code: `C17_fresh_CacheOK` ties the two).
-/
namespace EV.HistFresh

open EV.Rpc (Bytes HistRes dGet)

/-- **C17 fresh (a): the cache is fresh or a notification is pending.**  At every moment of every run, each `_history_cache` entry for a
script hash is what a miss would compute from the CURRENT index version, or a notification for a
block that touched the script hash is still pending. -/
theorem C17_fresh_cache (hist : Index) (limit : Nat) (evs : List Ev)
    (hok : RunOK hist limit init evs) (hx : Bytes) (r : HistRes)
    (hr : dGet hx (run hist limit init evs).cache = some r) :
    r = cut limit (hist (run hist limit init evs).ver hx) ∨ Pending (run hist limit init evs) hx :=
  (inv_run evs (inv_init hist limit) hok).fresh hr

/-- **C17 fresh (a), at quiescence.**  When every block has been notified and every notification has
run its deletion, the cache is coherent with the index. -/
theorem C17_fresh_quiescent (hist : Index) (limit : Nat) (evs : List Ev)
    (hok : RunOK hist limit init evs) (hq : Quiescent (run hist limit init evs))
    (hx : Bytes) (r : HistRes) (hr : dGet hx (run hist limit init evs).cache = some r) :
    r = cut limit (hist (run hist limit init evs).ver hx) :=
  (C17_fresh_cache hist limit evs hok hx r hr).resolve_right (not_pending_of_quiescent hq hx)

theorem cut_eq_histCompute (w : EV.Rpc.World) (hx : Bytes) :
    cut (EV.Rpc.histLimit w.maxSend) (w.history hx) = EV.Rpc.histCompute w hx := rfl

/-- **C17 fresh (a), as `CacheOK`.**  At quiescence the history cache satisfies the hypothesis
`CacheOK w m` of the fixed-index theorems (`C17_history`, `C17_get_history`, `C17_subscribe`,
`C17_notify`), for any world `w` whose histories are those of the current version. -/
theorem C17_fresh_CacheOK (hist : Index) (evs : List Ev) (w : EV.Rpc.World)
    (hok : RunOK hist (EV.Rpc.histLimit w.maxSend) init evs)
    (hq : Quiescent (run hist (EV.Rpc.histLimit w.maxSend) init evs))
    (hw : ∀ hx, w.history hx = hist (run hist (EV.Rpc.histLimit w.maxSend) init evs).ver hx) :
    EV.Rpc.CacheOK w { histCache := (run hist (EV.Rpc.histLimit w.maxSend) init evs).cache } where
  hist := by
    intro hx r hr
    rw [← cut_eq_histCompute, hw hx]
    exact C17_fresh_quiescent hist _ evs hok hq hx r hr
  tx := fun _ h => by simp at h

/-- **C17 fresh (b): never a truncated history.**  Every reply of every run — hit or miss — is what
`limited_history` computes from ONE index version `v` that was current no later than the reply and,
for a miss, no earlier than the arrival of the request (current at some moment during the request):
a list only if it is the WHOLE history of `v` and shorter than `limit`; the refusal exactly if the
history of `v` has `limit` entries or more. -/
theorem C17_fresh_answer (hist : Index) (limit : Nat) (evs : List Ev)
    (hok : RunOK hist limit init evs) (a : Ans) (ha : a ∈ replies hist limit init evs) :
    a.arrVer ≤ a.ansVer ∧
    ∃ v, v ≤ a.ansVer ∧ (a.hit = false → a.arrVer ≤ v) ∧ a.res = cut limit (hist v a.hx) ∧
      (∀ l, a.res = .ok l → l = hist v a.hx ∧ l.length < limit) ∧
      (a.res = .tooLarge ↔ limit ≤ (hist v a.hx).length) := by
  obtain ⟨s', sp⟩ := replies_spec evs (inv_init hist limit) hok a ha
  obtain ⟨v, hv1, hv2, hv3⟩ := sp.whole
  rw [sp.ansVer]
  refine ⟨sp.arr, v, hv1, hv2, hv3, ?_⟩
  rw [hv3]
  exact ⟨fun l => cut_ok, cut_tooLarge_iff⟩

/-- **C17 fresh (b'): the reply is current.**  A miss is answered from the history of the version
current AT THE REPLY unless a block touched the script hash after the last read started and no
notification naming it has been called since (`a.dirty`); a hit likewise unless, in addition, a
notification that was called for such a block has not yet run its deletion (`a.inflight`). -/
theorem C17_fresh_answer_current (hist : Index) (limit : Nat) (evs : List Ev)
    (hok : RunOK hist limit init evs) (a : Ans) (ha : a ∈ replies hist limit init evs) :
    (a.hit = false → a.dirty = false → a.res = cut limit (hist a.ansVer a.hx)) ∧
    (a.dirty = false → a.inflight = false → a.res = cut limit (hist a.ansVer a.hx)) := by
  obtain ⟨s', sp⟩ := replies_spec evs (inv_init hist limit) hok a ha
  rw [sp.ansVer]
  exact ⟨sp.miss, sp.hit⟩

/-- **C17 fresh (c): after quiescence.**  From any reachable state in which `hx` is not pending (in
particular a quiescent one), and for as long as no further block touches `hx` — whatever else
happens: other blocks, notifications with any touched sets, evictions, other requests — EVERY reply
for `hx`, from cache or not, from a request that arrived before or after, is what `limited_history`
computes from the current history: the whole history if a reorg shrank it below `limit`, the refusal
if it grew to `limit`. -/
theorem C17_fresh_after (hist : Index) (limit : Nat) (evs evs' : List Ev) (hx : Bytes)
    (hok : RunOK hist limit init evs)
    (hp : ¬ Pending (run hist limit init evs) hx)
    (hok' : RunOK hist limit (run hist limit init evs) evs')
    (hnb : ∀ t, Ev.block t ∈ evs' → hx ∉ t)
    (a : Ans) (ha : a ∈ replies hist limit (run hist limit init evs) evs') (hax : a.hx = hx) :
    a.res = cut limit (hist (run hist limit init evs).ver hx) ∧
    ((hist (run hist limit init evs).ver hx).length < limit →
        a.res = .ok (hist (run hist limit init evs).ver hx)) ∧
    (limit ≤ (hist (run hist limit init evs).ver hx).length → a.res = .tooLarge) := by
  have h := replies_not_pending evs' (inv_run evs (inv_init hist limit) hok) hp hok' hnb a ha hax
  exact ⟨h, fun hl => by rw [h, cut_small hl], fun hl => by rw [h, cut_large hl]⟩

/-- **C17 fresh (c), from a quiescent state.**  Once every block has been notified and every
notification has run its deletion, every reply for `hx` is what `limited_history` computes from the
current history, for as long as no further block touches `hx`. -/
theorem C17_fresh_after_quiescence (hist : Index) (limit : Nat) (evs evs' : List Ev) (hx : Bytes)
    (hok : RunOK hist limit init evs)
    (hq : Quiescent (run hist limit init evs))
    (hok' : RunOK hist limit (run hist limit init evs) evs')
    (hnb : ∀ t, Ev.block t ∈ evs' → hx ∉ t)
    (a : Ans) (ha : a ∈ replies hist limit (run hist limit init evs) evs') (hax : a.hx = hx) :
    a.res = cut limit (hist (run hist limit init evs).ver hx) :=
  (C17_fresh_after hist limit evs evs' hx hok (not_pending_of_quiescent hq hx) hok' hnb a ha hax).1

/-- quiescence is reached by a notification whose touched set covers everything changed since the
previous one (what `Notifications._maybe_notify` hands to `_notify_sessions`), once it has run its
deletion -/
theorem C17_fresh_covering (hist : Index) (limit : Nat) (s : State) (t : List Bytes)
    (hc : ∀ hx ∈ s.dirty, hx ∈ t) : (step hist limit s (.notifyBegin t)).dirty = [] := by
  show s.dirty.filter (fun h => !t.contains h) = []
  rw [List.filter_eq_nil_iff]
  intro a ha
  simp [hc a ha]

/-- **C17 fresh: the fixed-index model is the interference-free case.**  A request that is resumed
with no event in between (read = the current version) changes the cache and answers exactly as
`EV.Rpc.limitedHistory` — the function the limits suite compares with the real
`SessionManager.limited_history` on every run — does on a world with that history. -/
theorem C17_fresh_sequential (hist : Index) (w : EV.Rpc.World) (s : State) (hx : Bytes)
    (hw : w.history hx = hist s.ver hx) :
    (run hist (EV.Rpc.histLimit w.maxSend) s [.request hx, .resume s.reqs.length s.ver]).cache =
        (EV.Rpc.limitedHistory w { histCache := s.cache } hx).1.histCache ∧
    (replies hist (EV.Rpc.histLimit w.maxSend) s [.request hx, .resume s.reqs.length s.ver]).map
        (fun a => a.res.toExcept) = [(EV.Rpc.limitedHistory w { histCache := s.cache } hx).2] := by
  unfold EV.Rpc.limitedHistory
  cases h : dGet hx s.cache with
  | some r =>
    simp [run, runWith, replies, repliesWith, stepWith, outWith, h]
  | none =>
    simp [run, runWith, replies, repliesWith, stepWith, outWith, h, accepts, ← cut_eq_histCompute, hw]

/-- the two parts of (c) as ONE run: `evs` up to a state where `hx` is not pending, then `evs'` -/
theorem C17_fresh_after_run (hist : Index) (limit : Nat) (evs evs' : List Ev) (hx : Bytes)
    (hok : RunOK hist limit init (evs ++ evs'))
    (hp : ¬ Pending (run hist limit init evs) hx)
    (hnb : ∀ t, Ev.block t ∈ evs' → hx ∉ t) :
    ∃ old new, replies hist limit init (evs ++ evs') = old ++ new ∧
      old = replies hist limit init evs ∧
      ∀ a ∈ new, a.hx = hx → a.res = cut limit (hist (run hist limit init evs).ver hx) := by
  rw [runOK_append] at hok
  refine ⟨_, _, replies_append evs evs' init, rfl, ?_⟩
  intro a ha hax
  exact (C17_fresh_after hist limit evs evs' hx hok.1 hp hok.2 hnb a ha hax).1

/-! ## Non-vacuity and sharpness

`limit = 2`; script hash `[1]`; entries `e1`, `e2`. -/
namespace Ex

def e1 : Entry := ([7], 1)
def e2 : Entry := ([8], 2)

/-- growth to the limit: `[1]` has one entry in version 0 and two (= `limit`) from version 1 on -/
def histA : Index := fun v hx => if hx = [1] then (if v = 0 then [e1] else [e1, e2]) else []

/-- a read that spans two blocks and their notifications: the request for `[1]` arrives, block 1
touches `[1]` and is notified, block 2 touches `[2]` only and is notified, and only then is the
request resumed — with the result of version 0 (the read's start).  A second request follows. -/
def traceA : List Ev :=
  [.request [1], .block [[1]], .notifyBegin [[1]], .notifyDrop 0,
   .block [[2]], .notifyBegin [[2]], .notifyDrop 0, .resume 0 0, .request [1]]

def notBlock : Ev → Bool
  | .block _ => false
  | _ => true

theorem runOK_of_notBlock {hist : Index} {limit : Nat} (evs : List Ev)
    (h : ∀ e ∈ evs, notBlock e = true) : ∀ s, RunOK hist limit s evs := by
  induction evs with
  | nil => intro _; trivial
  | cons e r ih =>
    intro s
    refine ⟨?_, ih (fun e' he' => h e' (List.mem_cons_of_mem _ he')) _⟩
    cases e with
    | block t => exact absurd (h _ List.mem_cons_self) Bool.false_ne_true
    | _ => trivial

theorem traceA_run : RunOK histA 2 init traceA := by
  simp only [traceA, RunOK, EvOK, true_and, and_true]
  constructor
  · intro hx hm
    simp [histA, mt List.mem_singleton.mpr hm]
  · intro hx _
    show histA 2 hx = histA 1 hx
    simp [histA]

theorem traceA_ok (evs : List Ev) (h : ∀ e ∈ evs, notBlock e = true) :
    RunOK histA 2 init (traceA ++ evs) :=
  (runOK_append _ _ _).mpr ⟨traceA_run, runOK_of_notBlock evs h _⟩

/-- the code: the stale result is rejected (`notify_count` moved), the read is repeated once
(`loops = 1`) and both requests are refused — from version 2, in which `[1]` has `limit` entries -/
example :
    replies histA 2 init (traceA ++ [.resume 0 2, .resume 0 2]) =
      [{ hx := [1], res := .tooLarge, hit := false, arrVer := 0, ansVer := 2, loops := 1,
         dirty := false, inflight := false },
       { hx := [1], res := .tooLarge, hit := false, arrVer := 2, ansVer := 2, loops := 0,
         dirty := false, inflight := false }] := by decide +kernel

example : RunOK histA 2 init (traceA ++ [.resume 0 2, .resume 0 2]) :=
  traceA_ok _ (by decide)

example : Quiescent (run histA 2 init traceA) := by decide +kernel

/-- a read spanning ONE notification loops once as well -/
example :
    replies histA 2 init [.request [1], .block [[1]], .notifyBegin [[1]], .resume 0 0, .notifyDrop 0,
                          .resume 0 1, .request [1]] =
      [{ hx := [1], res := .tooLarge, hit := false, arrVer := 0, ansVer := 1, loops := 1,
         dirty := false, inflight := false },
       { hx := [1], res := .tooLarge, hit := true, arrVer := 1, ansVer := 1, loops := 0,
         dirty := false, inflight := false }] := by decide +kernel

/-- `a.dirty` is needed in (b'): resumed between the block and its notification, the code serves the
history of version 0 (whole, below the limit — (b) holds) while version 1 is current -/
example :
    replies histA 2 init [.request [1], .block [[1]], .resume 0 0] =
      [{ hx := [1], res := .ok [e1], hit := false, arrVer := 0, ansVer := 1, loops := 0,
         dirty := true, inflight := false }] := by decide +kernel

/-- `a.inflight` is needed in (b') for hits: between the two halves of `_notify_sessions` (while it
awaits `_refresh_hsub_results`) the cache still holds the entry of version 0 and serves it -/
example :
    (replies histA 2 init [.request [1], .resume 0 0, .block [[1]], .notifyBegin [[1]], .request [1],
                           .notifyDrop 0, .request [1], .resume 0 1]).map
        (fun a => (a.res, a.hit, a.ansVer, a.dirty, a.inflight)) =
      [(.ok [e1], false, 0, false, false), (.ok [e1], true, 1, false, true),
       (.tooLarge, false, 1, false, false)] := by decide +kernel

/-- shrink across the limit (a reorg): two entries (= `limit`) in version 0, one from version 1 on -/
def histB : Index := fun v hx => if hx = [1] then (if v = 0 then [e1, e2] else [e1]) else []

/-- the refusal is computed and cached; the reorg shrinks the history, is notified; a new request -/
def traceB : List Ev :=
  [.request [1], .resume 0 0, .block [[1]], .notifyBegin [[1]], .notifyDrop 0, .request [1]]

/-- the code: refused before the reorg, served whole after it — by the miss and then from cache -/
example :
    (replies histB 2 init (traceB ++ [.resume 0 1, .request [1]])).map (fun a => (a.res, a.hit, a.ansVer)) =
      [(.tooLarge, false, 0), (.ok [e1], false, 1), (.ok [e1], true, 1)] := by decide +kernel

example : Quiescent (run histB 2 init traceB) := by decide +kernel

theorem traceB_ok' : RunOK histB 2 init traceB := by
  simp only [traceB, RunOK, EvOK, true_and, and_true]
  intro hx hm
  simp [histB, mt List.mem_singleton.mpr hm]

theorem traceB_ok : RunOK histB 2 init (traceB ++ [.resume 0 1, .request [1]]) :=
  (runOK_append _ _ _).mpr ⟨traceB_ok', trivial, trivial, trivial⟩

/-- `C17_fresh_after` instantiated: all its hypotheses hold of the quiescent state after the notified
reorg, and it yields that every later reply for `[1]` is the whole one-entry history -/
example (a : Ans)
    (ha : a ∈ replies histB 2 (run histB 2 init traceB) [.resume 0 1, .request [1]])
    (hax : a.hx = [1]) : a.res = .ok [e1] :=
  (C17_fresh_after histB 2 traceB [.resume 0 1, .request [1]] [1] traceB_ok'
    (not_pending_of_quiescent (by decide) _) ⟨trivial, trivial, trivial⟩
    (by intro t ht; simp at ht) a ha hax).2.1 (by decide)

end Ex

/-! ### the two seeded regressions -/
namespace Orig

open Ex

/-- **Counterexample (i): `notify_count == self._notify_count or hashX not in last_touched`.**
With two notifications during one read (`traceA`) the stale read of version 0 is accepted because the
LATEST touched set (`[[2]]`) does not name `[1]`: the one-entry history is served and cached although
nothing is pending (`dirty = inflight = false`, the state is quiescent) and the current version
(2) has `limit` entries — (b') fails for the first reply, (a) and (c) for the cache and the second
reply, which is a hit at quiescence. -/
theorem C17_fresh_lastTouched_counterexample :
    repliesWith true false histA 2 init traceA =
      [{ hx := [1], res := .ok [e1], hit := false, arrVer := 0, ansVer := 2, loops := 0,
         dirty := false, inflight := false },
       { hx := [1], res := .ok [e1], hit := true, arrVer := 2, ansVer := 2, loops := 0,
         dirty := false, inflight := false }] ∧
    cut 2 (histA 2 [1]) = .tooLarge ∧
    Quiescent (runWith true false histA 2 init traceA) ∧
    dGet [1] (runWith true false histA 2 init traceA).cache = some (.ok [e1]) := by decide +kernel

/-- **Counterexample (ii): the deletion of `_notify_sessions` keeps cached refusals.**  After the
reorg of `traceB` has been notified the state is quiescent, the current history of `[1]` has one entry
(< `limit`), and the new request is still refused from cache — (a) and (c) fail. -/
theorem C17_fresh_keepRefusals_counterexample :
    (repliesWith false true histB 2 init traceB).map (fun a => (a.res, a.hit, a.ansVer, a.dirty, a.inflight)) =
      [(.tooLarge, false, 0, false, false), (.tooLarge, true, 1, false, false)] ∧
    cut 2 (histB 1 [1]) = .ok [e1] ∧
    Quiescent (runWith false true histB 2 init traceB) := by decide +kernel

end Orig

end EV.HistFresh
