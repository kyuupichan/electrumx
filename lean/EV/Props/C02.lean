import EV.Proofs.IndexHistInv

/-!
# C02 — Confirmed history of every script hash is complete, ordered and duplicate-free

Specification: `Spec.historyOf S hx` = the tx numbers `n` (ascending = chain order: height, then
position in block) whose transaction spends an output paying to `hx` or creates a spendable output
paying to `hx`; by construction each number occurs once.  Model: `History.add_unflushed / flush /
backup / get_txnums` on rows keyed `(hashX, flush id)`.  Tie to the code: suite `index`
(history rows and the unflushed dict are compared after every operation; `limited_history` is
compared with the specification for limits 0, 1, k−1, k, k+1, None at every flushed state).
-/
namespace EV.Index
open EV.Spec

/-- **C02 (the specification's history is ordered and duplicate-free).** -/
theorem C02_spec_ordered (S : St) (hx : HashX) : (historyOf S hx).Pairwise (· < ·) :=
  historyOf_pairwise S hx

/-- **C02 (advance).**  `add_unflushed` with the per-tx script-hash lists of a block (which
`C01_block` shows are the specification's touched lists; a tx touching one script hash through
several inputs and outputs is recorded once: `set(hashXs)`) keeps, for every script hash,
`rows in flush-id order ++ unflushed tail = specification history`. -/
theorem C02_advance {S : St} {p : Store} {unf : List (HashX × List Nat)} {fc : Nat}
    (hinv : HistInv S p unf fc) (hlen : S.touched.length = S.txs.length)
    (act height : Nat) (txs : List Tx) :
    HistInv (txs.foldl (applyTx act height) S) p
      (addUnflushed unf (blockTouched act height S txs) S.txs.length) fc :=
  histInv_advance hinv hlen act height txs

/-- **C02 (every flush, history-only or full, however many).**  `History.flush` writes the
unflushed tails under flush id `flush_count + 1`; because every existing id is `≤ flush_count`
the new row of each script hash lands last in key order, so the invariant is kept with an empty
tail — a history may be split over arbitrarily many rows. -/
theorem C02_flush {S : St} (s : Sys) (hinv : HistInv S s.p s.m.unflushed s.m.histFlush) :
    HistInv S (applyEffect s.p (histFlushEffect s)) [] (s.m.histFlush + 1) :=
  histInv_flush s hinv

/-- **C02/C03 (back-out).**  `History.backup(touched, tx_count)` with a touched set containing
every script hash the block touched (`C03_undo_exact`) cuts every history back to the
specification history of the chain without the block. -/
theorem C02_backup {S : St} (s : Sys) (act height : Nat) (txs : List Tx) (touched : List HashX)
    (hlen : S.touched.length = S.txs.length)
    (hinv : HistInv (txs.foldl (applyTx act height) S) s.p [] s.m.histFlush)
    (htouched : ∀ hx ∈ (blockTouched act height S txs).flatten, hx ∈ touched) :
    HistInv S (applyEffect s.p (histBackupEffect s touched S.txs.length)) [] (s.m.histFlush + 1) :=
  histInv_backup s act height txs touched hlen hinv htouched

/-- **C02 (what is read).**  On a flushed history `get_txnums(hashX, limit)` is exactly the
specification history, or exactly its first `limit` entries. -/
theorem C02_history {S : St} {p : Store} {fc : Nat} (hinv : HistInv S p [] fc) (hx : HashX)
    (limit : Option Nat) :
    getTxnums p hx limit =
      match limit with
      | none => historyOf S hx
      | some k => (historyOf S hx).take k :=
  getTxnums_flushed hinv hx limit

theorem C02_init : HistInv {} {} [] 0 := histInv_init

/-! non-vacuity: `IndexHist.lean` has concrete flush/backup instances and the two necessity
counterexamples (stale row above the flush count; non-ascending rows). -/

end EV.Index
