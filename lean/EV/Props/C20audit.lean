import EV.Props.C20

/-!
# C20 — where notifications stand relative to the reports; the limits of completeness and of `StartOK`

* `C20_emitted_at_report`, `C20_emitted_le_highest`: every height the class notifies at is the height
  of a block-like report (`on_block` or `start`) received by then — in particular it is bounded by the
  highest such report.  (No hypothesis on the heights; the only other possibility, the initial
  `_highest_block = -1` paired with a mempool report at `-1` before any block-like report, is stated
  explicitly.)  This is the `Notifications` part of C07's "a height-carrying notification never
  precedes the block being queryable": the block processor calls `on_block(h)` only after the flush
  that makes `h` readable (C01sync_told / C07carrier_reads), and `start` is called with the DB height.
* completeness is per PAIRING EVENT: `C20_both_reported_not_drained`.
* the code can violate `StartOK`: `C20_startok_counterexample`.
-/
namespace EV.Notif

def Op.blockLike : Op → Option Int
  | .start h => some h
  | .block _ h => some h
  | .mempool _ _ => none

/-- the highest block-like report of a history (`-1`, the initial `_highest_block`, if there is none) -/
def highestReport (ops : List Op) : Int :=
  ops.foldl (fun m o => match o.blockLike with | some h => max m h | none => m) (-1)

theorem foldl_max_spec (ops : List Op) (m : Int) :
    m ≤ ops.foldl (fun m o => match o.blockLike with | some h => max m h | none => m) m ∧
    ∀ o ∈ ops, ∀ h, o.blockLike = some h →
      h ≤ ops.foldl (fun m o => match o.blockLike with | some h => max m h | none => m) m := by
  induction ops generalizing m with
  | nil => exact ⟨Int.le_refl _, fun _ ho => nomatch ho⟩
  | cons a r ih =>
    rw [List.foldl_cons, List.forall_mem_cons]
    refine ⟨?_, fun h hb => ?_, (ih _).2⟩
    · cases a.blockLike with
      | none => exact (ih m).1
      | some h => exact Int.le_trans (Int.le_max_left m h) (ih _).1
    · rw [hb]
      exact Int.le_trans (Int.le_max_right m h) (ih _).1

theorem le_highestReport {ops : List Op} {o : Op} {h : Int} (ho : o ∈ ops) (hb : o.blockLike = some h) :
    h ≤ highestReport ops :=
  (foldl_max_spec ops (-1)).2 o ho h hb

/-- **C20 (a notification is always AT the height of a block-like report).**  For every history
and every notification `notify(e.1, _)` made by its last operation: a `start(e.1)` or an
`on_block(_, e.1)` has been received by then — or no block-like report at all has been received and
`e.1 = -1`, the initial `_highest_block` (possible only if the mempool tracker reports at height `-1`,
which `C20_safety` excludes by its non-negativity hypothesis). -/
theorem C20_emitted_at_report (pre : List Op) (op : Op) (e : Emit)
    (he : (step (run init pre).1 op).2 = some e) :
    (∃ o ∈ pre ++ [op], o.blockLike = some e.1) ∨ (e.1 = -1 ∧ lastBlockLike pre = none) := by
  rcases step_emit he with ⟨rfl, _⟩ | he
  · exact Or.inl ⟨_, List.mem_append_right _ (List.mem_singleton_self _), rfl⟩
  · obtain ⟨-, ⟨t, hb⟩ | hs | ⟨h1, hl⟩⟩ := emit_at (hinv_prep (hinv_run pre).1 op) he
    · exact Or.inl ⟨_, hb, rfl⟩
    · exact Or.inl ⟨_, hs, rfl⟩
    · rw [lastBlockLike_snoc] at hl
      cases op with
      | mempool => exact Or.inr ⟨h1, hl⟩
      | _ => nomatch hl

/-- **C20 (emitted heights are bounded by the highest block-like report).**  No notification carries
a height above the highest height the block processor (or start-up) has reported so far. -/
theorem C20_emitted_le_highest (pre : List Op) (op : Op) (e : Emit)
    (he : (step (run init pre).1 op).2 = some e) :
    e.1 ≤ highestReport (pre ++ [op]) := by
  rcases C20_emitted_at_report pre op e he with ⟨o, ho, hb⟩ | ⟨h1, _⟩
  · exact le_highestReport ho hb
  · rw [h1]; exact (foldl_max_spec _ _).1

/-- non-vacuity: a history with falling heights; the notification at 6 is at the block report 6, and
    the bound is the EARLIER, higher report 8 (the bound cannot be improved to the last report: after
    `start` below an earlier block height a notification at the earlier height is possible, see
    `C20_startok_counterexample`) -/
example : (step (run init [.start 5, .mempool [1] 7, .block [2] 8, .block [3] 6]).1 (.mempool [4] 6)).2
      = some (6, [4, 3, 1, 2]) ∧
    highestReport ([.start 5, .mempool [1] 7, .block [2] 8, .block [3] 6] ++ [.mempool [4] 6]) = 8 := by
  decide +kernel

example : (step (run init [.block [1] 8, .start 6]).1 (.mempool [] 8)).2 = some (8, [1]) ∧
    lastBlockLike [.block [1] 8, .start 6] = some 6 ∧
    highestReport ([.block [1] 8, .start 6] ++ [.mempool [] 8]) = 8 := by decide +kernel

/-- the second disjunct of `C20_emitted_at_report` is inhabited (negative height, no block yet) -/
example : (step (run init []).1 (.mempool [1] (-1))).2 = some (-1, [1]) := by decide +kernel

/-- **C20: completeness is per pairing event, not per state.**  Both sources' most
recent reports are at height 5, yet script hash 1 is pending and nothing but `start`'s empty
notification has been emitted: the block report at 5 arrived AFTER height 5 had been paired (the
same-height reorganisation / idle poll `on_block(touched, 5)`).  It is released by the next mempool
report at that height (`C20_complete`), which the mempool tracker produces on its next refresh. -/
theorem C20_both_reported_not_drained :
    lastBlockLike [Op.start 5, .mempool [] 5, .block [1] 5] = some 5 ∧
    lastMempool [Op.start 5, .mempool [] 5, .block [1] 5] = some 5 ∧
    pending (run init [.start 5, .mempool [] 5, .block [1] 5]).1 = [1] ∧
    emitted (run init [.start 5, .mempool [] 5, .block [1] 5]).2 = [] ∧
    -- the next mempool report at 5 releases it
    (run init [.start 5, .mempool [] 5, .block [1] 5, .mempool [] 5]).2 = [(5, []), (5, []), (5, [1])] := by
  decide +kernel

/-- **`StartOK` can be violated by the code** ("start is called once, with the DB height, which is
≥ every earlier block height" does not hold): `SessionManager.serve` calls
`notifications.start(self.db.state.height, …)` when the sessions start, which can be while
`reorg_chain` has lowered the DB height below the height of an earlier `on_block`.  Then `StartOK`
fails, and the mempool report at the new height leaves the block's touched set pending (it stays
pending until a block report at a height ≥ 8 or a mempool report pairs with it — `C20_no_loss` still
holds: nothing is dropped).  Harmless in practice: before `start` the `notify` callback is the no-op
installed by `Notifications.__init__` and no session exists, so nobody can hold a status that the
pending script hash would have to refresh; sessions that subscribe later compute their status from
the index. -/
theorem C20_startok_counterexample :
    ¬ StartOK [Op.block [1] 8, .start 6, .mempool [] 6] ∧
    lastBlockLike [Op.block [1] 8, .start 6] = some 6 ∧
    pending (run init [.block [1] 8, .start 6, .mempool [] 6]).1 = [1] ∧
    (run init [.block [1] 8, .start 6, .mempool [] 6]).2 = [(6, []), (6, [])] := by
  refine ⟨?_, by decide +kernel, by decide +kernel, by decide +kernel⟩
  exact fun h => absurd (h [.block [1] 8] 6 [.mempool [] 6] rfl [1] 8 (List.mem_singleton_self _))
    (by decide)

/-- a NON-trivial witness of `StartOK` (block reports BEFORE `start`; with `start` first, as in the
    witness of `C20.lean`, the condition is vacuous) -/
example : StartOK [Op.block [1] 5, .mempool [2] 5, .block [3] 6, .start 6, .mempool [4] 6] := by
  intro pre h post heq t k hk
  -- every block report, wherever it stands, is at most the one `start`
  have hs : Op.start h ∈ pre ++ Op.start h :: post := List.mem_append_right _ List.mem_cons_self
  have hb : Op.block t k ∈ pre ++ Op.start h :: post := List.mem_append_left _ hk
  rw [← heq] at hs hb
  simp at hs hb
  omega

/-- a witness of the hypothesis `hmp` of `C20_complete_block`: the mempool report
    at 6 is pending when the block report at 6 arrives second, after a detour over height 7 -/
example : (6 : Int) ∈ keys (run init [.start 5, .mempool [9] 6, .block [1] 7]).1.mp ∧
    (run init ([.start 5, .mempool [9] 6, .block [1] 7] ++ [.block [2] 6])).2 = [(5, []), (6, [9, 2, 1])] := by
  decide +kernel

end EV.Notif
