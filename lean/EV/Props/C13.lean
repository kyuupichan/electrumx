import EV.Proofs.TxCodecStream
import EV.Proofs.TxCodecFuel

/-!
# C13 — transactions and blocks are parsed exactly, however the block file is chunked

Model: `EV/Model/TxCodec.lean` (literal model of `lib/tx.py`, the packers of `lib/util.py` and
`block_processor.OnDiskBlock`), tied to the code in /repo by the `txcodec` correspondence suite on
every run.  Bytes are `List Nat`; SHA-256 is not modelled: `readTxAndHash` returns the byte string
that is hashed (the harness checks that the real hash is hashlib's double SHA-256 of that string).

All theorems are unbounded: every transaction, every buffer, every block, every chunk size.
-/
namespace EV.TxCodec

/-- **C13 (read ∘ serialize).**  "Serialising … reproduces the original bytes and its hash is the
double SHA-256 of exactly those bytes", direction tx → bytes → tx: a well-formed transaction
(every integer field in range of its `struct` format, every previous-tx hash 32 bytes) serialises
without raising, and parsing the result embedded *anywhere* in a buffer returns exactly that
transaction, the cursor just behind it, and hashes exactly the serialised bytes. -/
theorem C13_read_serialize (tx : Tx) (pre post : Bytes) (hw : WfTx tx) :
    ∃ s, serialize tx = .ok s ∧
      readTx (pre ++ (s ++ post)) pre.length = .ok (tx, pre.length + s.length) ∧
      readTxAndHash (pre ++ (s ++ post)) pre.length = .ok ((tx, s), pre.length + s.length) :=
  ⟨serializeRaw tx, serialize_of_wf hw, readTx_at (At.intro _ _ _) hw,
    goodReader_readTxAndHash.full _ _ _ (At.intro _ _ _) hw⟩

/-- **C13 (hashed range).**  Whenever `read_tx_and_hash` succeeds at cursor `c` with end cursor `e`,
the bytes hashed are exactly `buf[c:e]`, and `e ≤ len(buf)` – the range is not silently shortened. -/
theorem C13_hash_range {buf : Bytes} {c : Nat} {tx : Tx} {e : Nat} (h : readTx buf c = .ok (tx, e)) :
    readTxAndHash buf c = .ok ((tx, slice buf c e), e) ∧ c + 10 ≤ e ∧ e ≤ buf.length ∧
      (slice buf c e).length = e - c := by
  have hb := readTx_bounds h
  exact ⟨readTxAndHash_ok h, hb.1, hb.2, slice_length _ _ _ hb.2⟩

/-- **C13 (serialize ∘ read).**  "Serialising a parsed transaction reproduces the original bytes":
if the parse succeeds on a buffer of bytes and every varint on the parse path is minimal
(`canonTx`: the two counts and every script length), the parsed transaction serialises without
raising to exactly `buf[c:e]`.
`canonTx` is necessary: the parser accepts non-minimal varints (`C13_noncanonical_example`), which
re-serialise shorter; the hash is over the original bytes in any case (`C13_hash_range`). -/
theorem C13_serialize_read {buf : Bytes} {c : Nat} {tx : Tx} {e : Nat} (h : readTx buf c = .ok (tx, e))
    (hb : BytesOK buf) (hc : canonTx buf c = true) : serialize tx = .ok (slice buf c e) := by
  obtain ⟨ha, rfl, hw⟩ := codec_readTx.enc h hb hc (strict_readTx h)
  rw [serialize_of_wf hw, ha.slice]

/-- **C13 (truncation).**  "Parsing a truncated buffer always fails rather than yielding a
transaction": if the parse at `c` succeeds ending at `e`, then on every proper truncation
`buf[:n]`, `n < e`, it raises – and while cursors stay below `2^63` it raises `IndexError` or
`struct.error`, the classes the refill loops of `OnDiskBlock` catch. -/
theorem C13_truncated_fails {buf : Bytes} {c : Nat} {tx : Tx} {e : Nat} (h : readTx buf c = .ok (tx, e))
    (n : Nat) (hn : n < e) :
    ∃ err, readTx (buf.take n) c = .error err ∧ readTxAndHash (buf.take n) c = .error err ∧
      (e ≤ 9223372036854775808 → err = .indexError ∨ err = .structError) := by
  obtain ⟨err, e1, e2⟩ := readTx_truncated h hn
  exact ⟨err, e1, readTxAndHash_err e1, e2⟩

/-- **C13 (streaming forwards), sharp form.**  For *every* chunk size that holds the tx-count
varint, every number and size of transactions (so every alignment of transaction boundaries to
chunk boundaries, transactions larger than a chunk at any position): `iter_txs` yields exactly the
block's transactions in order, each with exactly its own bytes as the hashed string, and stops
without an exception. -/
theorem C13_iterTxs_correct_sharp (hdr : Bytes) (txs : List Tx) (chunk : Nat)
    (hh : hdr.length = 80) (hw : ∀ t ∈ txs, WfTx t) (hc : (packVarint txs.length).length ≤ chunk)
    (hb : (blockFile hdr txs).length < 9223372036854775808) :
    iterTxs chunk (blockFile hdr txs) = ⟨txs.map (fun t => (t, serializeRaw t)), none⟩ :=
  iterTxs_blockFile hdr txs chunk hh hw hc hb

/-- **C13 (streaming forwards).**  The property as stated: every chunk size `≥ 9`.
Hypotheses: 80-byte header; well-formed transactions; file shorter than `2^63` bytes (every
CPython buffer is).  Below nine bytes the tx-count varint, which is read from the first chunk
without a refill, may not fit (`C13_small_chunk_example`). -/
theorem C13_iterTxs_correct (hdr : Bytes) (txs : List Tx) (chunk : Nat)
    (hh : hdr.length = 80) (hw : ∀ t ∈ txs, WfTx t) (hc : 9 ≤ chunk)
    (hb : (blockFile hdr txs).length < 9223372036854775808) :
    iterTxs chunk (blockFile hdr txs) = ⟨txs.map (fun t => (t, serializeRaw t)), none⟩ :=
  iterTxs_blockFile hdr txs chunk hh hw (Nat.le_trans (packVarint_length_le _) hc) hb

/-- **C13 (streaming backwards, for undo).**  Same hypotheses: `iter_txs_reversed` (the code in
/repo after the `fix:` commit for F3) yields exactly the transactions in exact reverse order. -/
theorem C13_iterTxsReversed_correct (hdr : Bytes) (txs : List Tx) (chunk : Nat)
    (hh : hdr.length = 80) (hw : ∀ t ∈ txs, WfTx t) (hc : 9 ≤ chunk)
    (hb : (blockFile hdr txs).length < 9223372036854775808) :
    iterTxsReversed chunk (blockFile hdr txs) = ⟨(txs.map (fun t => (t, serializeRaw t))).reverse, none⟩ :=
  iterTxsReversedG_blockFile true hdr txs chunk hh hw (Nat.le_trans (packVarint_length_le _) hc) hb (Or.inl rfl)

/-- the shipped chunk size satisfies the hypothesis `9 ≤ chunk` (regenerated from
`OnDiskBlock.chunk_size` on every run) -/
theorem C13_chunk_size_ok : 9 ≤ Gen.onDiskChunkSize := by decide

/-- **C13 (fuel).**  The fuel of the modelled loops never runs out – for every file content, valid
or not, and every chunk size: `outOfFuel` is not an outcome, so the model's answers are those of
the unbounded Python loops. -/
theorem C13_fuel (fixed : Bool) (chunk : Nat) (data : Bytes) :
    (iterTxs chunk data).err ≠ some .outOfFuel ∧
    chunkOffsetsG fixed chunk data ≠ .error .outOfFuel ∧
    (iterTxsReversedG fixed chunk data).err ≠ some .outOfFuel :=
  ⟨iterTxs_fuel chunk data, chunkOffsetsG_fuel fixed chunk data, iterTxsReversedG_fuel fixed chunk data⟩

/-! ### non-vacuity: concrete data meeting the hypotheses -/

/-- a 65-byte transaction -/
def tx0 : Tx := ⟨1, [⟨List.replicate 32 7, 0, [1, 2, 3], 4294967295⟩], [⟨5000, [118, 169]⟩], 0⟩
/-- the smallest transaction: 10 bytes -/
def txMin : Tx := ⟨2, [], [], 7⟩
/-- negative version / value, maximal fields -/
def txNeg : Tx := ⟨-2147483648, [], [⟨-9223372036854775808, []⟩, ⟨9223372036854775807, [0]⟩], 4294967295⟩

example : WfTx tx0 ∧ WfTx txMin ∧ WfTx txNeg := by decide +kernel
example : (serializeRaw tx0).length = 65 ∧ (serializeRaw txMin).length = 10 := by decide +kernel
example : readTx ([9, 9] ++ (serializeRaw tx0 ++ [5])) 2 = .ok (tx0, 67) := by decide +kernel
example : readTx (serializeRaw txNeg) 0 = .ok (txNeg, 29) := by decide +kernel
/-- script lengths on both sides of every varint width boundary are well-formed -/
example (n : Nat) (hn : n = 252 ∨ n = 253 ∨ n = 65535 ∨ n = 65536 ∨ n = 4294967295 ∨ n = 4294967296) :
    WfTx ⟨1, [⟨List.replicate 32 0, 0, List.replicate n 0, 0⟩], [⟨0, List.replicate n 0⟩], 0⟩ := by
  refine ⟨(inRange_iff _).mpr ?_, by simp⟩
  simp only [List.length_cons, List.length_nil, List.mem_cons, List.not_mem_nil, or_false, forall_eq,
    inRangeIn_iff, inRangeOut_iff, List.length_replicate]
  omega
example : packVarint 252 = [252] ∧ packVarint 253 = [253, 253, 0] ∧ packVarint 65535 = [253, 255, 255] ∧
    packVarint 65536 = [254, 0, 0, 1, 0] ∧ packVarint 4294967295 = [254, 255, 255, 255, 255] ∧
    packVarint 4294967296 = [255, 0, 0, 0, 0, 1, 0, 0, 0] := by decide +kernel
example : readVarint (packVarint 65536 ++ [1]) 0 = .ok (65536, 5) ∧
    readVarint (packVarint 4294967296) 0 = .ok (4294967296, 9) ∧
    readVarint ((packVarint 4294967296).take 8) 0 = .error .structError ∧
    readVarint [] 0 = .error .indexError := by decide +kernel
/-- a truncated *script* is silently shortened, the next fixed-width read fails -/
example : readVarbytes [5, 1, 2] 0 = .ok ([1, 2], 6) ∧ readLeU 4 [5, 1, 2] 6 = .error .structError := by decide

/-- the hypotheses of `C13_serialize_read` hold of a canonical buffer … -/
example : BytesOK ([9] ++ serializeRaw tx0) ∧ canonTx ([9] ++ serializeRaw tx0) 1 = true := by decide +kernel
/-- … and are necessary: the count `0` written as `fd 00 00` parses to the same transaction as the
    10-byte canonical form, which is what it re-serialises to (12 ≠ 10 bytes) -/
theorem C13_noncanonical_example :
    readTx [2, 0, 0, 0, 253, 0, 0, 0, 7, 0, 0, 0] 0 = .ok (txMin, 12) ∧
    canonTx [2, 0, 0, 0, 253, 0, 0, 0, 7, 0, 0, 0] 0 = false ∧
    serialize txMin = .ok [2, 0, 0, 0, 0, 0, 7, 0, 0, 0] := by decide +kernel

/-- a block of three transactions (65, 10 and 29 bytes) read with chunk size 9: every transaction
    is larger than a chunk -/
def block0 : Bytes := blockFile (List.replicate 80 0) [tx0, txMin, txNeg]

theorem block0_hyps : (List.replicate 80 0).length = 80 ∧ (∀ t ∈ [tx0, txMin, txNeg], WfTx t) ∧
    block0.length < 9223372036854775808 := by decide +kernel

example : (List.replicate 80 0).length = 80 ∧ (∀ t ∈ [tx0, txMin, txNeg], WfTx t) ∧
    block0.length < 9223372036854775808 := block0_hyps
example : iterTxs 9 block0 = ⟨[tx0, txMin, txNeg].map (fun t => (t, serializeRaw t)), none⟩ :=
  C13_iterTxs_correct _ _ 9 block0_hyps.1 block0_hyps.2.1 (Nat.le_refl 9) block0_hyps.2.2
example : iterTxsReversed 9 block0 = ⟨([tx0, txMin, txNeg].map (fun t => (t, serializeRaw t))).reverse, none⟩ :=
  C13_iterTxsReversed_correct _ _ 9 block0_hyps.1 block0_hyps.2.1 (Nat.le_refl 9) block0_hyps.2.2
example : chunkOffsets 9 block0 = .ok [81, 146, 156, 185] := by decide +kernel

/-- below nine bytes the claim is not made: a 3-byte tx count does not fit a 2-byte first chunk -/
theorem C13_small_chunk_example :
    (iterTxs 2 (List.replicate 80 0 ++ [253, 0, 1])).err = some .structError := by decide +kernel

/-! ### F3: `_chunk_offsets` at the pinned commit violates the reverse-streaming clause -/

/-- the smallest block: one 10-byte transaction -/
def blockMin : Bytes := blockFile (List.replicate 80 0) [txMin]

/-- At the pinned commit the first chunk (9 bytes: the count and 8 bytes of the transaction) holds
no complete transaction, `base_offset` is not advanced by the length of the count, the second
offset comes out one short (90 instead of 91) and `iter_txs_reversed` raises `struct.error`. -/
theorem C13_counterexample_F3 :
    Orig.chunkOffsets 9 blockMin = .ok [81, 90] ∧
    Orig.iterTxsReversed 9 blockMin = ⟨[], some .structError⟩ := by decide +kernel

/-- the repaired code on the same input -/
example : chunkOffsets 9 blockMin = .ok [81, 91] ∧
    iterTxsReversed 9 blockMin = ⟨[(txMin, serializeRaw txMin)], none⟩ := by decide +kernel

theorem firstFits_block0 (k : Nat) :
    firstFits (k - (packVarint [tx0, txMin, txNeg].length).length) [tx0, txMin, txNeg] = decide (66 ≤ k) := by
  have h1 : (packVarint [tx0, txMin, txNeg].length).length = 1 := by decide +kernel
  have h2 : (serializeRaw tx0).length = 65 := by decide +kernel
  rw [firstFits, h1, h2]
  exact decide_eq_decide.mpr (by omega)

/-- with the 65-byte first transaction of `block0` the pinned code fails for every chunk size from
    9 to 65 (= length of count + first transaction − 1) … -/
theorem C13_counterexample_F3_range :
    ∀ k ∈ List.range' 9 57, (Orig.iterTxsReversed k block0).err = some .structError := by
  intro k hk
  have hk' : 9 ≤ k ∧ k < 66 := by simpa [List.mem_range'_1] using hk
  -- whichever transaction the range read first begins with, it is one byte off and reading it fails
  have ev : ∀ j < 3, (revChunks block0
      [(if j = 0 then 80 + (packVarint [tx0, txMin, txNeg].length).length
        else 80 + (stream ([tx0, txMin, txNeg].take j)).length,
        80 + (stream [tx0, txMin, txNeg]).length)]).err = some .structError := by decide +kernel
  obtain ⟨j, rest, hj, h⟩ := iterTxsReversed_orig_blockFile _ _ k block0_hyps.1 block0_hyps.2.1
    (Nat.le_trans (packVarint_length_le _) hk'.1) block0_hyps.2.2 (by simp) ((firstFits_block0 k).trans (decide_eq_false (by omega)))
  rw [block0, h]
  exact revChunks_cons_err (ev j hj) rest

/-- … and for none of the next sizes above -/
example : ∀ k ∈ List.range' 66 20, (Orig.iterTxsReversed k block0).err = none := by
  intro k hk
  have hk' : 66 ≤ k := by have := (List.mem_range'_1.mp hk).1; omega
  have h := iterTxsReversedG_blockFile false _ _ k block0_hyps.1 block0_hyps.2.1
    (Nat.le_trans (packVarint_length_le _) (by omega)) block0_hyps.2.2
    (Or.inr ((firstFits_block0 k).trans (decide_eq_true hk')))
  rw [block0, Orig.iterTxsReversed, h]

end EV.TxCodec
