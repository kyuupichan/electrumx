import EV.Props.C14audit
import EV.Props.C04audit
import EV.Props.C07carrier
import EV.Proofs.CompactFromRun

/-!
# C14 composed with whole index runs — `PInv` derived from the run

Every C14 run theorem (`EV/Props/C14.lean`) starts from a store satisfying `PInv maxRow p` ("what
holds of the store on disk at every point where a process can start").  Here `PInv` is DERIVED from
how the index writes history rows: for the end state `s` of EVERY valid index run from the empty
store (`runOps2`/`ValidOps2` of `C03run`/`C04audit`: advances with any daemon heights, history-only
and full flushes, back-outs, restarts anywhere — so also every store a crash between two operations
leaves, since a restart may follow any operation).

Which component of `PInv` follows from what (`EV/Proofs/RunShape.lean`, `EV/Proofs/CompactFromRun.lean`):

* `nodup`  — `FullInv.hist.wf.keys` (each flush writes its rows under its own id);
* `ordered`, `tight`, `cfcTight` — no compaction is in progress on disk (`comp_cursor =
  comp_flush_count = -1`: the run invariant `RunShape`, by induction over the run) and every row id is
  `≤` the history flush count (`FullInv.hist.wf.ids`, `FullInv'.hstate`);
* `width`  — rows are non-empty (`RunShape`), their entries are in the specification's history of the
  row's hashX (`FullInv.hist.eq`), and the specification only touches hashXs of outputs of the chain
  (`specChain_width`); the 11-byte bound itself is a HYPOTHESIS on the blocks, `ChainHxWidth`, because
  the index model's `HashX` is an unbounded number;
* `notAhead : hF p ≤ uF p` — **FALSE for some reachable stores** (`C14run_counterexample_ahead`: after
  a back-out, or after a history-only flush, the history flush count is ahead).  It holds after a
  restart and after a full flush that flushed something, and EVERY process, the
  compaction script included, begins with `_open_dbs`, whose `clear_excess` establishes it:
  so `PInv` holds of `openStore cfg p` for every reachable `p`, an event sequence on `p` is the
  same as on `openStore cfg p`, and when the run ended fully flushed `clear_excess` deletes nothing.

The composed theorems are the conclusions of the C14 theorems without any `PInv` /
`NodupKeys` / `NoEmptyRows` / cursor / `openDbs` / `first_sync` / "ascending history" hypothesis, and
with "history unchanged" sharpened to "history = the specification's history of the chain the run
committed"; `C14run_pinv_crashed`, `C14run_pinv_crashed_backup` give `PInv` of what a process starts from
after a crash at any point inside a flush / a back-out.

The core statements (`C14inv_…`) are for any invariant index state (`IndexState`: `FullInv'` + `DiskShape` of
its store + `ChainHxWidth`); `C14run_…` instantiates them with the end states of `runOps2` runs, `C14sync_…` with the
end states of runs of the block-processing task `EV.SyncLoopT` (batches, `on_caught_up`, `reorg_chain`:
the server-level model of C01sync / C07carrier).

The `first_sync` flag: `runOps2` never clears it (the task's `on_caught_up` does; its states are `setFS` of
`runOps2`-invariant states, `EV/Proofs/CarrierFS.lean`), and the compaction script refuses a store with the
flag set.  Nothing here depends on the flag, so the `C14run_…` theorems are for `setFSp f s.p`, the run's
store with EITHER value of the flag; the `C14sync_…` theorems are for the literal store the task leaves.
-/
namespace EV.Compact
open EV.Index EV.Spec

/-- the store a process finds after `_open_dbs`, for the end state `s` of an index run whose
    `first_sync` flag on disk is `f` -/
def startStore (cfg : Cfg) (f : Bool) (s : Sys) : Store := openStore cfg (setFSp f s.p)

/-- **C14 (`PInv` is reachable, and only `notAhead` can fail).**  For the end state of every valid
index run over a chain of 11-byte script hashes, the store on disk — with either `first_sync` flag —
satisfies `PInv` for every row size as soon as the history flush count is not ahead of the UTXO
flush count. -/
theorem C14run_pinv (cfg : Cfg) (ops : List IOp2) (hv : ValidOps2 cfg {} ops)
    (hw : ChainHxWidth (chainOf2 [] 0 ops)) {s : Sys} (hs : runOps2 cfg {} ops = .ok s)
    (maxRow : Nat) (f : Bool) (hna : hF s.p ≤ uF s.p) : PInv maxRow (setFSp f s.p) :=
  pinv_of_idle maxRow (idleStore_setFSp f (idleStore_of_run cfg ops hv hw hs))
    (by rw [hF_setFSp, uF_setFSp]; exact hna)

/-- **`notAhead` holds after a restart**, clean or not -/
theorem C14run_notAhead_after_restart (cfg : Cfg) (ops : List IOp2) {s : Sys}
    (hs : runOps2 cfg {} (ops ++ [.reopen]) = .ok s) : hF s.p ≤ uF s.p := by
  obtain ⟨s0, -, hr⟩ := runOps2_concat_ok hs
  obtain ⟨es, ho⟩ := reopen_ok hr
  rw [(openDbs_facts ho).1]
  exact openStore_notAhead cfg s0.p

/-- **`notAhead` holds (with equality) after a full flush that had something to flush** -/
theorem C14run_notAhead_after_full_flush (cfg : Cfg) (ops : List IOp2) {s0 s : Sys}
    (h0 : runOps2 cfg {} ops = .ok s0) (hne : s0.m.st.height ≠ s0.m.dbst.height)
    (hs : runOps2 cfg {} (ops ++ [.flush true]) = .ok s) : hF s.p = uF s.p := by
  obtain ⟨a, ha, hf⟩ := runOps2_concat_ok hs
  cases h0.symm.trans ha
  rcases flush_ok_cases (show flush s0 true = .ok s from hf) with ⟨h, -⟩ | ⟨-, -, rfl⟩
  · exact absurd h hne
  · -- `History.flush` and `flush_utxo_db` both record the bumped flush count
    show hF (flushUtxoStep (flushHistStep s0)).p = s0.m.histFlush + 1
    unfold hF
    rw [hsOf_of_histDb ((histDb_flushUtxoStep _).trans (histDb_flushHistStep s0))]
    exact hF_of_hstate (hstate_histFlush s0)

structure IndexState (cfg : Cfg) (chain : List Block) (K : List Nat) (s : Sys) : Prop where
  inv : FullInv' cfg chain K s
  disk : DiskShape s.p
  width : ChainHxWidth chain

/-- the blocks of `chain` committed by the last UTXO flush of `s` -/
def committedOf (chain : List Block) (s : Sys) : List Block := chain.take (s.m.dbst.height + 1).toNat

theorem indexState_of_run (cfg : Cfg) (ops : List IOp2) (hv : ValidOps2 cfg {} ops)
    (hw : ChainHxWidth (chainOf2 [] 0 ops)) {s : Sys} (hs : runOps2 cfg {} ops = .ok s) :
    IndexState cfg (chainOf2 [] 0 ops) (Track.run cfg {} ops).kept s :=
  ⟨C04run_inv cfg ops hv hs, (runShape_run ops runShape_init hs).disk, hw⟩

theorem IndexState.idle {cfg : Cfg} {chain : List Block} {K : List Nat} {s : Sys}
    (ist : IndexState cfg chain K s) : IdleStore s.p :=
  idleStore_of_fullInv' ist.inv ist.disk ist.width

theorem opens_of_fullInv' {cfg : Cfg} {chain : List Block} {K : List Nat} {s : Sys}
    (inv : FullInv' cfg chain K s) (f c : Bool) : (openDbs cfg (setFSp f s.p) c none).isSome = true := by
  obtain ⟨es, s', h1, -⟩ := fullInv'_reopen inv
  have h2 : (openDbs cfg s.p false none).isSome = true := by rw [h1]; rfl
  rw [openDbs_isSome_setFSp]
  cases c
  · exact h2
  · rw [openDbs_isSome_compacting]; exact h2

theorem C14inv_opens {cfg : Cfg} {chain : List Block} {K : List Nat} {s : Sys}
    (ist : IndexState cfg chain K s) (f c : Bool) :
    (openDbs cfg (setFSp f s.p) c none).isSome = true :=
  opens_of_fullInv' ist.inv f c

theorem startStore_hist {cfg : Cfg} {chain : List Block} {K : List Nat} {s : Sys}
    (inv : FullInv' cfg chain K s) (f : Bool) :
    (startStore cfg f s).hist = histUpTo s.p.hist s.m.dbst.flushCount := by
  unfold startStore
  rw [openStore_hist_cases, uF_setFSp, hF_setFSp, uF_of_fullInv inv.base, show hF s.p = s.m.histFlush from inv.hstate]
  split
  · next c1 => exact (histUpTo_self fun e he => Nat.le_trans (inv.base.hist.wf.ids e he) c1).symm
  · rfl

/-- **`PInv` holds of what every process starts from**, for every invariant index state -/
theorem C14inv_pinv_started {cfg : Cfg} {chain : List Block} {K : List Nat} {s : Sys}
    (ist : IndexState cfg chain K s) (maxRow : Nat) (f : Bool) :
    serverStart cfg (setFSp f s.p) = startStore cfg f s ∧
    PInv maxRow (startStore cfg f s) ∧ IdleStore (startStore cfg f s) ∧
    (∀ hx, getTxnums (startStore cfg f s) hx none =
      historyOf (specChain cfg.act (committedOf chain s)) hx) ∧
    (s.m.dbst.height = s.m.st.height →
      (startStore cfg f s).hist = s.p.hist ∧ committedOf chain s = chain) := by
  have hI := idleStore_setFSp f ist.idle
  obtain ⟨i1, i2⟩ := idleStore_openStore cfg hI
  have inv := ist.inv
  have hh := startStore_hist inv f
  refine ⟨serverStart_eq_openStore cfg _ (C14inv_opens ist f false),
    pinv_of_idle maxRow i1 i2, i1, ?_, ?_⟩
  · intro hx
    unfold committedOf
    rw [← inv.db.hist hx]
    exact getTxnums_congr (q := { s.p with hist := histUpTo s.p.hist s.m.dbst.flushCount }) hh hx none
  · intro hfl
    refine ⟨?_, ?_⟩
    · rw [hh]; exact histUpTo_self (inv.histIds hfl)
    · have hall : (s.m.dbst.height + 1).toNat = chain.length := by
        have := inv.base.files.height; omega
      unfold committedOf
      rw [hall, List.take_length]

/-- **any interruption, from any invariant index state** (see `C14run_any_interruption`) -/
theorem C14inv_any_interruption {cfg : Cfg} {chain : List Block} {K : List Nat} {s : Sys}
    (ist : IndexState cfg chain K s) (maxRow : Nat) (hm : 0 < maxRow) (f : Bool) (evs : List Ev)
    (hok : AllOK cfg maxRow (startStore cfg f s) evs) (n : Nat) :
    (∀ hx, getTxnums (runEvs cfg maxRow (startStore cfg f s) (evs.take n)) hx none =
      historyOf (specChain cfg.act (committedOf chain s)) hx) ∧
    PInv maxRow (runEvs cfg maxRow (startStore cfg f s) (evs.take n)) ∧
    (∀ keep es s', openDbs cfg (runEvs cfg maxRow (startStore cfg f s) (evs.take n)) false keep =
        some (es, s') → ∀ hx, getTxnums s'.p hx none =
          historyOf (specChain cfg.act (committedOf chain s)) hx) ∧
    (evs.take n ≠ [] → runEvs cfg maxRow (setFSp f s.p) (evs.take n) =
      runEvs cfg maxRow (startStore cfg f s) (evs.take n)) ∧
    (s.m.dbst.height = s.m.st.height → committedOf chain s = chain) := by
  obtain ⟨-, hP, -, hspec, hfl⟩ := C14inv_pinv_started ist maxRow f
  obtain ⟨a1, a2, a3⟩ := C14_any_interruption cfg maxRow hm (startStore cfg f s) evs hP hok n
  refine ⟨fun hx => by rw [a1, hspec], a2, fun keep es s' ho hx => by rw [a3 keep es s' ho, hspec], ?_,
    fun h => (hfl h).2⟩
  intro hne
  cases ht : evs.take n with
  | nil => exact absurd ht hne
  | cons ev r => exact (runEvs_openStore cfg maxRow _ ev r (C14inv_opens ist f false)).symm

/-- **in one go, from any invariant index state** whose state record on disk has `first_sync` false
    (see `C14run_one_go`) -/
theorem C14inv_one_go {cfg : Cfg} {chain : List Block} {K : List Nat} {s : Sys}
    (ist : IndexState cfg chain K s) (f : Bool)
    (hfs0 : (setFSp f s.p).ustate.map (·.firstSync) = some false) (maxRow : Nat) (hm : 0 < maxRow)
    (hrc : RowCountOK maxRow (startStore cfg f s)) (limits : List Nat)
    (hl : ∀ l ∈ limits, 0 < l) (hlen : 65536 ≤ limits.length) :
    compactScript cfg maxRow (setFSp f s.p) limits true =
      compactScript cfg maxRow (startStore cfg f s) limits true ∧
    (∀ hx, getTxnums (compactScript cfg maxRow (startStore cfg f s) limits true) hx none =
      historyOf (specChain cfg.act (committedOf chain s)) hx) ∧
    PInv maxRow (compactScript cfg maxRow (startStore cfg f s) limits true) ∧
    (hsOf (compactScript cfg maxRow (startStore cfg f s) limits true)).compCursor = -1 ∧
    uF (compactScript cfg maxRow (startStore cfg f s) limits true) =
      hF (compactScript cfg maxRow (startStore cfg f s) limits true) ∧
    AllIdsLE (compactScript cfg maxRow (startStore cfg f s) limits true) := by
  obtain ⟨-, hP, hI, hspec, -⟩ := C14inv_pinv_started ist maxRow f
  -- the script opens the run's store and the started store to the same system, with `first_sync` false
  obtain ⟨⟨es0, s'⟩, h0⟩ := Option.isSome_iff_exists.mp (C14inv_opens ist f true)
  obtain ⟨es, ho⟩ := openDbs_openStore h0
  have hfs : s'.m.dbst.firstSync = false := by
    rw [(openDbs_facts h0).2.2.1]
    cases hus : (setFSp f s.p).ustate with
    | none => rw [hus] at hfs0; cases hfs0
    | some x => rw [hus] at hfs0; exact Option.some.inj hfs0
  obtain ⟨g1, g2, g3, g4, g5⟩ := C14_one_go cfg maxRow hm (startStore cfg f s) limits hP hI.noEmpty hrc
    (Or.inl hI.cursor) hl hlen es s' ho hfs
  exact ⟨(runEv_openStore cfg maxRow _ (.compact limits true) (C14inv_opens ist f false)).symm,
    fun hx => by rw [g1, hspec], g2, g3, g4, g5⟩

/-- the restart on the run's store succeeds, with either flag and for either kind of process -/
theorem C14run_opens (cfg : Cfg) (ops : List IOp2) (hv : ValidOps2 cfg {} ops) {s : Sys}
    (hs : runOps2 cfg {} ops = .ok s) (f c : Bool) :
    (openDbs cfg (setFSp f s.p) c none).isSome = true :=
  opens_of_fullInv' (C04run_inv cfg ops hv hs) f c

def committedChain (ops : List IOp2) (s : Sys) : List Block := committedOf (chainOf2 [] 0 ops) s

/-- **C14 (`PInv` holds of what every process starts from).**  For the end state `s` of EVERY valid
index run (fully flushed or not, history DB ahead or not) over a chain of 11-byte script hashes and
either `first_sync` flag on disk: a server start succeeds and leaves `startStore cfg f s = openStore …`
on disk; that store satisfies `PInv` for every row size, has no empty row and no compaction in
progress; its histories are the specification's histories of the committed chain; and if the run
ended fully flushed, the committed chain is the whole surviving chain and `clear_excess` removed
nothing. -/
theorem C14run_pinv_started (cfg : Cfg) (ops : List IOp2) (hv : ValidOps2 cfg {} ops)
    (hw : ChainHxWidth (chainOf2 [] 0 ops)) {s : Sys} (hs : runOps2 cfg {} ops = .ok s)
    (maxRow : Nat) (f : Bool) :
    serverStart cfg (setFSp f s.p) = startStore cfg f s ∧
    PInv maxRow (startStore cfg f s) ∧ IdleStore (startStore cfg f s) ∧
    (∀ hx, getTxnums (startStore cfg f s) hx none =
      historyOf (specChain cfg.act (committedChain ops s)) hx) ∧
    (s.m.dbst.height = s.m.st.height →
      (startStore cfg f s).hist = s.p.hist ∧ committedChain ops s = chainOf2 [] 0 ops) :=
  C14inv_pinv_started (indexState_of_run cfg ops hv hw hs) maxRow f

theorem pinv_opened_of_idle (cfg : Cfg) (maxRow : Nat) (f : Bool) {p : Store} (hI : IdleStore p) :
    PInv maxRow (openStore cfg (setFSp f p)) :=
  (idleStore_openStore cfg (idleStore_setFSp f hI)).elim (pinv_of_idle maxRow)

/-- **C14 (`PInv` also holds of what a process starts from after a crash INSIDE a flush).**  Let `s`
be the end state of a valid index run, `es` the effects of a `flush_dbs` of either kind issued there
and `c` ANY cut of it (a crash between two effects, or inside a file write: C04's crash model).  The
store the crash leaves has an idle history DB, the restart on it succeeds (`C04run_restart`), and what
the restart — or the compaction script's own `_open_dbs` — leaves on disk satisfies `PInv`. -/
theorem C14run_pinv_crashed (cfg : Cfg) (ops : List IOp2) (hv : ValidOps2 cfg {} ops)
    (hw : ChainHxWidth (chainOf2 [] 0 ops)) {s : Sys} (hs : runOps2 cfg {} ops = .ok s)
    {fu : Bool} {es : List Effect} {m' : Mem} (hf : flushDbs s fu = some (es, m'))
    {c : List Effect} (hc : c ∈ cuts es) (maxRow : Nat) (f : Bool) :
    IdleStore (applyEffects s.p c) ∧
    PInv maxRow (openStore cfg (setFSp f (applyEffects s.p c))) ∧
    (recover cfg (applyEffects s.p c)).isSome = true := by
  have hidle := idleStore_flush_cut (runInv_of_run hv hs) (chainHxWidth_run hw) hf hc
  obtain ⟨e, r, hr, -⟩ := C04run_restart cfg ops hv hs hf hc
  exact ⟨hidle, pinv_opened_of_idle cfg maxRow f hidle, by rw [hr]; rfl⟩

/-- **…and after a crash INSIDE a back-out** (`backup_block` + `flush_backup`: a history batch, then
a UTXO batch; C05's crash model): for an admissible back-out (`BackupOk`) issued in the end state of a
valid run and any cut of its two batches, the store the crash leaves has an idle history DB and what
the next `_open_dbs` leaves satisfies `PInv`. -/
theorem C14run_pinv_crashed_backup (cfg : Cfg) (ops : List IOp2) (hv : ValidOps2 cfg {} ops)
    (hw : ChainHxWidth (chainOf2 [] 0 ops)) {s : Sys} (hs : runOps2 cfg {} ops = .ok s)
    {b : Block} (hok : BackupOk (Track.run cfg {} ops) b = true)
    {es : List Effect} {s' : Sys} (hb : backupFull cfg s b = .ok (es, s'))
    {c : List Effect} (hc : c ∈ cuts es) (maxRow : Nat) (f : Bool) :
    IdleStore (applyEffects s.p c) ∧ PInv maxRow (openStore cfg (setFSp f (applyEffects s.p c))) := by
  have hidle := idleStore_backup_cut (runInv_of_run hv hs) (chainHxWidth_run hw) hok hb hc
  exact ⟨hidle, pinv_opened_of_idle cfg maxRow f hidle⟩

/-- **C14 (any interruption, from any index run).**  Index any valid run from the empty store over a
chain of 11-byte script hashes; let the store on disk have either `first_sync` flag.  Then take any
sequence of processes on the database directory (compaction runs stopped or killed after any number
of batches, resumed, completed with or without `set_flush_count`; server starts in between).  At
**every** point of the sequence: the history of every script hash is the SPECIFICATION's history of
the chain the run committed (all of the surviving chain if the run ended fully flushed), `PInv` holds
again, a server opened at that point serves these histories — the conclusion of
`C14_any_interruption` with NO `PInv` hypothesis, tied to the specification.  Running the events on
the run's own store is the same thing as running them on `startStore` (every process begins with
`_open_dbs`).

Remaining hypotheses, each a genuine restriction: `ValidOps2` (the blocks connect and spend existing
outputs, back-outs are admissible); `ChainHxWidth` (11-byte script hashes — not expressible inside
the index model); `AllOK` (a compaction run whose `set_flush_count` is lost must start from a store
whose UTXO flush count covers the compacted row ids — without it the claim is false, F9b,
`C14_counterexample_lost_set_flush_count_clear_excess`; it is vacuous when no `set_flush_count` is lost,
`allOK_of_setFlush`). -/
theorem C14run_any_interruption (cfg : Cfg) (ops : List IOp2) (hv : ValidOps2 cfg {} ops)
    (hw : ChainHxWidth (chainOf2 [] 0 ops)) {s : Sys} (hs : runOps2 cfg {} ops = .ok s)
    (maxRow : Nat) (hm : 0 < maxRow) (f : Bool) (evs : List Ev)
    (hok : AllOK cfg maxRow (startStore cfg f s) evs) (n : Nat) :
    (∀ hx, getTxnums (runEvs cfg maxRow (startStore cfg f s) (evs.take n)) hx none =
      historyOf (specChain cfg.act (committedChain ops s)) hx) ∧
    PInv maxRow (runEvs cfg maxRow (startStore cfg f s) (evs.take n)) ∧
    (∀ keep es s', openDbs cfg (runEvs cfg maxRow (startStore cfg f s) (evs.take n)) false keep =
        some (es, s') → ∀ hx, getTxnums s'.p hx none =
          historyOf (specChain cfg.act (committedChain ops s)) hx) ∧
    (evs.take n ≠ [] → runEvs cfg maxRow (setFSp f s.p) (evs.take n) =
      runEvs cfg maxRow (startStore cfg f s) (evs.take n)) ∧
    (s.m.dbst.height = s.m.st.height → committedChain ops s = chainOf2 [] 0 ops) :=
  C14inv_any_interruption (indexState_of_run cfg ops hv hw hs) maxRow hm f evs hok n

/-- **C14 (then undo, from any index run).**  After any such sequence of compaction runs and server
starts, `History.backup(hashXs, tx_count)` — what undoing blocks does to the history DB — leaves
every touched script hash exactly the entries below `tx_count` of its specification history, every
other script hash its specification history, and keys distinct: `C14_then_undo` with its hypotheses
(distinct keys, ascending histories) discharged. -/
theorem C14run_then_undo (cfg : Cfg) (ops : List IOp2) (hv : ValidOps2 cfg {} ops)
    (hw : ChainHxWidth (chainOf2 [] 0 ops)) {s : Sys} (hs : runOps2 cfg {} ops = .ok s)
    (maxRow : Nat) (hm : 0 < maxRow) (f : Bool) (evs : List Ev)
    (hok : AllOK cfg maxRow (startStore cfg f s) evs) (n : Nat)
    (s2 : Sys) (hp : s2.p = runEvs cfg maxRow (startStore cfg f s) (evs.take n))
    (touched : List HashX) (tc : Nat) :
    NodupKeys (applyEffect s2.p (histBackupEffect s2 touched tc)).hist ∧
    (∀ hx ∈ touched, getTxnums (applyEffect s2.p (histBackupEffect s2 touched tc)) hx none =
      (historyOf (specChain cfg.act (committedChain ops s)) hx).takeWhile (fun k => decide (k < tc))) ∧
    (∀ hx, hx ∉ touched → getTxnums (applyEffect s2.p (histBackupEffect s2 touched tc)) hx none =
      historyOf (specChain cfg.act (committedChain ops s)) hx) := by
  obtain ⟨a1, a2, -⟩ := C14run_any_interruption cfg ops hv hw hs maxRow hm f evs hok n
  have hg : ∀ hx, getTxnums s2.p hx none = historyOf (specChain cfg.act (committedChain ops s)) hx := by
    intro hx; rw [hp]; exact a1 hx
  obtain ⟨u1, u2, u3, -⟩ := C14_then_undo s2 touched tc (by rw [hp]; exact a2.nodup)
  refine ⟨u1, ?_, ?_⟩
  · intro hx hmem
    rw [u2 hx hmem (by rw [hg]; exact (historyOf_pairwise _ _).imp (fun h => Nat.le_of_lt h)), hg]
  · intro hx hmem
    rw [u3 hx hmem, hg]

/-- **C14 (then index, from any index run).**  After any such sequence in which no compaction is
left in progress — or an abandoned one under the property's restriction `RowsFit` — open the store
normally, accumulate any `unflushed` dict and flush: for every script hash the new tx numbers are
appended to its specification history and nothing else changes: `C14_then_index` with `PInv`
discharged. -/
theorem C14run_then_index (cfg : Cfg) (ops : List IOp2) (hv : ValidOps2 cfg {} ops)
    (hw : ChainHxWidth (chainOf2 [] 0 ops)) {s : Sys} (hs : runOps2 cfg {} ops = .ok s)
    (maxRow : Nat) (hm : 0 < maxRow) (f : Bool) (evs : List Ev)
    (hok : AllOK cfg maxRow (startStore cfg f s) evs) (n : Nat)
    (hcase : (hsOf (runEvs cfg maxRow (startStore cfg f s) (evs.take n))).compCursor = -1 ∨
      RowsFit maxRow (runEvs cfg maxRow (startStore cfg f s) (evs.take n))
        (hF (runEvs cfg maxRow (startStore cfg f s) (evs.take n))))
    (keep : Option (List Nat)) (es : List Effect) (s0 : Sys)
    (ho : openDbs cfg (runEvs cfg maxRow (startStore cfg f s) (evs.take n)) false keep = some (es, s0))
    (s2 : Sys) (hp : s2.p = s0.p) (hmf : s2.m.histFlush = s0.m.histFlush)
    (hcf : s2.m.compFlush = s0.m.compFlush) (hcc : s2.m.compCursor = s0.m.compCursor)
    (hu : (s2.m.unflushed.map (·.1)).Nodup) :
    (∀ hx, getTxnums (applyEffect s2.p (histFlushEffect s2)) hx none =
      historyOf (specChain cfg.act (committedChain ops s)) hx ++ (alookup hx s2.m.unflushed).getD []) ∧
    NodupKeys (applyEffect s2.p (histFlushEffect s2)).hist ∧
    AllIdsLE (applyEffect s2.p (histFlushEffect s2)) := by
  obtain ⟨a1, a2, -⟩ := C14run_any_interruption cfg ops hv hw hs maxRow hm f evs hok n
  obtain ⟨-, t2, t3, t4, -⟩ := C14_then_index cfg maxRow _ a2 hcase keep es s0 ho s2 hp hmf hcf hcc hu
  exact ⟨fun hx => by rw [t2, a1], t3, t4⟩

/-- **…and directly on the run's store when the history DB is not ahead** (after a restart, after a
full flush: `C14run_notAhead_after_restart`, `C14run_notAhead_after_full_flush`): the conclusion of
`C14_any_interruption` for `p0 = setFSp f s.p` itself, the empty sequence included. -/
theorem C14run_any_interruption_notAhead (cfg : Cfg) (ops : List IOp2) (hv : ValidOps2 cfg {} ops)
    (hw : ChainHxWidth (chainOf2 [] 0 ops)) {s : Sys} (hs : runOps2 cfg {} ops = .ok s)
    (hna : hF s.p ≤ uF s.p) (maxRow : Nat) (hm : 0 < maxRow) (f : Bool) (evs : List Ev)
    (hok : AllOK cfg maxRow (setFSp f s.p) evs) (n : Nat) :
    (∀ hx, getTxnums (runEvs cfg maxRow (setFSp f s.p) (evs.take n)) hx none = getTxnums s.p hx none) ∧
    PInv maxRow (runEvs cfg maxRow (setFSp f s.p) (evs.take n)) ∧
    (∀ keep es s', openDbs cfg (runEvs cfg maxRow (setFSp f s.p) (evs.take n)) false keep =
        some (es, s') → ∀ hx, getTxnums s'.p hx none = getTxnums s.p hx none) :=
  C14_any_interruption cfg maxRow hm (setFSp f s.p) evs (C14run_pinv cfg ops hv hw hs maxRow f hna) hok n

/-- a chain with at most `65536 · maxRow` transactions cannot give any script hash more than 65536
    compacted rows -/
theorem rowCountOK_of_history {maxRow : Nat} {p : Store} {S : St}
    (h : ∀ hx, getTxnums p hx none = historyOf S hx) (hlen : S.touched.length ≤ maxRow * 65536) :
    RowCountOK maxRow p := by
  intro hx
  unfold nchunks
  apply chunks_length_le
  rw [h hx]
  unfold historyOf
  have := List.length_filter_le (fun n => (S.touched.getD n []).contains hx) (List.range S.touched.length)
  rw [List.length_range] at this
  omega

/-- **C14 (in one go, from any index run).**  Index any valid run over a chain of 11-byte script
hashes that has flushed the UTXO DB at least once, with `first_sync` cleared on disk.  The compaction
script with 65536 positive limits, run on that store: `_open_dbs` succeeds and `first_sync` is false
(both DERIVED), the script reaches the end, every history is the specification's history of the
committed chain, no compaction is in progress on disk, both flush counts agree, every row id is `≤` the flush count — the conclusion of
`C14_one_go` with no `PInv`, `NoEmptyRows`, cursor, `openDbs` or `first_sync` hypothesis left.
Remaining: `ValidOps2`, `ChainHxWidth`, the UTXO DB exists (`hu`: on a fresh directory the state
record is absent, `first_sync` reads as true and the script refuses), `RowCountOK` (no script hash
needs more than 65536 compacted rows, else `pack_be_uint16` raises — implied by
`rowCountOK_of_history` for chains of at most `65536 · maxRow` transactions), and the limits. -/
theorem C14run_one_go (cfg : Cfg) (ops : List IOp2) (hv : ValidOps2 cfg {} ops)
    (hw : ChainHxWidth (chainOf2 [] 0 ops)) {s : Sys} (hs : runOps2 cfg {} ops = .ok s)
    (hu : s.p.ustate.isSome = true) (maxRow : Nat) (hm : 0 < maxRow)
    (hrc : RowCountOK maxRow (startStore cfg false s)) (limits : List Nat)
    (hl : ∀ l ∈ limits, 0 < l) (hlen : 65536 ≤ limits.length) :
    compactScript cfg maxRow (setFSp false s.p) limits true =
      compactScript cfg maxRow (startStore cfg false s) limits true ∧
    (∀ hx, getTxnums (compactScript cfg maxRow (startStore cfg false s) limits true) hx none =
      historyOf (specChain cfg.act (committedChain ops s)) hx) ∧
    PInv maxRow (compactScript cfg maxRow (startStore cfg false s) limits true) ∧
    (hsOf (compactScript cfg maxRow (startStore cfg false s) limits true)).compCursor = -1 ∧
    uF (compactScript cfg maxRow (startStore cfg false s) limits true) =
      hF (compactScript cfg maxRow (startStore cfg false s) limits true) ∧
    AllIdsLE (compactScript cfg maxRow (startStore cfg false s) limits true) := by
  refine C14inv_one_go (indexState_of_run cfg ops hv hw hs) false ?_ maxRow hm hrc limits hl hlen
  unfold setFSp
  cases hus : s.p.ustate with
  | none => rw [hus] at hu; cases hu
  | some x => rfl

/-- the end state of every valid run of the block-processing task is, up to `first_sync` flags, an
    invariant index state of the surviving chain -/
theorem indexState_of_sync (cfg : Cfg) (evs : List EV.SyncLoopT.Ev)
    (hv : EV.SyncLoopT.ValidEvs cfg {} evs)
    (hw : ChainHxWidth (EV.SyncLoopT.trackOf cfg {} evs).chain)
    {l' : EV.SyncLoop.Loop} {outs : List EV.SyncLoopT.Out}
    (hr : EV.SyncLoopT.run cfg {} evs = .ok (l', outs)) :
    ∃ s0 f1 f2 f3, IndexState cfg (EV.SyncLoopT.trackOf cfg {} evs).chain
        (EV.SyncLoopT.trackOf cfg {} evs).kept s0 ∧ l'.s = setFS s0 f1 f2 f3 := by
  obtain ⟨l2, ocs, h1, -, -, ref', li⟩ := EV.SyncLoopT.run_inv evs (EV.SyncLoopT.lInv_init cfg) hv
  obtain ⟨rfl, -⟩ := Prod.mk.inj (Except.ok.inj (hr.symm.trans h1))
  obtain ⟨s0, f1, f2, f3, ri, hl⟩ := li.ghost
  exact ⟨s0, f1, f2, f3, ⟨ri.inv, ri.shape.disk, hw⟩, hl⟩

/-- **C14 (any interruption, from any run of the block-processing task).**  `C14run_any_interruption`
for the store `l'.s.p` the task leaves after any valid event list (batches, `on_caught_up`,
reorganisations), literally — no flag parameter: at every point of any sequence of compaction runs
and server starts the histories are the specification's histories of the committed part of the
surviving chain, `PInv` holds, a server opened there serves them, and running the events on `l'.s.p`
itself is running them on `openStore cfg l'.s.p`. -/
theorem C14sync_any_interruption (cfg : Cfg) (evs : List EV.SyncLoopT.Ev)
    (hv : EV.SyncLoopT.ValidEvs cfg {} evs)
    (hw : ChainHxWidth (EV.SyncLoopT.trackOf cfg {} evs).chain)
    {l' : EV.SyncLoop.Loop} {outs : List EV.SyncLoopT.Out}
    (hr : EV.SyncLoopT.run cfg {} evs = .ok (l', outs))
    (maxRow : Nat) (hm : 0 < maxRow) (cevs : List Ev)
    (hok : AllOK cfg maxRow (openStore cfg l'.s.p) cevs) (n : Nat) :
    (∀ hx, getTxnums (runEvs cfg maxRow (openStore cfg l'.s.p) (cevs.take n)) hx none =
      historyOf (specChain cfg.act (committedOf (EV.SyncLoopT.trackOf cfg {} evs).chain l'.s)) hx) ∧
    PInv maxRow (runEvs cfg maxRow (openStore cfg l'.s.p) (cevs.take n)) ∧
    (∀ keep es s', openDbs cfg (runEvs cfg maxRow (openStore cfg l'.s.p) (cevs.take n)) false keep =
        some (es, s') → ∀ hx, getTxnums s'.p hx none =
          historyOf (specChain cfg.act (committedOf (EV.SyncLoopT.trackOf cfg {} evs).chain l'.s)) hx) ∧
    (cevs.take n ≠ [] → runEvs cfg maxRow l'.s.p (cevs.take n) =
      runEvs cfg maxRow (openStore cfg l'.s.p) (cevs.take n)) ∧
    (l'.s.m.dbst.height = l'.s.m.st.height →
      committedOf (EV.SyncLoopT.trackOf cfg {} evs).chain l'.s = (EV.SyncLoopT.trackOf cfg {} evs).chain) := by
  obtain ⟨s0, f1, f2, f3, ist, hl⟩ := indexState_of_sync cfg evs hv hw hr
  rw [hl] at hok ⊢
  exact C14inv_any_interruption ist maxRow hm f3 cevs hok n

/-- **C14 (in one go, from any run of the block-processing task)** that has written `first_sync =
False` to disk (`on_caught_up` followed by a flush that flushed something, or a back-out): the
conclusion of `C14run_one_go` for `l'.s.p`. -/
theorem C14sync_one_go (cfg : Cfg) (evs : List EV.SyncLoopT.Ev)
    (hv : EV.SyncLoopT.ValidEvs cfg {} evs)
    (hw : ChainHxWidth (EV.SyncLoopT.trackOf cfg {} evs).chain)
    {l' : EV.SyncLoop.Loop} {outs : List EV.SyncLoopT.Out}
    (hr : EV.SyncLoopT.run cfg {} evs = .ok (l', outs))
    (hfs : l'.s.p.ustate.map (·.firstSync) = some false) (maxRow : Nat) (hm : 0 < maxRow)
    (hrc : RowCountOK maxRow (openStore cfg l'.s.p)) (limits : List Nat)
    (hl : ∀ l ∈ limits, 0 < l) (hlen : 65536 ≤ limits.length) :
    compactScript cfg maxRow l'.s.p limits true =
      compactScript cfg maxRow (openStore cfg l'.s.p) limits true ∧
    (∀ hx, getTxnums (compactScript cfg maxRow (openStore cfg l'.s.p) limits true) hx none =
      historyOf (specChain cfg.act (committedOf (EV.SyncLoopT.trackOf cfg {} evs).chain l'.s)) hx) ∧
    PInv maxRow (compactScript cfg maxRow (openStore cfg l'.s.p) limits true) ∧
    (hsOf (compactScript cfg maxRow (openStore cfg l'.s.p) limits true)).compCursor = -1 ∧
    uF (compactScript cfg maxRow (openStore cfg l'.s.p) limits true) =
      hF (compactScript cfg maxRow (openStore cfg l'.s.p) limits true) ∧
    AllIdsLE (compactScript cfg maxRow (openStore cfg l'.s.p) limits true) := by
  obtain ⟨s0, f1, f2, f3, ist, hl0⟩ := indexState_of_sync cfg evs hv hw hr
  rw [hl0] at hfs hrc ⊢
  exact C14inv_one_go ist f3 hfs maxRow hm hrc limits hl hlen

def c14Back : List IOp2 := [.adv rxB0 0, .adv rxB1 1, .flush true, .backup rxB1]

theorem c14Back_valid : ValidOps2 rxCfg {} c14Back ∧ ValidOps2 rxCfg {} (c14Back.take 3) :=
  by decide +kernel

/-- **`PInv.notAhead` is not an invariant of index runs.**  (a) The run `c14Back` ends — valid, over
11-byte script hashes, FULLY FLUSHED — with history flush count 2 and UTXO flush count 1 on disk
(`History.backup` bumps `flush_count`, `flush_backup` does not copy it into the UTXO state; the same
store as `C14_after_backout_example`, here from `runOps2`).  (b) The first four operations of `rxOps`
(`C03run.lean`) end with a history-only flush: flush counts 2 and 1, not fully flushed.  In both
cases the next `_open_dbs` — the first thing the compaction script does — re-establishes `notAhead`
(`C14run_pinv_started`); in case (a) it deletes no row (`C14run_pinv_started`, last clause; also
`C14_clear_excess_after_backout`), in case (b) it deletes the rows of the uncommitted flush, by
design (C04).  The real code does the same (suite `compaction`, which drives the real `History`
through `DB._open_dbs`): no C14 violation. -/
theorem C14run_counterexample_ahead :
    (ValidOps2 rxCfg {} c14Back ∧ ChainHxWidth (chainOf2 [] 0 c14Back) ∧
      (okSysD (runOps2 rxCfg {} c14Back)).m.dbst.height = (okSysD (runOps2 rxCfg {} c14Back)).m.st.height ∧
      (hF (okSysD (runOps2 rxCfg {} c14Back)).p, uF (okSysD (runOps2 rxCfg {} c14Back)).p) = (2, 1)) ∧
    (ValidOps2 rxCfg {} (rxOps.take 4) ∧
      (hF (okSysD (runOps2 rxCfg {} (rxOps.take 4))).p,
       uF (okSysD (runOps2 rxCfg {} (rxOps.take 4))).p) = (2, 1)) := by
  decide +kernel

/-! ### non-vacuity

`c14Ops`: two blocks, two flushes, script hash 1 has a row under each flush id. -/

def c14Ops : List IOp2 := c04Ops ++ [.flush true]

def c14S : Sys := okSysD (runOps2 rxCfg {} c14Ops)

theorem c14Ops_ok : ValidOps2 rxCfg {} c14Ops ∧ ChainHxWidth (chainOf2 [] 0 c14Ops) ∧
    c14S.p.ustate.isSome = true ∧ c14S.m.dbst.height = c14S.m.st.height :=
  by decide +kernel

theorem c14S_run : runOps2 rxCfg {} c14Ops = .ok c14S :=
  runOps2_okSysD c14Ops_ok.1

/-- the hypotheses of all theorems above hold of this run -/
example : ValidOps2 rxCfg {} c14Ops ∧ ChainHxWidth (chainOf2 [] 0 c14Ops) ∧
    runOps2 rxCfg {} c14Ops = .ok c14S ∧ c14S.p.ustate.isSome = true ∧ hF c14S.p ≤ uF c14S.p ∧
    c14S.m.dbst.height = c14S.m.st.height :=
  ⟨c14Ops_ok.1, c14Ops_ok.2.1, c14S_run, c14Ops_ok.2.2.1, by decide +kernel, c14Ops_ok.2.2.2⟩

/-- `C14run_pinv_crashed` applies to every one of the ten cuts of the full flush of `c04S` -/
example : ∃ es m', flushDbs c04S true = some (es, m') ∧ (cuts es).length = 10 ∧
    ∀ c ∈ cuts es, PInv 4 (openStore rxCfg (setFSp false (applyEffects c04S.p c))) := by
  obtain ⟨es, m', hf⟩ := C04run_flush_defined rxCfg c04Ops c04Ops_valid c04S_run true
  refine ⟨es, m', hf, ?_, fun c hc =>
    (C14run_pinv_crashed rxCfg c04Ops c04Ops_valid (by decide +kernel) c04S_run hf hc 4 false).2.1⟩
  have h : (flushDbs c04S true).map (fun r => (cuts r.1).length) = some 10 := by decide +kernel
  rw [hf] at h
  simpa using h

def c14PreS : Sys := okSysD (runOps2 rxCfg {} (c14Back.take 3))

theorem c14PreS_run : runOps2 rxCfg {} (c14Back.take 3) = .ok c14PreS :=
  runOps2_okSysD c14Back_valid.2

/-- `C14run_pinv_crashed_backup` applies to the back-out of `c14Back` -/
example : ∃ es s', backupFull rxCfg c14PreS rxB1 = .ok (es, s') ∧
    ∀ c ∈ cuts es, PInv 4 (openStore rxCfg (setFSp false (applyEffects c14PreS.p c))) := by
  have hv := c14Back_valid.2
  obtain ⟨s', hb, -⟩ := trackInv_step (trackInv_of_run hv c14PreS_run) (.backup rxB1) (by decide +kernel)
  obtain ⟨es, hbf⟩ := EV.Index.backup_ok (s := c14PreS) (b := rxB1) hb
  exact ⟨es, s', hbf, fun c hc =>
    (C14run_pinv_crashed_backup rxCfg (c14Back.take 3) hv (by decide +kernel) c14PreS_run (by decide +kernel) hbf hc 4 false).2⟩

theorem c14Evs_ok (p : Store) :
    AllOK rxCfg 4 p [.compact [1] true, .serverStart, .compact [1, 8000000] true] :=
  allOK_of_setFlush _ _ _ _ (by
    intro l b hm
    simp only [List.mem_cons, Ev.compact.injEq, List.not_mem_nil, or_false, reduceCtorEq, false_or] at hm
    rcases hm with ⟨-, rfl⟩ | ⟨-, rfl⟩ <;> rfl)

theorem c14Limits_ok : (∀ l ∈ List.replicate 65536 8000000, 0 < l) ∧
    65536 ≤ (List.replicate 65536 8000000).length :=
  ⟨fun l hl => by rw [List.eq_of_mem_replicate hl]; decide +kernel, by rw [List.length_replicate]; exact Nat.le_refl _⟩

/-- `ChainHxWidth` is not vacuous the other way either: it rejects a 12-byte script hash -/
example : ¬ ChainHxWidth [⟨7, 0, 100, 80, [⟨11, [rxGen], [⟨50, 2 ^ 88, .normal⟩]⟩]⟩] := by decide +kernel

/-- `C14run_any_interruption` applies to it (a compaction stopped after one batch, a server start, a
    resumed compaction that completes), and so does `C14run_one_go`: `RowCountOK` from the size of the
    chain -/
example (n : Nat) :
    (∀ hx, getTxnums (runEvs rxCfg 4 (startStore rxCfg false c14S)
        (([.compact [1] true, .serverStart, .compact [1, 8000000] true] : List Ev).take n)) hx none =
      historyOf (specChain rxCfg.act (chainOf2 [] 0 c14Ops)) hx) ∧
    RowCountOK 4 (startStore rxCfg false c14S) := by
  obtain ⟨hv, hw, -, hfl⟩ := c14Ops_ok
  obtain ⟨a1, -, -, -, a5⟩ := C14run_any_interruption rxCfg c14Ops hv hw c14S_run 4 (by decide +kernel) false
    [.compact [1] true, .serverStart, .compact [1, 8000000] true]
    (c14Evs_ok _) n
  obtain ⟨-, -, -, hspec, -⟩ := C14run_pinv_started rxCfg c14Ops hv hw c14S_run 4 false
  rw [a5 hfl] at a1 hspec
  exact ⟨a1, rowCountOK_of_history hspec (by decide +kernel)⟩

/-- `C14run_one_go` applies to it with the script's own limit, 65536 times: every hypothesis is
    satisfiable together, and the script does complete -/
example : (hsOf (compactScript rxCfg 4 (setFSp false c14S.p) (List.replicate 65536 8000000) true)).compCursor = -1 ∧
    ∀ hx, getTxnums (compactScript rxCfg 4 (setFSp false c14S.p) (List.replicate 65536 8000000) true) hx none =
      historyOf (specChain rxCfg.act (chainOf2 [] 0 c14Ops)) hx := by
  obtain ⟨hv, hw, hu, hfl⟩ := c14Ops_ok
  obtain ⟨-, -, -, hspec, hc⟩ := C14run_pinv_started rxCfg c14Ops hv hw c14S_run 4 false
  obtain ⟨g0, g1, -, g3, -⟩ := C14run_one_go rxCfg c14Ops hv hw c14S_run hu 4 (by decide +kernel)
    (rowCountOK_of_history (by rw [(hc hfl).2] at hspec; exact hspec) (by decide +kernel))
    (List.replicate 65536 8000000)
    c14Limits_ok.1 c14Limits_ok.2
  rw [(hc hfl).2] at g1
  rw [g0]
  exact ⟨g3, g1⟩

def c14L : EV.SyncLoop.Loop :=
  match EV.SyncLoopT.run rxCfg {} EV.SyncLoopT.cxEvs with
  | .ok (l, _) => l
  | .error _ => {}

theorem c14L_run : ∃ outs, EV.SyncLoopT.run rxCfg {} EV.SyncLoopT.cxEvs = .ok (c14L, outs) := by
  obtain ⟨l2, ocs, h1, -⟩ :=
    EV.SyncLoopT.run_inv EV.SyncLoopT.cxEvs (EV.SyncLoopT.lInv_init rxCfg) EV.SyncLoopT.cxEvs_valid
  refine ⟨ocs.map (·.1), ?_⟩
  rw [c14L, h1]

/-- `C14sync_any_interruption` and `C14sync_one_go` apply to it -/
example (n : Nat) :
    c14L.s.p.ustate.map (·.firstSync) = some false ∧
    (EV.SyncLoopT.trackOf rxCfg {} EV.SyncLoopT.cxEvs).chain = [rxB0, rxB1', rxB2] ∧
    PInv 4 (runEvs rxCfg 4 (openStore rxCfg c14L.s.p)
      (([.compact [1] true, .serverStart, .compact [1, 8000000] true] : List Ev).take n)) ∧
    (hsOf (compactScript rxCfg 4 c14L.s.p (List.replicate 65536 8000000) true)).compCursor = -1 ∧
    ∀ hx, getTxnums (compactScript rxCfg 4 c14L.s.p (List.replicate 65536 8000000) true) hx none =
      historyOf (specChain rxCfg.act [rxB0, rxB1', rxB2]) hx := by
  obtain ⟨outs, hr⟩ := c14L_run
  have hv := EV.SyncLoopT.cxEvs_valid
  have hchain : (EV.SyncLoopT.trackOf rxCfg {} EV.SyncLoopT.cxEvs).chain = [rxB0, rxB1', rxB2] := by decide +kernel
  have hw : ChainHxWidth (EV.SyncLoopT.trackOf rxCfg {} EV.SyncLoopT.cxEvs).chain := by rw [hchain]; decide +kernel
  have ⟨hfs, hfl⟩ : c14L.s.p.ustate.map (·.firstSync) = some false ∧
      c14L.s.m.dbst.height = c14L.s.m.st.height := by decide +kernel
  obtain ⟨-, a2, -, -, a5⟩ := C14sync_any_interruption rxCfg _ hv hw hr 4 (by decide +kernel) _ (c14Evs_ok _) n
  obtain ⟨b1, -, -, -, -⟩ := C14sync_any_interruption rxCfg _ hv hw hr 4 (by decide +kernel) _ (c14Evs_ok _) 0
  rw [a5 hfl, hchain] at b1
  obtain ⟨g0, g1, -, g3, -⟩ := C14sync_one_go rxCfg _ hv hw hr hfs 4 (by decide +kernel)
    (rowCountOK_of_history b1 (by decide +kernel)) (List.replicate 65536 8000000)
    c14Limits_ok.1 c14Limits_ok.2
  rw [a5 hfl, hchain] at g1
  rw [g0]
  exact ⟨hfs, hchain, a2, g3, g1⟩

/-- **the composed theorems are not about a script that does nothing**: with `first_sync` cleared, one
    batch of the compaction script on the run's store rewrites the rows of all three script hashes
    under ids `0 …` (script hash 1: two rows merged into one) and records cursor 1; with the flag still
    set (the literal end store of `runOps2`) the script refuses and the store stays as it is. -/
theorem C14run_example_compacts :
    (compactScript rxCfg 4 (setFSp false c14S.p) [1] true).hist =
      [((4, 0), [0]), ((2, 0), [1]), ((1, 0), [0, 1])] ∧
    (compactScript rxCfg 4 (setFSp false c14S.p) [1] true).hstate =
      some { flushCount := 2, compFlushCount := 1, compCursor := 1 } ∧
    (compactScript rxCfg 4 (setFSp true c14S.p) [1] true).hist = c14S.p.hist := by
  refine and_assoc.mp ⟨?_, ?_⟩
  · -- the sorts on the way (`History.flush`, `clear_excess_undo_info`, the prefix scan) are rewritten where they
    -- stand (`EV/Proofs/IndexEval.lean`, `CompactEval.lean`); the kernel evaluates the rest, the index run included
    simp only [compactScript, driverLoop, compactHistory, histLoop_eval, openDbs, openStore, openUndoEffects,
      clearUndoKeys_eval, c14S, c14Ops, c04Ops, List.cons_append, List.nil_append, runOps2, stepOp2, flush, flushDbs,
      histFlushEffect, sortByKey_eval]
    decide +kernel
  · -- only `_open_dbs` has run, and `clear_excess` finds nothing to delete in a fully flushed store
    obtain ⟨hv, hw, hu, hfl⟩ := c14Ops_ok
    have hfs : ((setFSp true c14S.p).ustate.getD {}).firstSync = true := by
      unfold setFSp
      cases h : c14S.p.ustate with
      | none => rw [h] at hu; cases hu
      | some x => rfl
    rcases compactScript_of_firstSync rxCfg 4 _ [1] true hfs with h | h
    · rw [h]; rfl
    · rw [h]
      exact ((C14run_pinv_started rxCfg c14Ops hv hw c14S_run 4 true).2.2.2.2 hfl).1

end EV.Compact
