import EV.Proofs.RpcEffect

/-!
# C16 — Malformed client requests are refused cleanly and change nothing

> Whatever JSON values a client supplies as arguments to any Electrum protocol method - wrong
> types, negative or astronomically large numbers, non-finite floats, malformed or odd-length hex,
> nested containers - the method either returns a well-formed result or fails with a protocol
> error reply; it never fails with an internal exception, never alters subscriptions or caches,
> and never affects what other clients are told.

Model: `EV/Model/Rpc.lean` — `dispatch world state method args` = handler-table lookup →
`aiorpcx.handler_invocation` → the handler's validation prefix → the handler body over an abstract
backend.  It is tied to the real `ElectrumX` / `SessionManager` / `PeerManager` code by the `rpc`
correspondence suite on every run, and the exception classes each `try/except` catches, the
handler table with its arities and parameter names, and the two repaired behaviours come from
`EV.Gen` (observed on the real modules by harness/gen_consts.py).

All theorems quantify over **every** JSON value (`J`, including `NaN`, `±Infinity`, integers and
strings of any size, containers of any depth), every argument list or named-argument object, every
method name, every session / cache state and every backend `World`.

What is proved is the *validation and dispatch logic plus the modelled bodies*; that the real
handler bodies raise nothing the model does not know about is what the differential fuzz checks
(level: proof, partial).
-/
namespace EV.Rpc

/-- The exception classes `loop.getaddrinfo(host, 80)` is assumed to raise for a `str` host name:
    `socket.gaierror` from the resolver, `UnicodeError` from the IDNA encoding of the name (empty or
    over-long label, lone surrogate).  This is the only environment assumption of `C16_total`. -/
def getaddrinfoRaises : List String := ["gaierror", "UnicodeError"]

theorem caughtOK : CaughtOK := by decide +kernel

/-- **C16 (clean refusal / totality).**  For every method name and every positional or named
argument value, the request path returns a result, or fails with an `RPCError`, or with
`ReplyAndDisconnect(RPCError)` (`server.version` only): no other Python exception class is
reachable.

`CaughtOK`, `TableOK` and `BodyOK` are closed statements about the constants *generated from the
source*, checked by evaluation: every validator's caught tuple contains what `int()` /
`bytes.fromhex` can raise on a JSON value (`OverflowError` included — F11), the generated handler
tables have exactly the arities the model's validation prefixes are written for, `block_headers`
does not divide the unclamped count (F13) and `on_add_peer` catches what `getaddrinfo` raises
(F12).  Reverting any of the repairs regenerates a constant for which the corresponding check —
hence this theorem — fails. -/
theorem C16_total (w : World) (st : St) (m : String) (args : Args)
    (hres : ResolverRaises getaddrinfoRaises w) :
    match (dispatch w st m args).2 with
    | .ok _ => True
    | .error (.rpcError _) => True
    | .error (.replyAndDisconnect _) => True
    | .error _ => False := by
  have h := dispatch_good (raises := getaddrinfoRaises) caughtOK tableOK (by decide) hres st m args
  generalize (dispatch w st m args).2 = r at h
  match r, h with
  | .ok _, _ => trivial
  | .error e, h =>
    have he := h e rfl
    cases e <;> first | trivial | (simp [PyExc.isProtocol] at he)

/-- **C16 (a refused request changes nothing at all).**  A request that is refused before the
handler body runs — unknown method, wrong number of arguments, unknown or missing named argument,
or any argument rejected by the handler's validators — leaves the *whole* state (subscriptions,
mempool statuses, header subscription, `sv_seen`, `is_peer`, protocol version and all three
manager caches) exactly as it was. -/
theorem C16_refused_no_effect (w : World) (st : St) (m : String) (args : Args) (e : PyExc)
    (h : parseRequest w st m args = .error e) : dispatch w st m args = (st, .error e) := by
  unfold dispatch; rw [h]

/-- **C16 (no error reply alters subscriptions; caches stay coherent).**  If the reply is an error
— from validation *or* from the backend ("height out of range", "tx not in block", "history too
large", daemon error, unsupported protocol version …) — then `hashX_subs`, `mempool_statuses`,
`subscribe_headers` and the protocol version are unchanged, and the manager caches have at most
gained entries that agree with the index (`CacheGrowth`: a well-formed query about a block that
exists may fill the tx-hash cache before it fails with "tx not in block"; a too-large history is
cached *as the error object*).  The two exceptions by design: `server.version` has set `sv_seen`
before it can fail (unsupported version / dropped client); `server.add_peer` marks the session as
a peer. -/
theorem C16_no_effect (w : World) (st : St) (m : String) (args : Args) (e : PyExc)
    (h : (dispatch w st m args).2 = .error e) :
    (dispatch w st m args).1.sess.subs = st.sess.subs ∧
    (dispatch w st m args).1.sess.mpStatus = st.sess.mpStatus ∧
    (dispatch w st m args).1.sess.subHeaders = st.sess.subHeaders ∧
    (dispatch w st m args).1.sess.ptuple = st.sess.ptuple ∧
    ((dispatch w st m args).1.sess.svSeen = st.sess.svSeen ∨
      ∃ n p, parseRequest w st m args = .ok (.version n p)) ∧
    ((dispatch w st m args).1.sess.isPeer = st.sess.isPeer ∨
      ∃ f, parseRequest w st m args = .ok (.addPeer f)) ∧
    CacheGrowth w st.mgr (dispatch w st m args).1.mgr := by
  have hd := dispatch_ends w st m args
  generalize dispatch w st m args = out at hd h ⊢
  cases hd with
  | ok => cases h
  | rpc _ hs hg => rw [hs]; exact ⟨rfl, rfl, rfl, rfl, .inl rfl, .inl rfl, hg⟩
  | refused | overflow => exact ⟨rfl, rfl, rfl, rfl, .inl rfl, .inl rfl, .refl w _⟩
  | resolver hr => exact ⟨rfl, rfl, rfl, rfl, .inl rfl, .inr ⟨_, hr⟩, .refl w _⟩
  | version hr => exact ⟨rfl, rfl, rfl, rfl, .inr ⟨_, _, hr⟩, .inl rfl, .refl w _⟩

/-- **C16 (other clients).**  Sessions share only the manager caches.  Whatever request session
`a` makes — refused, failing or succeeding — (i) the caches stay coherent with the index and
(ii) the reply session `b` then gets to *any* request, and `b`'s own state afterwards, are exactly
what they would have been had `a` never asked.  (`b`'s record is not an argument of `a`'s dispatch
at all: a handler has no access to another session.) -/
theorem C16_others (w : World) (a b : Sess) (mgr : Mgr) (m : String) (args : Args)
    (m2 : String) (args2 : Args) (hok : CacheOK w mgr) :
    CacheOK w (dispatch w { sess := a, mgr := mgr } m args).1.mgr ∧
    (dispatch w { sess := b, mgr := (dispatch w { sess := a, mgr := mgr } m args).1.mgr } m2 args2).2 =
      (dispatch w { sess := b, mgr := mgr } m2 args2).2 ∧
    (dispatch w { sess := b, mgr := (dispatch w { sess := a, mgr := mgr } m args).1.mgr } m2 args2).1.sess =
      (dispatch w { sess := b, mgr := mgr } m2 args2).1.sess := by
  have hok' := CacheOK.of_growth (dispatch_ends w { sess := a, mgr := mgr } m args).growth hok
  exact ⟨hok', (dispatch_alike w b (hok'.alike hok) m2 args2).2⟩

/-- **C16 (well-formed result).**  The only client-supplied value a handler copies into a *result*
is `target_type` of `get_tsc_merkle`; in every reply that carries it, it is one of the three
documented strings (so never `NaN`, a container nested beyond what the JSON encoder accepts, …). -/
theorem C16_wellformed (w : World) (st : St) (m : String) (args : Args) (j : J)
    (h : (dispatch w st m args).2 = .ok (.tsc j)) :
    ∃ s, j = .str s ∧ s ∈ ["block_hash", "block_header", "merkle_root"] := by
  have hd := dispatch_ends w st m args
  generalize dispatch w st m args = out at hd h ⊢
  cases hd with
  | ok _ htsc =>
    cases h
    obtain ⟨t, ht, b, hr⟩ := htsc j rfl
    rcases parseRequest_valid caughtOK tableOK w st m args with hv | hv | hv <;> rw [hr] at hv
    · cases hv
    · cases hv
    · have := hv (by decide)
      cases j <;> simp [isTarget] at this
      case str s => exact ⟨s, rfl, by simpa [tscTargets] using this⟩
  | refused | rpc | overflow | resolver | version => cases h

/-! ### non-vacuity: a concrete world and requests -/

/-- a small world: chain of height 2, a resolver that fails both ways -/
def exWorld : World :=
  { height := 2, hdrFile := List.replicate 240 7,
    blockTxs := fun h => [[h, 1], [h, 2]],
    history := fun hx => if hx = [1] then [([9], 1), ([8], 2)] else [],
    mempool := fun _ => [], daemonTxs := [], broadcastOk := fun _ => true, maxSend := 0,
    intOfStr := fun s => if s = "5" then some 5 else none,
    dropClient := fun _ => false, discoveryOn := true,
    skipResolve := fun _ => false, permitNoResolve := fun _ => false,
    resolve := fun host => if host = "a..b" then .error .unicodeError
                           else if host = "nx.example" then .error .gaiError else .ok false }

/-- the hypothesis of `C16_total` holds of it, non-trivially (both classes are raised) -/
example : ResolverRaises getaddrinfoRaises exWorld := by
  intro host e h
  simp only [exWorld] at h
  split at h
  · cases h; decide +kernel
  · split at h
    · cases h; decide +kernel
    · cases h

/-- observers for the examples (results carry JSON values, which have no decidable equality) -/
def outcome : Except PyExc Res → String × Nat
  | .ok (.bool b) => ("ok", if b then 1 else 0)
  | .ok (.headers raw c _ _) => ("ok headers", raw.length + c)
  | .ok _ => ("ok", 0)
  | .error (.rpcError c) => ("rpc", c.natAbs)
  | .error (.replyAndDisconnect c) => ("disconnect", c.natAbs)
  | .error e => (e.name, 0)

/-- the F12 witness is refused as a peer (result `False`), not an internal error -/
example : outcome (dispatch exWorld {} "server.add_peer"
    (.pos [.obj [("hosts", .obj [("a..b", .obj [])])]])).2 = ("ok", 0) := by decide +kernel

/-- the F11 witnesses are protocol errors -/
example : outcome (dispatch exWorld {} "blockchain.block.header" (.pos [.float .inf])).2 = ("rpc", 1) := by
  decide +kernel
example : outcome (dispatch exWorld {} "blockchain.transaction.id_from_pos"
    (.named [("height", .int 1), ("tx_pos", .float .ninf)])).2 = ("rpc", 1) := by decide +kernel

set_option exponentiation.threshold 2000 in
set_option maxRecDepth 20000 in
/-- the F13 witness returns the two headers there are -/
example : outcome (dispatch exWorld {} "blockchain.block.headers" (.pos [.int 1, .int (10 ^ 400)])).2 =
    ("ok headers", 162) := by decide +kernel

/-- arity, unknown names, unknown methods, odd `server.version` shapes -/
example : outcome (dispatch exWorld {} "server.ping" (.pos [.null])).2 = ("rpc", 32602) := by
  decide +kernel
example : outcome (dispatch exWorld {} "blockchain.block.header" (.named [("cp_height", .int 0)])).2 =
    ("rpc", 32602) := by decide +kernel
example : outcome (dispatch exWorld {} "blockchain.scripthash.unsubscribe" (.pos [.null])).2 =
    ("rpc", 32601) := by decide +kernel
example : outcome (dispatch exWorld {} "server.version" (.pos [.str "x", .arr [.int 1, .obj []]])).2 =
    ("disconnect", 1) := by decide +kernel
example : outcome (dispatch exWorld {} "blockchain.estimatefee" (.pos [.arr [.arr [.float .nan]]])).2 =
    ("ok", 0) := by decide +kernel

/-! ### F11 – F14: the code at the pinned commit violates the property (machine-checked) -/

/-- **F11.**  With the caught tuple of the pinned commit (`ValueError`, `TypeError` and its
subclass `UnicodeError`), `non_negative_integer(float('inf'))` — JSON `Infinity`, `1e999` —
escapes as `OverflowError`. -/
theorem C16_counterexample_overflow (ios : String → Option Int) :
    nonNegativeIntegerWith ["ValueError", "TypeError", "UnicodeError"] ios (.float .inf) =
      .error .overflowError := by
  simp [nonNegativeIntegerWith, pyInt, guard, PyExc.name]

set_option exponentiation.threshold 2000 in
/-- **F13.**  `cost = count / 50` computed from the *requested* count: an integer count of
`50·2^1024` or more (valid JSON: `1` followed by 310 zeros) raises `OverflowError`. -/
theorem C16_counterexample_headers_cost (w : World) (start cp : Nat) :
    blockHeadersCore true 2016 w start (10 ^ 400) cp = .error .overflowError := by
  unfold blockHeadersCore trueDivOverflows
  have : 50 * (2 ^ 1024 - 2 ^ 970) ≤ 10 ^ 400 := by decide +kernel
  simp [this]

/-- **F12.**  With only `gaierror` caught, a host whose IDNA encoding fails
(`{"hosts": {"a..b": {}}}`) escapes from `server.add_peer` as `UnicodeError`. -/
theorem C16_counterexample_add_peer :
    (execAddPeerWith ["gaierror"] exWorld {} (.obj [("hosts", .obj [("a..b", .obj [])])])).2 =
      .error .unicodeError := by
  simp [execAddPeerWith, exWorld, firstHost, lookupJ, PyExc.name]

/-- **F14.**  Without the check, `target_type` is whatever the client sent — e.g. `NaN`, which the
reply encoder emits as the bare token `NaN` (not JSON), or a list nested ~1490 deep, on which
encoding the reply raises `RecursionError` outside any handler. -/
theorem C16_counterexample_tsc_echo (ios : String → Option Int) (tx : J) (t : Bytes)
    (ht : assertTxHash tx = .ok t) :
    parseGetTscMerkleWith false ios [some tx, some (.int 0), none, some (.float .nan)] =
      .ok (.getTscMerkle t 0 false (.float .nan)) := by
  simp [parseGetTscMerkleWith, ht, nonNegativeInteger, nonNegativeIntegerWith, pyInt, eqStr]

/-- … and the hypothesis of that statement is satisfiable: a 32-byte hex string is a tx hash -/
example : (match assertTxHash
      (.str "00112233445566778899aabbccddeeff00112233445566778899AABBCCDDEEFF") with
    | .ok t => t.length == 32
    | .error _ => false) = true := by decide +kernel

end EV.Rpc
