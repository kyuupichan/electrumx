import EV.Proofs.CarrierLoop
import EV.Props.RxScenario

/-!
# C07 / C10, the block side of "every change is carried"

C07 ("subscribers converge on the true status and tip") and C10 ("answers served to clients are
never stale once quiescent") are proved over the coherence model `EV/Model/System.lean`, in which a
`change x` event bumps the true version of script hash `x` AND puts `x` into the `carrier` (the
touched sets travelling `BlockProcessor.touched` → `Notifications.on_block` →
`SessionManager._notify_sessions`); that every change is carried is an assumption there.  This file
proves its block side over `EV.SyncLoopT`:

  "Whenever the block processor tells the notification layer a height, the touched set it hands
  over contains every script hash whose confirmed history or set of unspent outputs differs from
  what it was when the block processor last handed a set over — or, the first time, from what it
  was when the server finished catching up (no session exists before that).  This holds for every
  batching of the blocks, every placement of cache flushes, and any reorganisations in between."

What a client can read at a told point is `confState` of the chain at that point
(`C07carrier_reads`); from the hand-over on, `C20_no_loss` / `C20_complete`; the mempool side is
`C08_touched` / `C08_touched_handed_over`.
Suite `sync` replays the event trace of the real `fetch_and_process_blocks` task on `EV.SyncLoopT`
and compares, at every `Notifications.on_block` call, the height and the touched set handed over (as
sets), and the three heights after every event.
-/
namespace EV.SyncLoopT
open EV.Index EV.Spec EV.SyncLoop

/-- **Every confirmed change made by a block is in the block's touched list** (any chain, any
block; no validity needed: the specification's touched list of a tx is the script hashes of what it
spends and creates). -/
theorem C07carrier_block (act : Nat) (chain : List Block) (b : Block) (hx : HashX)
    (h : confState act chain hx ≠ confState act (chain ++ [b]) hx) : hx ∈ touchedBy act chain b :=
  confState_change_advance act chain b hx h

/-- …and every confirmed change made by backing the last block out is in that block's list. -/
theorem C07carrier_backout (act : Nat) (chain : List Block) (b : Block) (hx : HashX)
    (h : confState act (chain ++ [b]) hx ≠ confState act chain hx) : hx ∈ touchedBy act chain b :=
  confState_change_backout act chain b hx h

/-- `confState` is what the specification-level observables of `C01_observables` are made of:
a limited history is a prefix of `history`, the UTXO rows are `utxos`. -/
theorem C07carrier_confState (act : Nat) (chain : List Block) (hx : HashX) :
    (confState act chain hx).txnums = historyOf (specChain act chain) hx ∧
    (∀ limit, historyPairs (specChain act chain) hx limit =
      match limit with
      | none => (confState act chain hx).history
      | some k => (confState act chain hx).history.take k) ∧
    (confState act chain hx).utxos = (specChain act chain).utxos.filter (·.hx == hx) := by
  refine ⟨rfl, ?_, rfl⟩
  intro limit
  cases limit with
  | none => rfl
  | some k => exact historyPairs_limit _ hx k

/-- **`advance_block` carries.**  In an invariant state of `chain`, `advance_block` of a valid next
block appends exactly the block's touched list; so afterwards `touched` contains what it contained
before and every script hash whose client-visible confirmed state the block changed. -/
theorem C07carrier_advance {cfg : Cfg} {daemonH : Int} {chain : List Block} {s s' : Sys} {b : Block}
    (inv : FullInv cfg chain s) (hv : ValidNext cfg chain b)
    (h : advance cfg daemonH s b = .ok s') :
    s'.m.touched = s.m.touched ++ touchedBy cfg.act chain b ∧
    (∀ hx ∈ s.m.touched, hx ∈ s'.m.touched) ∧
    (∀ hx, confState cfg.act chain hx ≠ confState cfg.act (chain ++ [b]) hx → hx ∈ s'.m.touched) :=
  ⟨advance_touched inv hv h, advance_carries inv hv h⟩

/-- **`backup_block` carries.**  In a fully flushed invariant state of `pre ++ [b]` whose tip
height is retained (the hypotheses of `C03run_backup`), a successful back-out of `b` leaves a
`touched` that contains what it contained before, every script hash of the block's touched list,
and so every script hash whose client-visible confirmed state the back-out changed. -/
theorem C07carrier_backup {cfg : Cfg} {pre : List Block} {b : Block} {K : List Nat} {s s' : Sys}
    {es : List Effect}
    (inv : FullInv' cfg (pre ++ [b]) K s) (hfl : s.m.dbst.height = s.m.st.height)
    (hpre : pre ≠ []) (hk : pre.length ∈ K) (h : backupFull cfg s b = .ok (es, s')) :
    (∀ hx ∈ s.m.touched, hx ∈ s'.m.touched) ∧
    (∀ hx ∈ touchedBy cfg.act pre b, hx ∈ s'.m.touched) ∧
    (∀ hx, confState cfg.act (pre ++ [b]) hx ≠ confState cfg.act pre hx → hx ∈ s'.m.touched) :=
  backup_carries inv hfl hk h

/-- flushes of either kind leave `touched` alone -/
theorem C07carrier_flush {s s' : Sys} {fu : Bool} (h : flush s fu = .ok s') :
    s'.m.touched = s.m.touched :=
  flush_touched h

/-- **Where the set is emptied** (the model's `step`, spelled out): a `batchEnd` empties it exactly
while the server has not caught up; the first `on_caught_up` hands nothing over and leaves it
alone; every later one hands over the whole set and empties it. -/
theorem C07carrier_resets (cfg : Cfg) (l l' : Loop) :
    (step cfg l .batchEnd = .ok (l', none) →
      l'.s.m.touched = (if l.caughtUp then l.s.m.touched else [])) ∧
    (∀ o, step cfg l .caughtUp = .ok (l', some o) →
      match o with
      | .first s => l.caughtUp = false ∧ l'.caughtUp = true ∧ l'.s = s
      | .told h T s => l.caughtUp = true ∧ T = s.m.touched ∧ h = s.m.st.height ∧
          l'.s.m.touched = []) := by
  constructor
  · intro h
    simp only [step, Except.ok.injEq, Prod.mk.injEq, and_true] at h
    subst h
    cases l.caughtUp <;> rfl
  · intro o h
    rw [step_caughtUp_eq] at h
    split at h
    · cases h
    · split at h
      · next hc => cases h; exact ⟨hc, rfl, rfl, rfl⟩
      · next hc => cases h; exact ⟨Bool.eq_false_iff.mpr hc, rfl, rfl⟩

/-- **C07 carrier (the loop theorem).**  For EVERY valid event list from the empty index — any
batching of the blocks, any history-only / full flushes requested between them, `on_caught_up`
calls anywhere, `reorg_chain` calls anywhere backing out any admissible number of blocks (each is
the tip at that moment, above height 0, with retained undo information: `ValidEvs`) — the task
never fails, and the emitted items (the first `on_caught_up`, then every
`Notifications.on_block(touched, height)`), paired with the surviving chains at their moments
(`chainsOf`, computed from the events alone), satisfy `Carried`:

  * at every item the index is a fully flushed invariant state of exactly that chain (up to
    `first_sync` flags) and a told height is the height of that chain (`OutOK`);
  * the first item is the first `on_caught_up`, all later ones are told points;
  * the touched set of every told point covers (`Cov`) every script hash whose client-visible
    confirmed state differs between the previous item's chain and this one's. -/
theorem C07carrier_loop (cfg : Cfg) (evs : List Ev) (hv : ValidEvs cfg {} evs) :
    ∃ (l : Loop) (ocs : List (Out × List Block)), run cfg {} evs = .ok (l, ocs.map (·.1)) ∧ ocs.map (·.2) = chainsOf cfg {} evs ∧
      Carried cfg false [] ocs := by
  obtain ⟨l, ocs, h1, h2, h3, -⟩ := run_inv evs (lInv_init cfg) hv
  exact ⟨l, ocs, h1, h2, h3⟩

/-- **Two consecutive items.**  Whenever an item emitted while the surviving chain was `c1` (the
first `on_caught_up` or a told point) is directly followed by a told point
`Notifications.on_block(T, ht)` emitted while the surviving chain was `c2`: every script hash whose
client-visible confirmed state differs between `c1` and `c2` is in `T`. -/
theorem C07carrier_consecutive (cfg : Cfg) (evs : List Ev) (hv : ValidEvs cfg {} evs) :
    ∃ (l : Loop) (ocs : List (Out × List Block)), run cfg {} evs = .ok (l, ocs.map (·.1)) ∧ ocs.map (·.2) = chainsOf cfg {} evs ∧
      ∀ (i : Nat) (o1 : Out) (c1 : List Block) (ht : Int) (T : List HashX) (s : Sys) (c2 : List Block),
        ocs[i]? = some (o1, c1) → ocs[i + 1]? = some (.told ht T s, c2) →
        ∀ hx, confState cfg.act c1 hx ≠ confState cfg.act c2 hx → hx ∈ T := by
  obtain ⟨l, ocs, h1, h2, h3⟩ := C07carrier_loop cfg evs hv
  exact ⟨l, ocs, h1, h2, carried_consecutive h3⟩

/-- **The first item is the catch-up, everything after it is told.**  So the first told point's
set is relative to the chain at the moment `caught_up` was set (by `C07carrier_consecutive` with
`i = 0`), and nothing is told before the server has caught up. -/
theorem C07carrier_first (cfg : Cfg) (evs : List Ev) (hv : ValidEvs cfg {} evs) :
    ∃ (l : Loop) (ocs : List (Out × List Block)), run cfg {} evs = .ok (l, ocs.map (·.1)) ∧
      (∀ o c, ocs[0]? = some (o, c) → ∃ s, o = .first s) ∧
      (∀ i o c, ocs[i + 1]? = some (o, c) → ∃ ht T s, o = .told ht T s) := by
  obtain ⟨l, ocs, h1, -, h3⟩ := C07carrier_loop cfg evs hv
  refine ⟨l, ocs, h1, ?_⟩
  cases ocs with
  | nil => exact ⟨fun o c h => by simp at h, fun i o c h => by simp at h⟩
  | cons y r =>
    obtain ⟨o0, c0⟩ := y
    refine ⟨fun o c h0 => ?_, fun i o c hi => ?_⟩
    · obtain ⟨rfl, -⟩ := Prod.mk.inj (Option.some.inj h0)
      cases o0 with
      | first s => exact ⟨s, rfl⟩
      | told ht T s => exact absurd h3.1 (by simp)
    · rw [List.getElem?_cons_succ] at hi
      exact carried_true_told h3.tail (o, c) (List.mem_of_getElem? hi)

theorem readPath_setFS (s : Sys) (f1 f2 f3 : Bool) :
    (∀ hx, allUtxos (setFS s f1 f2 f3) hx = allUtxos s hx) ∧
    (∀ hx limit, limitedHistory (setFS s f1 f2 f3) hx limit = limitedHistory s hx limit) := by
  have hfs : ∀ n, fsTxHash (setFS s f1 f2 f3) n = fsTxHash s n :=
    fsTxHash_agree (uAgree_setFS s f1 f2 f3)
  constructor
  · intro hx; simp only [allUtxos, hfs]; rfl
  · intro hx limit; simp only [limitedHistory, hfs]; rfl

/-- **What clients read at the emitted items is `confState` of the paired chains.**  At every item
of a valid run (so from the moment sessions can exist, at every told point), `all_utxos` of every
script hash returns (up to order) the rows of `(confState … c hx).utxos`, `limited_history`
unlimited returns `(confState … c hx).history` and with a limit its prefix, and a told height is
the height of `c`. -/
theorem C07carrier_reads (cfg : Cfg) (evs : List Ev) (hv : ValidEvs cfg {} evs) :
    ∃ (l : Loop) (ocs : List (Out × List Block)), run cfg {} evs = .ok (l, ocs.map (·.1)) ∧ ocs.map (·.2) = chainsOf cfg {} evs ∧
      ∀ o c, (o, c) ∈ ocs →
        (∀ hx, ∃ rows, allUtxos o.sys hx = some rows ∧
          rows.Perm ((confState cfg.act c hx).utxos.map
            (fun u => ⟨u.txnum, u.idx, u.txid, u.height, u.value⟩))) ∧
        (∀ hx, limitedHistory o.sys hx none = some (confState cfg.act c hx).history) ∧
        (∀ hx k, limitedHistory o.sys hx (some k) = some ((confState cfg.act c hx).history.take k)) ∧
        (∀ ht T s, o = .told ht T s → ht = (c.length : Int) - 1) := by
  obtain ⟨l, ocs, h1, h2, h3⟩ := C07carrier_loop cfg evs hv
  refine ⟨l, ocs, h1, h2, ?_⟩
  intro o c hm
  obtain ⟨⟨s0, f1, f2, f3, hs, inv, hfl⟩, hht⟩ := h3.all_outOK (o, c) hm
  obtain ⟨hu, hh, -, -⟩ := C01_observables inv hfl
  obtain ⟨ru, rh⟩ := readPath_setFS s0 f1 f2 f3
  rw [hs]
  refine ⟨fun hx => ?_, fun hx => ?_, fun hx k => ?_, fun ht T s ho => ?_⟩
  · rw [ru]; exact hu hx
  · rw [rh]; exact hh hx none
  · rw [rh, hh hx (some k)]; exact congrArg some (historyPairs_limit _ hx k)
  · subst ho; exact hht

/-- **Forward runs** (no `reorg` event): the chains of the emitted items are prefixes of one
another in order of emission — told heights `h1 ≤ h2` with chains `c1 <+: c2`. -/
theorem C07carrier_forward (cfg : Cfg) (evs : List Ev) (hf : Forward evs) :
    (chainsOf cfg {} evs).Pairwise (· <+: ·) :=
  (List.pairwise_cons.mp (chainsOf_forward cfg evs {} hf)).2

/-! Non-vacuity, on the blocks and the event list `cxEvs` of `EV/Props/RxScenario.lean`. -/

theorem cxEvs_valid : ValidEvs rxCfg {} cxEvs := by decide +kernel

example : ValidEvs rxCfg {} cxEvs := cxEvs_valid

example : chainsOf rxCfg {} cxEvs = [[rxB0], [rxB0, rxB1], [rxB0, rxB1', rxB2]] := by decide +kernel

def outView : Out → Option (Int × List HashX)
  | .first _ => none
  | .told h T _ => some (h, T)

/-- what the run emits: the first catch-up, then height 1 with the script hashes of `rxB1`, then
    height 2 with those of the back-out of `rxB1` and of the two new blocks -/
example : (match run rxCfg {} cxEvs with
           | .ok (_, outs) => outs.map outView
           | .error _ => []) = [none, some (1, [1, 2]), some (2, [2, 1, 4, 3, 3, 1, 1])] := by
  decide +kernel

/-- the premise of `C07carrier_consecutive` is inhabited non-trivially: script hash 2 has a
    history entry and an unspent output on `[rxB0, rxB1]` and neither on `[rxB0, rxB1', rxB2]`
    (it is reported: by the back-out); script hash 4's output is spent by the new branch -/
example : confState rxCfg.act [rxB0, rxB1] 2 ≠ confState rxCfg.act [rxB0, rxB1', rxB2] 2 ∧
    confState rxCfg.act [rxB0, rxB1] 4 ≠ confState rxCfg.act [rxB0, rxB1', rxB2] 4 ∧
    confState rxCfg.act [rxB0, rxB1] 7 = confState rxCfg.act [rxB0, rxB1', rxB2] 7 := by decide +kernel

/-- …and relative to the catch-up chain for the first told point -/
example : confState rxCfg.act [rxB0] 1 ≠ confState rxCfg.act [rxB0, rxB1] 1 ∧
    touchedBy rxCfg.act [rxB0] rxB1 = [1, 2] := by decide +kernel

/-- a sibling of `rxB1` that spends the same output with another transaction -/
def cxB1s : Block := ⟨9, 7, 102, 82, [⟨15, [⟨11, 0⟩], [⟨50, 5, .normal⟩]⟩]⟩

/-- a history that is unchanged as tx numbers but changed as (hash, height) pairs — tx number 1 is
    `rxB1`'s transaction on one branch and `cxB1s`'s on the other — is a change too: `confState`
    compares both (and the script hash is in the touched lists of both blocks) -/
example : (confState rxCfg.act [rxB0, rxB1] 1).txnums = (confState rxCfg.act [rxB0, cxB1s] 1).txnums ∧
    (confState rxCfg.act [rxB0, rxB1] 1).history ≠ (confState rxCfg.act [rxB0, cxB1s] 1).history ∧
    1 ∈ touchedBy rxCfg.act [rxB0] rxB1 ∧ 1 ∈ touchedBy rxCfg.act [rxB0] cxB1s := by
  decide +kernel

/-- the hypotheses of `C07carrier_backup` are satisfiable (`C03run.lean`), and so are those of
    `C07carrier_advance`: the run theorems produce such states -/
example : ∃ s, FullInv rxCfg [rxB0] s ∧ ValidNext rxCfg [rxB0] rxB1 := by
  obtain ⟨s, -, ti⟩ := trackInv_run [.adv rxB0 0] (trackInv_init rxCfg) (by decide)
  exact ⟨s, ti.inv.base, by decide⟩

example : Forward (cxEvs.take 6) ∧ ¬ Forward cxEvs := by decide +kernel

/-- while the server has not caught up the set is dropped at the end of every batch and nothing
    is told: after `rxB0`, the end of its batch and `rxB1`, the set holds `rxB1`'s script hashes
    only (script hash 4 of `rxB0` is gone) -/
example : (match run rxCfg {} [.block rxB0 0 none, .batchEnd, .block rxB1 1 none] with
           | .ok (l, outs) => (outs.length, l.s.m.touched)
           | .error _ => (7, [])) = (0, [1, 2]) := by decide +kernel

end EV.SyncLoopT
