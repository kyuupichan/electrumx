import EV.Proofs.IndexRunWindow
import EV.Props.RxScenario

/-!
# C03 / C15 over whole runs — back-outs and restarts are run operations

C03: "After any reorganisation the index equals a fresh index of the surviving chain … every
observable of the index - UTXOs and balances, histories, headers, per-block transaction hashes,
transaction/UTXO counts, chain size and tip - is identical to what a server that only ever saw the
final chain reports.  No trace of an orphaned block remains."  (forks of any depth within the reorg
limit, several times in a row)

C15: "After the server has caught up with the daemon, any reorganisation replacing up to the
configured reorg limit of most recent blocks can be carried out, because undo information exists
for each of them, whether those blocks were indexed during initial sync, while caught up, or before
a restart; undo information older than the window is removed on start-up."

Run operations `IOp2` = advance | flush | backup (`backup_block` + `flush_backup`) | reopen (`_open_dbs` on
the persistent part, memory dropped, in ANY state: a restart between flushes falls back to the last UTXO
flush).  `FullInv'` adds to `FullInv` a ghost set `K` of *retained heights*, a function of the operation
history (`Track`), whose undo information (`undoLookup`: last unflushed entry, else the `U` row) is exactly
`blockUndo` of the block.  All lie below the tip: `U` rows at or above it, such as the one an orphaned block
leaves behind (N2), are unconstrained; holes left by falling daemon heights (F10) are heights missing from
`K`.  A back-out is admissible (`BackupOk`) iff the state is fully flushed (the real code asserts it;
`reorg_chain` flushes first), the block is the tip (`reorg_chain` checks the hash), the tip is above height
0 (asserted too) and the tip height is retained.
Model: `EV/Model/Index.lean`, compared with the code by suites `index` and `sync`.
-/
namespace EV.Index
open EV.Spec

/-- **C03 (whole-run refinement with reorganisations and restarts).**  For EVERY operation list
that is valid w.r.t. the evolving chain — each `adv b dH` is a valid next block of the surviving
chain (`ValidNext`: links to the tip, `ValidTxs`), each `backup b` is admissible (`BackupOk`);
flushes of either kind and restarts anywhere — no operation fails and the final state satisfies the
extended invariant for the SURVIVING chain `chainOf2 [] 0 ops` (advances append, back-outs pop, a
restart falls back to the blocks of the last full flush / back-out): UTXO representation,
histories, tx-number tables and meta files, tip, counters, chain size, retained undo information —
with no reference to any orphaned or lost block. -/
theorem C03run_refinement (cfg : Cfg) (ops : List IOp2) (hv : ValidOps2 cfg {} ops) :
    ∃ s, runOps2 cfg {} ops = .ok s ∧
      FullInv' cfg (chainOf2 [] 0 ops) (Track.run cfg {} ops).kept s := by
  obtain ⟨s, h1, ti⟩ := trackInv_run ops (trackInv_init cfg) hv
  exact ⟨s, h1, ti.inv_run⟩

/-- **…after every step**, not only at the end of the run (several reorganisations in a row,
each of any admissible depth). -/
theorem C03run_every_step (cfg : Cfg) (ops : List IOp2) (hv : ValidOps2 cfg {} ops) (k : Nat) :
    ∃ s, runOps2 cfg {} (ops.take k) = .ok s ∧
      FullInv' cfg (chainOf2 [] 0 (ops.take k)) (Track.run cfg {} (ops.take k)).kept s :=
  (trackInv_run_prefix ops (trackInv_init cfg) hv k).imp fun _ h => ⟨h.1, h.2.inv_run⟩

/-- **One step each**, from any invariant state (the induction step of the run theorem). -/
theorem C03run_steps {cfg : Cfg} {t : Track} {s : Sys} (ti : TrackInv cfg t s) (op : IOp2)
    (hok : OkOp cfg t op) :
    ∃ s', stepOp2 cfg s op = .ok s' ∧ TrackInv cfg (t.step cfg op) s' :=
  trackInv_step ti op hok

/-- **C03 (`backup_block` + `flush_backup` is exact on the whole index).**  In a fully flushed
invariant state of `pre ++ [b]` (`hfl`; the real code asserts it) with `pre` non-empty (the real
code refuses to back out height 0) whose tip height is retained (`hk`: the undo row is the one
written for `b`), backing out `b` succeeds with exactly the two batches of `flush_backup` and leaves
a fully flushed invariant state of `pre`: files and pointers, tx counts, histories, UTXO rows, state
record, tip, UTXO count and chain size are those of an index of `pre`; the heights below stay
retained. -/
theorem C03run_backup {cfg : Cfg} {pre : List Block} {b : Block} {K : List Nat} {s : Sys}
    (inv : FullInv' cfg (pre ++ [b]) K s) (hfl : s.m.dbst.height = s.m.st.height)
    (hpre : pre ≠ []) (hk : pre.length ∈ K) :
    ∃ e1 e2 s', backupFull cfg s b = .ok ([e1, e2], s') ∧
      FullInv' cfg pre (keptAfterBackup pre.length K) s' ∧
      s'.m.dbst.height = s'.m.st.height :=
  fullInv'_backup inv hfl hpre hk

/-- **C15 (refusal).**  In a flushed invariant state above height 0, a back-out at a height without
an undo row is refused with `ChainError` before anything is changed. -/
theorem C03run_backup_refused {cfg : Cfg} {chain : List Block} {K : List Nat} {s : Sys}
    (inv : FullInv' cfg chain K s) (hfl : s.m.dbst.height = s.m.st.height)
    (hlen : 2 ≤ chain.length) (hnone : alookup (chain.length - 1) s.p.undo = none) (b : Block) :
    backupFull cfg s b = .error .chainError :=
  fullInv'_backup_refused inv hfl hlen hnone b

/-- **C15 / C04 (a restart).**  `_open_dbs` on the persistent part of ANY invariant state (all memory
dropped) succeeds — `_read_tx_counts`' assertions hold — and yields a fully flushed invariant state
of the chain as of the last UTXO flush (`clear_excess` removes exactly the history rows written
after it; nothing, also right after a back-out, when the state was fully flushed): the committed
retained heights `≥ height − reorgLimit + 1` stay retained (rows inside the window survive the
restart), older undo rows are pruned.  After a full flush the committed chain is the whole chain. -/
theorem C03run_reopen {cfg : Cfg} {chain : List Block} {K : List Nat} {s : Sys}
    (inv : FullInv' cfg chain K s) :
    ∃ es s', openDbs cfg s.p false none = some (es, s') ∧
      FullInv' cfg (chain.take (s.m.dbst.height + 1).toNat)
        (keptAfterReopen cfg (s.m.dbst.height + 1).toNat K) s' ∧
      s'.m.dbst.height = s'.m.st.height ∧ s'.m.dbst.height = s.m.dbst.height :=
  fullInv'_reopen inv

/-- …a clean restart (fully flushed state) keeps the whole chain -/
theorem C03run_reopen_clean {cfg : Cfg} {chain : List Block} {K : List Nat} {s : Sys}
    (inv : FullInv' cfg chain K s) (hfl : s.m.dbst.height = s.m.st.height) :
    ∃ es s', openDbs cfg s.p false none = some (es, s') ∧
      FullInv' cfg chain (keptAfterReopen cfg chain.length K) s' ∧
      s'.m.dbst.height = s'.m.st.height := by
  obtain ⟨es, s', h1, h2, h3, -⟩ := fullInv'_reopen inv
  have hall : (s.m.dbst.height + 1).toNat = chain.length := by
    rw [hfl]; exact inv.base.files.stK
  rw [hall, List.take_length] at h2
  exact ⟨es, s', h1, h2, h3⟩

/-- **C03 (every observable is the specification's of the surviving chain).**  After any valid run
followed by a full flush: `all_utxos` (hence balances), `limited_history` for every limit, UTXO and
transaction counts, height, tip, chain size, `read_headers`, `fs_tx_hashes_at_blockheight` answer
exactly what the specification of the SURVIVING chain says. -/
theorem C03run_observables (cfg : Cfg) (ops : List IOp2) (hv : ValidOps2 cfg {} ops) :
    ∃ s, runOps2 cfg {} (ops ++ [.flush true]) = .ok s ∧
      (∀ hx, ∃ rows, allUtxos s hx = some rows ∧
        rows.Perm (((specChain cfg.act (chainOf2 [] 0 ops)).utxos.filter (·.hx == hx)).map
          (fun u => ⟨u.txnum, u.idx, u.txid, u.height, u.value⟩))) ∧
      (∀ hx limit, limitedHistory s hx limit =
        some (historyPairs (specChain cfg.act (chainOf2 [] 0 ops)) hx limit)) ∧
      s.m.st.utxoCount = ((specChain cfg.act (chainOf2 [] 0 ops)).utxos.length : Int) ∧
      s.m.st.txCount = (specChain cfg.act (chainOf2 [] 0 ops)).txs.length ∧
      s.m.st.height = ((chainOf2 [] 0 ops).length : Int) - 1 ∧
      s.m.st.tip = ((chainOf2 [] 0 ops).getLast?.map (·.hash)).getD 0 ∧
      s.m.st.chainSize = ((chainOf2 [] 0 ops).map (·.size)).sum ∧
      (∀ start count, readHeaders s start count =
        (((chainOf2 [] 0 ops).map (·.header)).drop start).take
          (min (count : Int) (((chainOf2 [] 0 ops).length : Int) - start)).toNat) ∧
      (∀ (h : Nat) (b : Block), (chainOf2 [] 0 ops)[h]? = some b →
        txHashesAt s h = some (b.txs.map (·.id))) := by
  obtain ⟨s, h1, inv, hf⟩ := fullInv'_run_flushed ops (trackInv_init cfg) hv
  exact ⟨s, h1, observables_of_fullInv' inv hf⟩

/-- **C03 (identical to what a server that only ever saw the final chain reports).**  After any
valid run with reorganisations and restarts, followed by a full flush, the index answers every
query exactly like the index `s0` of `C01run_end_to_end` for a run that only ever advanced the
surviving chain (which is a valid run): same histories for every script hash and limit, same UTXOs
up to row order, same counters, height, tip and chain size, same headers, same per-block
transaction hashes. -/
theorem C03run_fresh_index (cfg : Cfg) (ops : List IOp2) (hv : ValidOps2 cfg {} ops) :
    ∃ s s0, runOps2 cfg {} (ops ++ [.flush true]) = .ok s ∧
      ValidOps cfg [] (advOnly (chainOf2 [] 0 ops)) ∧
      chainOf (advOnly (chainOf2 [] 0 ops)) = chainOf2 [] 0 ops ∧
      runOps cfg {} (advOnly (chainOf2 [] 0 ops) ++ [.flush true]) = .ok s0 ∧
      SameAnswers s s0 := by
  obtain ⟨s, h1, inv, hf⟩ := fullInv'_run_flushed ops (trackInv_init cfg) hv
  obtain ⟨s0, h3, h2, h4⟩ := fresh_of_flushed inv hf
  exact ⟨s, s0, h1, h3, chainOf_advOnly _, h2, h4⟩

/-- **C15 (which heights are retained).**  Over a stretch without back-outs (advances, flushes,
restarts — clean or losing unflushed blocks) that ends at a height `≤ H` and during which no daemon
height exceeded `H`, every height `h` above `H − reorgLimit` that is on the chain at the end, and
was retained before the stretch or not yet indexed then, is retained at the end — whether it was
indexed during initial sync, while caught up, or before a restart. -/
theorem C15run_kept (cfg : Cfg) (H : Int) (ops : List IOp2) (t : Track) (hnb : NoBackup ops)
    (hd : DaemonLe H ops) (hdb : t.dbLen ≤ t.chain.length)
    (hH : ((t.run cfg ops).chain.length : Int) - 1 ≤ H) (h : Nat)
    (hw : H - cfg.reorgLimit < h) (hfin : h < (t.run cfg ops).chain.length)
    (hin : h < t.chain.length → h ∈ t.kept) :
    h ∈ (t.run cfg ops).kept :=
  kept_window cfg H ops t hnb hd hdb hH h hw hfin hin

/-- **C15 (any reorganisation of up to `reorgLimit` most recent blocks can be carried out).**
Index any valid back-out-free run from the empty index (advances with any daemon heights `≤ H`,
flushes of either kind, restarts anywhere — clean or losing unflushed blocks) ending with `H + 1`
blocks, i.e. caught up at height `H`.  Then a full flush followed by `k` consecutive back-outs, tip first, for ANY
`k ≤ reorgLimit` with `k ≤ H` (height 0 cannot be backed out), is a valid run: none of the
back-outs fails, and the result is a fully flushed invariant state of the first `H + 1 − k` blocks. -/
theorem C15run_window (cfg : Cfg) (ops : List IOp2) (hv : ValidOps2 cfg {} ops) (hnb : NoBackup ops)
    (H : Nat) (hH : (chainOf2 [] 0 ops).length = H + 1) (hd : DaemonLe H ops)
    (k : Nat) (hk1 : k ≤ cfg.reorgLimit) (hk2 : k ≤ H) :
    ValidOps2 cfg {} (ops ++ [.flush true] ++ backOuts (chainOf2 [] 0 ops) k) ∧
    ∃ s' K', runOps2 cfg {} (ops ++ [.flush true] ++ backOuts (chainOf2 [] 0 ops) k) = .ok s' ∧
      FullInv' cfg ((chainOf2 [] 0 ops).take (H + 1 - k)) K' s' ∧
      s'.m.dbst.height = s'.m.st.height :=
  reorg_window_run (trackInv_init cfg) ops hv hnb H hH hd k hk1 hk2
    (by intro h _ hlt; simp at hlt)

/-- …the same from any invariant state (so after earlier reorganisations too): heights of the
window that were indexed before the stretch must have been retained then. -/
theorem C15run_window_from {cfg : Cfg} {t : Track} {s : Sys} (ti : TrackInv cfg t s)
    (ops : List IOp2) (hv : ValidOps2 cfg t ops) (hnb : NoBackup ops) (H : Nat)
    (hH : (chainOf2 t.chain t.dbLen ops).length = H + 1) (hd : DaemonLe H ops)
    (k : Nat) (hk1 : k ≤ cfg.reorgLimit) (hk2 : k ≤ H)
    (hold : ∀ h, H + 1 - k ≤ h → h < t.chain.length → h ∈ t.kept) :
    ValidOps2 cfg t (ops ++ [.flush true] ++ backOuts (chainOf2 t.chain t.dbLen ops) k) ∧
    ∃ s' K', runOps2 cfg s (ops ++ [.flush true] ++ backOuts (chainOf2 t.chain t.dbLen ops) k) = .ok s' ∧
      FullInv' cfg ((chainOf2 t.chain t.dbLen ops).take (H + 1 - k)) K' s' ∧
      s'.m.dbst.height = s'.m.st.height :=
  reorg_window_run ti ops hv hnb H hH hd k hk1 hk2 hold

/-! Non-vacuity and counterexamples, on the blocks `rxB0`, `rxB1`, `rxB1'`, `rxB2` of
`EV/Props/RxScenario.lean` (reorg limit 2). -/

/-- a restart that loses a block (the second: not committed), a back-out, an advance of a different block
    at the same height, a clean restart and two back-outs in a row -/
def rxOps : List IOp2 :=
  [.adv rxB0 0, .flush true, .adv rxB1 1, .flush false, .reopen, .adv rxB1 1, .flush true,
   .backup rxB1, .adv rxB1' 1, .flush true, .reopen, .adv rxB2 2, .flush true, .backup rxB2,
   .backup rxB1']

theorem rxOps_valid : ValidOps2 rxCfg {} rxOps := by decide +kernel

example : ValidOps2 rxCfg {} rxOps := rxOps_valid

example : chainOf2 [] 0 rxOps = [rxB0] := by decide +kernel
example : chainOf2 [] 0 (rxOps.take 4) = [rxB0, rxB1] ∧ chainOf2 [] 0 (rxOps.take 5) = [rxB0] := by
  decide +kernel
example : chainOf2 [] 0 (rxOps.take 12) = [rxB0, rxB1', rxB2] := by decide +kernel
example : (Track.run rxCfg {} (rxOps.take 12)).kept = [2, 1, 0] := by decide +kernel

/-- the specification of the surviving chain after the first reorganisation: `rxB1`'s spend of
    output 0 is gone, `rxB1'`/`rxB2` are in -/
example : (specChain rxCfg.act (chainOf2 [] 0 (rxOps.take 12))).utxos = [⟨14, 0, 2, 2, 110, 1⟩] := by
  decide +kernel

/-- the hypotheses of `C03run_backup` / `C03run_reopen_clean` / `C03run_steps` are satisfiable -/
example : ∃ s, FullInv' rxCfg ([rxB0] ++ [rxB1]) [1, 0] s ∧ s.m.dbst.height = s.m.st.height ∧
    [rxB0] ≠ [] ∧ [rxB0].length ∈ [1, 0] := by
  obtain ⟨s, -, ti⟩ := trackInv_run_prefix rxOps (trackInv_init rxCfg) rxOps_valid 7
  exact ⟨s, ti.inv, ti.flushed (by decide +kernel), by decide +kernel, by decide +kernel⟩

/-- …and so is the hypothesis of `C03run_reopen` in a state with unflushed work (two blocks indexed,
    one committed) -/
example : ∃ s, FullInv' rxCfg [rxB0, rxB1] [1, 0] s ∧ s.m.dbst.height = 0 ∧ s.m.st.height = 1 := by
  obtain ⟨s, -, ti⟩ := trackInv_run_prefix rxOps (trackInv_init rxCfg) rxOps_valid 4
  exact ⟨s, ti.inv, ti.db, ti.inv.base.files.height⟩

/-- the hypotheses of `C03run_backup_refused`: an invariant flushed state of two blocks without an
    undo row at the tip (both blocks indexed while the daemon was far ahead) -/
example : ∃ s, FullInv' rxCfg [rxB0, rxB1] [] s ∧ s.m.dbst.height = s.m.st.height ∧
    alookup ([rxB0, rxB1].length - 1) s.p.undo = none := by
  refine ⟨match runOps2 rxCfg {} [.adv rxB0 10, .adv rxB1 10, .flush true] with
          | .ok s => s | .error _ => {}, ?_, by decide +kernel, by decide +kernel⟩
  obtain ⟨s, h, ti⟩ := trackInv_run [.adv rxB0 10, .adv rxB1 10, .flush true] (trackInv_init rxCfg)
    (by decide +kernel)
  rw [h]
  exact ti.inv

/-- the hypotheses of `C15run_window`: a back-out-free valid run with a clean restart and a restart
    that loses a block, daemon heights `≤ H = 2`, and `k = 2 = reorgLimit ≤ H` -/
def rxSync : List IOp2 :=
  [.adv rxB0 0, .flush true, .reopen, .adv rxB1' 2, .flush false, .reopen, .adv rxB1' 1,
   .adv rxB2 2]

example : ValidOps2 rxCfg {} rxSync ∧ NoBackup rxSync ∧ (chainOf2 [] 0 rxSync).length = 2 + 1 ∧
    DaemonLe (2 : Nat) rxSync ∧ 2 ≤ rxCfg.reorgLimit := by
  refine ⟨by decide +kernel, ?_, by decide +kernel, ?_, by decide +kernel⟩
  · intro b hb; simp [rxSync] at hb
  · intro b d hb
    simp only [rxSync, List.mem_cons, IOp2.adv.injEq, List.not_mem_nil, or_false, reduceCtorEq,
      false_or] at hb
    rcases hb with ⟨-, rfl⟩ | ⟨-, rfl⟩ | ⟨-, rfl⟩ | ⟨-, rfl⟩ <;> decide

example : backOuts (chainOf2 [] 0 rxSync) 2 = [.backup rxB2, .backup rxB1'] := by decide +kernel

theorem runOps2_okSysD {cfg : Cfg} {ops : List IOp2} (hv : ValidOps2 cfg {} ops) :
    runOps2 cfg {} ops = .ok (okSysD (runOps2 cfg {} ops)) := by
  obtain ⟨s, h, -⟩ := trackInv_run ops (trackInv_init cfg) hv
  rw [h]; rfl

/-- **F10 over a whole run** (the hypothesis `DaemonLe H` of `C15run_window` cannot be dropped):
reorg limit 2, blocks 0 and 1 indexed while the daemon showed height 10, the daemon's height then
falls and the server is caught up at height 1.  Block 1 is inside the window {0, 1}, yet its height
is not retained, the back-out is inadmissible, and the model (like the code) refuses it with
`ChainError`. -/
theorem C15run_counterexample_falling_daemon_height :
    (Track.run rxCfg {} [.adv rxB0 10, .adv rxB1 10, .flush true]).kept = [] ∧
    ¬ ValidOps2 rxCfg {} [.adv rxB0 10, .adv rxB1 10, .flush true, .backup rxB1] ∧
    okErr (runOps2 rxCfg {} [.adv rxB0 10, .adv rxB1 10, .flush true, .backup rxB1])
      = some .chainError := by
  decide +kernel

def rxStale (d : Int) : List IOp2 :=
  [.adv rxB0 0, .adv rxB1 1, .flush true, .backup rxB1, .adv rxB1' d, .flush true, .backup rxB1']

/-- **N2 over a whole run** (the clause "the tip height is retained" of `BackupOk` cannot be
weakened to "an undo row exists"): `backup_block` leaves the `U` row of the orphaned `rxB1` behind.
If the fork block `rxB1'` is indexed inside its window (`d = 1`) the row is overwritten, the run is
valid, and backing `rxB1'` out restores output 1 of `rxB0` (script hash 4, value 60).  If it is
indexed while the daemon is far ahead (`d = 10`) no undo list is kept, height 1 is not retained and
the back-out is inadmissible — and indeed the model (like the code, see
`integration/idxbackup-n2-replay.py`) does not refuse it but consumes the STALE row of `rxB1`:
no error, and output 1 of `rxB0` comes back with the script hash and value of output 0, so script
hash 4 has lost its UTXO and script hash 1 has two of value 50, while the specification of the
surviving chain `[rxB0]` has one UTXO each. -/
theorem C03run_counterexample_stale_undo_row :
    (ValidOps2 rxCfg {} (rxStale 1) ∧
      allUtxos (okSysD (runOps2 rxCfg {} (rxStale 1))) 4 = some [⟨0, 1, 11, 0, 60⟩]) ∧
    (¬ ValidOps2 rxCfg {} (rxStale 10) ∧
      (Track.run rxCfg {} ((rxStale 10).take 6)).kept = [0] ∧
      okErr (runOps2 rxCfg {} (rxStale 10)) = none ∧
      allUtxos (okSysD (runOps2 rxCfg {} (rxStale 10))) 4 = some [] ∧
      allUtxos (okSysD (runOps2 rxCfg {} (rxStale 10))) 1 =
        some [⟨0, 1, 11, 0, 50⟩, ⟨0, 0, 11, 0, 50⟩]) ∧
    chainOf2 [] 0 (rxStale 10) = [rxB0] ∧
    (specChain rxCfg.act [rxB0]).utxos = [⟨11, 0, 0, 0, 50, 1⟩, ⟨11, 1, 0, 0, 60, 4⟩] := by
  decide +kernel

end EV.Index
