import EV.Proofs.ShutdownTaskFrom
import EV.Props.C03run

/-!
# C06 at task level — the end state of a shutdown requested at any moment

"When shutdown is requested at any point of indexing (while fetching, mid-block, mid-flush,
mid-reorg, while idle), the server stops without corrupting its database: reopening it yields an
index equal to a clean index of the chain up to the stored height, and every block whose processing
had completed before the stop is included in that height."

`EV.ShutdownTask` (`EV/Model/ShutdownTask.lean`) models `fetch_and_process_blocks` as a transition
system over the index model: the outer task's control points, the shielded inner task of every
`run_with_lock` section, `state_lock`, the worker job (atomic at its end), `ok`,
`force_flush_arg`, `caught_up`, `reorg_count`, and ONE `cancel` event enabled in every state in
which the task has not ended (also between a job's end and the delivery of its result, whilst the
inner task still waits for the lock, and whilst the outer task's wake-up is already scheduled).
All theorems quantify over EVERY event sequence the model accepts from the initial state
(`run cfg {} evs = some st`): any chain, any batching, any number of blocks, flushes requested by
the cache-size loop, natural and forced reorganisations before the request, the request anywhere.

Environment hypothesis `EnvOk cfg {} (att st.log)` (for the theorems that need one): every block
whose advance job ran had valid transactions on top of the surviving chain (that it connects is
checked by the job itself); for every back-out job, the daemon served for the tip's hash the block
indexed under it, the tip was above height 0, and its undo information was retained (C15: the
reorganisation stays inside the window).  That the index is fully flushed whenever a back-out job
runs is NOT assumed — it is proved from the control flow and the mutex.

Tie to the code: suite `shutdown` replays the event trace of every real run (request injected at
every scheduling point of five phases; job kind and argument, lock acquisitions, deliveries,
control points of the outer task) on this model through `evdrv shutdowntask`: every event must be
accepted, the three heights must agree after every job, the task must end the same way, and the
model's store after `_open_dbs` must equal, row by row, the dump of the real reopened database.
-/
namespace EV.ShutdownTask
open EV.Index

/-- **C06 (a) — the jobs are serialised.**  In every reachable state the index is exactly the
result of applying, one after the other and in the order in which they ended, the worker jobs that
did not raise: no two jobs overlap, no job's effect is lost or applied twice, whatever the
interleaving of the request, the inner tasks and the environment.  (No hypothesis on the
environment.) -/
theorem C06task_sequential (cfg : Cfg) (evs : List Ev) (st : St) (h : run cfg {} evs = some st) :
    runOps2 cfg {} (okOps st.log) = .ok st.sys :=
  (inv_run h).seq

/-- **C06 — the task cannot end while a job is in flight.**  Once `fetch_and_process_blocks` has
returned (or died), no inner task exists and the lock is free: the handler has waited for the
section in flight at the request.  The "worker has drained" premise of the property is implied. -/
theorem C06task_drained (cfg : Cfg) (evs : List Ev) (st : St) (h : run cfg {} evs = some st)
    (hf : st.finished = true) : st.inner = none ∧ st.lock = false :=
  drained (inv_run h).shape hf

/-- **C06 (a) — `ok` at the handler.**  `ok` is false only if some job has raised: the handler's
`flush_if_safe` never skips the flush because of a job that was merely *in flight* at the request
(the handler's inner task gets the lock only after that job has returned and `ok` is true again). -/
theorem C06task_ok (cfg : Cfg) (evs : List Ev) (st : St) (h : run cfg {} evs = some st)
    (hok : st.ok = false) : ∃ e ∈ st.log, e.2 = false :=
  (inv_run h).err.ok hok

/-- **C06 (a) — the run is a valid sequential run.**  In a valid environment, in every reachable
state: the operations of the jobs that ended, in that order, are a `ValidOps2` list (in particular
every back-out found the index fully flushed, with the tip handed to it), none of them raised,
`ok` holds, and the index state is `runOps2` of that list. -/
theorem C06task_valid (cfg : Cfg) (evs : List Ev) (st : St) (h : run cfg {} evs = some st)
    (henv : EnvOk cfg {} (att st.log)) :
    ValidOps2 cfg {} (att st.log) ∧ runOps2 cfg {} (att st.log) = .ok st.sys ∧
      (∀ e ∈ st.log, e.2 = true) ∧ st.ok = true ∧ (st.outer = .died → st.log = []) :=
  valid_of_good (good_run (trackInv_init cfg) h henv)

/-- **C06 (a) — the shutdown flush is the last operation.**  When the task has returned, the log
is the log at the request, followed by what the section in flight at the request still did
(`Rem`: at most the rest of that one section — see `Rem`), followed by the handler's `flush(True)`,
which succeeded; or `ok` was false (a job had raised) and no flush was attempted.  (No hypothesis
on the environment.) -/
theorem C06task_final_flush (cfg : Cfg) (evs : List Ev) (st : St) (h : run cfg {} evs = some st)
    (hr : st.outer = .returned) :
    ∃ done, Rem st.innerAtCancel done ∧
      ((att st.log = att st.logAtCancel ++ done ++ [.flush true] ∧
          ∃ pre, st.log = pre ++ [(.flush true, true)]) ∨
       (st.ok = false ∧ att st.log = att st.logAtCancel ++ done)) :=
  (inv_run h).after.returned hr

/-- …in a valid environment the first alternative holds: the log ends with the successful
shutdown flush. -/
theorem C06task_final_flush_valid (cfg : Cfg) (evs : List Ev) (st : St)
    (h : run cfg {} evs = some st) (henv : EnvOk cfg {} (att st.log)) (hr : st.outer = .returned) :
    ∃ done, Rem st.innerAtCancel done ∧ att st.log = att st.logAtCancel ++ done ++ [.flush true] :=
  flushed_of_good (good_run (trackInv_init cfg) h henv) hr

/-- the surviving chain of a log: advances append, back-outs pop -/
def survivors (log : List (Op × Bool)) : List Block := chainOf2 [] 0 (att log)

theorem reopen_of_good {cfg : Cfg} {t0 : Track} {s0 : Sys} (ti0 : TrackInv cfg t0 s0) {st : St}
    (p : Inv s0 cfg st ∧ Good t0 cfg st.log) (hr : st.outer = .returned) :
    ∃ es s', openDbs cfg st.sys.p false none = some (es, s') ∧
      FullInv' cfg (chainOf2 t0.chain t0.dbLen (att st.log))
        (keptAfterReopen cfg (chainOf2 t0.chain t0.dbLen (att st.log)).length
          (Track.run cfg t0 (att st.log)).kept) s' ∧
      s'.m.dbst.height = s'.m.st.height := by
  have ti := trackInv_of_good ti0 p.1 p.2
  obtain ⟨done, -, hlog⟩ := flushed_of_good p hr
  have hfl : Fl (Track.run cfg t0 (att st.log)) := hlog ▸ fl_flushTrue cfg t0 _
  exact C03run_reopen_clean ti.inv_run (ti.flushed hfl)

/-- **C06 (b) — consistent, and exactly the finished work.**  In a valid environment, once the
task has returned: reopening the database (`_open_dbs` on the persistent part alone, all memory
dropped) succeeds, and every observable of the reopened index — UTXOs of every script hash (up to
row order), histories for every limit, UTXO and tx counts, height, tip, chain size, headers,
per-block tx hashes — is the specification's of `survivors st.log`: the chain of exactly the blocks
whose advance job had returned and that no back-out job removed.  The stored height is its length
minus one. -/
theorem C06task_reopen (cfg : Cfg) (evs : List Ev) (st : St) (h : run cfg {} evs = some st)
    (henv : EnvOk cfg {} (att st.log)) (hr : st.outer = .returned) :
    ∃ es s', openDbs cfg st.sys.p false none = some (es, s') ∧
      s'.m.dbst.height = ((survivors st.log).length : Int) - 1 ∧
      (∀ hx, ∃ rows, allUtxos s' hx = some rows ∧
        rows.Perm (((EV.Spec.specChain cfg.act (survivors st.log)).utxos.filter (·.hx == hx)).map
          (fun u => ⟨u.txnum, u.idx, u.txid, u.height, u.value⟩))) ∧
      (∀ hx limit, limitedHistory s' hx limit =
        some (EV.Spec.historyPairs (EV.Spec.specChain cfg.act (survivors st.log)) hx limit)) ∧
      s'.m.st.utxoCount = ((EV.Spec.specChain cfg.act (survivors st.log)).utxos.length : Int) ∧
      s'.m.st.txCount = (EV.Spec.specChain cfg.act (survivors st.log)).txs.length ∧
      s'.m.st.height = ((survivors st.log).length : Int) - 1 ∧
      s'.m.st.tip = ((survivors st.log).getLast?.map (·.hash)).getD 0 ∧
      s'.m.st.chainSize = ((survivors st.log).map (·.size)).sum ∧
      (∀ start count, readHeaders s' start count =
        (((survivors st.log).map (·.header)).drop start).take
          (min (count : Int) (((survivors st.log).length : Int) - start)).toNat) ∧
      (∀ (ht : Nat) (b : Block), (survivors st.log)[ht]? = some b →
        txHashesAt s' ht = some (b.txs.map (·.id))) := by
  obtain ⟨es, s', h1, inv', hf'⟩ :=
    reopen_of_good (trackInv_init cfg) (good_run (trackInv_init cfg) h henv) hr
  refine ⟨es, s', h1, ?_, observables_of_fullInv' inv' hf'⟩
  rw [hf', inv'.base.files.height]
  rfl

/-- **C06 (c) — kept work, and what a request during a reorganisation does.**  In a valid
environment, once the task has returned, compare the surviving chain at the moment of the request
(`survivors st.logAtCancel`: every block whose advance job had returned before the request and
that had not been backed out before it) with the stored chain (`survivors st.log`):

  * if no back-out job was in flight at the request (`pendingBackup = none`: the request came
    whilst fetching, idle, mid-advance, mid-flush, or between two back-outs of a reorganisation),
    the chain at the request is a prefix of the stored chain — every block finished before the
    request is at or below the stored height; the only block that can be added is the one whose
    advance was in flight;
  * if the back-out of block `b` was in flight (its section created; its job not yet returned),
    that back-out completes and the stored chain is the chain at the request without its tip: the
    orphaned blocks already backed out and `b` are gone, the orphaned blocks not yet reached stay
    indexed (the index is a consistent index of the old branch up to there — (b) — and the next
    start of the server detects the reorganisation again).

No further back-out and no further advance happens after the request: `reorg_chain` and
`advance_blocks` do not continue. -/
theorem C06task_kept_work (cfg : Cfg) (evs : List Ev) (st : St) (h : run cfg {} evs = some st)
    (henv : EnvOk cfg {} (att st.log)) (hr : st.outer = .returned) :
    (pendingBackup st.innerAtCancel = none → survivors st.logAtCancel <+: survivors st.log) ∧
    (∀ b, pendingBackup st.innerAtCancel = some b →
      survivors st.log = (survivors st.logAtCancel).dropLast) :=
  kept_of_good (good_run (trackInv_init cfg) h henv) hr

/-- the section in flight at the request is a well-formed section of the main flow (never the
    handler's own), so `Rem st.innerAtCancel` in the theorems above has no spurious alternatives -/
theorem C06task_inflight_wf (cfg : Cfg) (evs : List Ev) (st : St) (h : run cfg {} evs = some st) :
    ∀ i, st.innerAtCancel = some i → InnerWf i ∧ i.sec ≠ .safe :=
  (inv_run h).cancelWf

/-- **C06 — the server stops.**  In the handler (i.e. from the request on, until the task ends)
some step of an inner task or of the worker thread is always enabled — the handler cannot wait for
the lock forever, and the section in flight cannot wait for the handler —, and every continuation of
a run after the request contains at most `todo st ≤ 11` such steps: the section in flight ends
(at most: lock, advance job, delivery, flush job, delivery), then the handler's flush runs (lock,
job, delivery), then the task has ended (`todo` is an estimate from above, see `innerTodo`; these are
8 steps).  Events of the environment (cache pressure, `reorg`
RPCs) neither block nor prolong this.  (Fairness — worker threads and the event loop keep running —
is the only assumption; no hypothesis on the environment.) -/
theorem C06task_stops (cfg : Cfg) (evs : List Ev) (st : St) (h : run cfg {} evs = some st) :
    (st.outer = .handler → ∃ e, e.isWork = true ∧ (step cfg st e).isSome = true) ∧
    (st.cancelled = true → ∀ evs' st', run cfg st evs' = some st' →
      workCount evs' + todo st' ≤ todo st ∧ todo st ≤ 11) ∧
    (st.cancelled = true → todo st = 0 → st.finished = true) :=
  stops_of_shape cfg (inv_run h).shape

/-! ## non-vacuity

The blocks of `EV/Props/RxScenario.lean` (reorg limit 2; `rxB1` spends an output of `rxB0`).

`exMidAdvance`: two blocks fetched; the request arrives whilst `advance_block(rxB1)` is in a worker
thread; the cache-size loop requests a history-only flush before the job's result is delivered, so
the section in flight still runs that flush; then the handler's flush. -/

def exMidAdvance : List Ev :=
  [.begin, .fetched [rxB0, rxB1], .nextBlock, .innerStart, .jobEnd 1, .deliver, .resume,
   .nextBlock, .innerStart, .cancel, .jobEnd 1, .pressure false, .deliver, .jobEnd 0, .deliver,
   .hStart, .jobEnd 0, .deliver]

-- components of a run's result that have decidable equality (`St` derives none), for the examples
def attOf (r : Option St) : List IOp2 := match r with | some st => att st.log | none => []
def attCOf (r : Option St) : List IOp2 := match r with | some st => att st.logAtCancel | none => []
def innerCOf (r : Option St) : Option Inner := match r with | some st => st.innerAtCancel | none => none

example : outerOf (run rxCfg {} exMidAdvance) = some .returned := by decide +kernel
example : attOf (run rxCfg {} exMidAdvance) =
    [.adv rxB0 1, .adv rxB1 1, .flush false, .flush true] := by decide +kernel
example : attCOf (run rxCfg {} exMidAdvance) = [.adv rxB0 1] ∧
    innerCOf (run rxCfg {} exMidAdvance) = some (.job (.adv rxB1) (.adv rxB1)) := by decide +kernel
example : EnvOk rxCfg {} (attOf (run rxCfg {} exMidAdvance)) := by decide +kernel

/-! `exMidBackup` (`EV/Props/RxScenario.lean`): the request arrives after the back-out section of `rxB1` has
been created, before its inner task has even taken the lock. -/

example : outerOf (run rxCfg {} exMidBackup) = some .returned := by decide +kernel
example : attOf (run rxCfg {} exMidBackup) =
    [.adv rxB0 1, .adv rxB1 1, .flush true, .flush true, .backup rxB1, .flush true] := by decide +kernel
example : innerCOf (run rxCfg {} exMidBackup) = some (.wantLock (.backup rxB1)) := by decide +kernel
example : EnvOk rxCfg {} (attOf (run rxCfg {} exMidBackup)) := by decide +kernel
example : chainOf2 [] 0 (attCOf (run rxCfg {} exMidBackup)) = [rxB0, rxB1] ∧
    chainOf2 [] 0 (attOf (run rxCfg {} exMidBackup)) = [rxB0] := by decide +kernel

/-- a request before the `try` (during `open_for_sync` / `scan_files`): the task dies with
    `CancelledError`, nothing was done -/
example : outerOf (run rxCfg {} [.cancel]) = some .died := by decide

/-- a second request is not an event of the model -/
example : outerOf (run rxCfg {} [.begin, .cancel, .cancel]) = none := by decide

/-- a block whose input does not exist -/
def exBad : Block := ⟨9, 7, 102, 82, [⟨13, [⟨99, 0⟩], [⟨60, 3, .normal⟩]⟩]⟩

/-- a job that raises (advancing `exBad`: an environment outside `EnvOk`): `ok` stays false, the handler
    does not flush, the task returns; `C06task_ok` / `C06task_final_flush` describe this case -/
def exFailing : List Ev :=
  [.begin, .fetched [rxB0, exBad], .nextBlock, .innerStart, .jobEnd 1, .deliver, .resume,
   .nextBlock, .innerStart, .cancel, .jobEnd 1, .deliver, .hStart]

example : outerOf (run rxCfg {} exFailing) = some .returned ∧
    (run rxCfg {} exFailing).map (·.ok) = some false ∧
    (run rxCfg {} exFailing).map (fun st => st.log.map (·.2)) = some [true, false] := by decide +kernel

end EV.ShutdownTask
