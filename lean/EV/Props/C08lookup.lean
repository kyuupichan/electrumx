import EV.Proofs.IndexLookupEnv
import EV.Props.C09
import EV.Props.C01sync
import EV.Props.RxScenario

/-!
# C08 / C09 — the index side of the mempool's environment: `DB.lookup_utxos` is exact / truthful

C08 ("a synchronised mempool view is exact") is proved under `EnvQuiet`, whose index clauses are
`lookup` (`lookup_utxos` answers from `U`, for every chunk) and `utxoTrue` (`U` records true outputs);
C09 ("the mempool tracker survives every daemon race") under `EnvSound`, whose index clause is
`lookup` (`lookup_utxos` answers `None` or the true `(hashX, value)` of that output).  Here these
clauses are PROVED of the index model (`EV/Model/Index.lean`: `lookupUtxo` = `lookup_hashX` over the
`h` rows with prefix `pfx(txid) + idx`, every candidate's tx number resolved through `fs_tx_hash`
and compared with the full hash, then the `u` row) on the states the whole-run refinement theorems
reach: on a fully flushed state it IS the specification's lookup in the chain's UTXO set, prefix
collisions included; on every state of `FullInv'` it is the specification's lookup of the COMMITTED
chain `chain.take (DB.state.height + 1)`, so every answer is an output of a transaction of a prefix
of the current chain.  `C08lookup_exact` / `C09lookup_inv` are C08 / C09 with `lookup` := the index
model, no assumption about `lookup_utxos` left.  F22: the two `run_in_thread` jobs of `lookup_utxos`
read in different states (`EV/Model/IndexSplit.lean`) give a FALSE pair before the fix and `None` or
the true pair after it, for ANY operations in between.  Suite `index` (lines `Q_LOOKUP`/`S_LOOKUP`)
compares `lookupUtxo` with the real `DB.lookup_utxos` over LevelDB on every run.
-/
namespace EV.Index
open EV.Spec

/-- **`lookup_utxos` is exact (one prevout).**  On every fully flushed invariant state, for EVERY
outpoint `(txid, idx)`, the answer is the specification's lookup in the chain's UTXO set. -/
theorem lookupUtxo_flushed {cfg : Cfg} {chain : List Block} {s : Sys} (inv : FullInv cfg chain s)
    (hf : Flushed s) (txid : Hash) (idx : Nat) :
    lookupUtxo s txid idx = EV.Spec.lookup (specChain cfg.act chain) txid idx :=
  lookupUtxo_rows (rowsOf_flushed inv hf) txid idx

/-- **…spelled out.**  `some (hashX, value)` iff the specification's UTXO set contains an output
with that txid and index, and then with exactly that script hash and value; `None` iff it contains
none — whatever other unspent outputs share the 4-byte prefix and the index, and whether the
outpoint was spent, never created, unspendable or beyond the transaction's outputs. -/
theorem lookupUtxo_flushed_iff {cfg : Cfg} {chain : List Block} {s : Sys}
    (inv : FullInv cfg chain s) (hf : Flushed s) (txid : Hash) (idx : Nat) :
    (∀ hx v, lookupUtxo s txid idx = some (hx, v) ↔
      ∃ u ∈ (specChain cfg.act chain).utxos, u.txid = txid ∧ u.idx = idx ∧ u.hx = hx ∧ u.value = v) ∧
    (lookupUtxo s txid idx = none ↔
      ∀ u ∈ (specChain cfg.act chain).utxos, ¬ (u.txid = txid ∧ u.idx = idx)) :=
  lookupUtxo_rows_iff (rowsOf_flushed inv hf) txid idx

/-- **`lookup_utxos` is exact (the list).**  One answer per prevout, in the order asked. -/
theorem lookupUtxos_flushed {cfg : Cfg} {chain : List Block} {s : Sys} (inv : FullInv cfg chain s)
    (hf : Flushed s) (ps : List (Hash × Nat)) :
    lookupUtxos s ps = ps.map (fun p => EV.Spec.lookup (specChain cfg.act chain) p.1 p.2) :=
  lookupUtxos_rows (rowsOf_flushed inv hf) ps

theorem lookupUtxos_length (s : Sys) (ps : List (Hash × Nat)) :
    (lookupUtxos s ps).length = ps.length := by
  simp [lookupUtxos]

/-- **`lookup_utxos` in ANY invariant state** (UTXO cache and queued deletes non-empty, blocks
advanced but not flushed, a history-only flush done so that the files are ahead of `DB.state`, after
back-outs and restarts): the answer is the specification's lookup in the UTXO set of the committed
chain — the blocks up to the last UTXO flush.  Outputs spent since then are still answered (their
rows are deleted by the next UTXO flush), outputs created since then are not. -/
theorem lookupUtxo_committed {cfg : Cfg} {chain : List Block} {K : List Nat} {s : Sys}
    (inv : FullInv' cfg chain K s) (txid : Hash) (idx : Nat) :
    lookupUtxo s txid idx =
      EV.Spec.lookup (specChain cfg.act (chain.take (s.m.dbst.height + 1).toNat)) txid idx :=
  lookupUtxo_rows (rowsOf_committed inv) txid idx

theorem lookupUtxos_committed {cfg : Cfg} {chain : List Block} {K : List Nat} {s : Sys}
    (inv : FullInv' cfg chain K s) (ps : List (Hash × Nat)) :
    lookupUtxos s ps = ps.map (fun p =>
      EV.Spec.lookup (specChain cfg.act (chain.take (s.m.dbst.height + 1).toNat)) p.1 p.2) :=
  lookupUtxos_rows (rowsOf_committed inv) ps

theorem lookupUtxo_committed_iff {cfg : Cfg} {chain : List Block} {K : List Nat} {s : Sys}
    (inv : FullInv' cfg chain K s) (txid : Hash) (idx : Nat) :
    (∀ hx v, lookupUtxo s txid idx = some (hx, v) ↔
      ∃ u ∈ (specChain cfg.act (chain.take (s.m.dbst.height + 1).toNat)).utxos,
        u.txid = txid ∧ u.idx = idx ∧ u.hx = hx ∧ u.value = v) ∧
    (lookupUtxo s txid idx = none ↔
      ∀ u ∈ (specChain cfg.act (chain.take (s.m.dbst.height + 1).toNat)).utxos,
        ¬ (u.txid = txid ∧ u.idx = idx)) :=
  lookupUtxo_rows_iff (rowsOf_committed inv) txid idx

theorem TrackInv.rowsOf {cfg : Cfg} {t : Track} {s : Sys} (ti : TrackInv cfg t s) :
    RowsOf s (specChain cfg.act (t.chain.take t.dbLen)).utxos :=
  ti.dbK ▸ rowsOf_committed ti.inv

/-- the answers do not move while `advance_block`'s transaction loop runs (`spend_utxo` /
    `put_utxo` touch only the cache and the delete queue) -/
theorem lookupUtxo_during_block {s s' : Sys} (h : SameBut s s') (txid : Hash) (idx : Nat) :
    lookupUtxo s' txid idx = lookupUtxo s txid idx := by
  obtain ⟨c, d, rfl⟩ := h
  exact lookupUtxo_congr rfl rfl rfl rfl rfl txid idx

/-- **`lookup_utxos` is truthful** (the shape `EnvSound` uses: `None` or the true pair).  In any
invariant state an answer `(hashX, value)` for `(txid, idx)` is output `idx` — spendable, with that
script hash and value — of a transaction with id `txid` in a block of the committed chain, hence of
every chain that extends the committed one (the current chain in particular). -/
theorem lookupUtxo_truthful {cfg : Cfg} {chain : List Block} {K : List Nat} {s : Sys}
    (inv : FullInv' cfg chain K s) {txid : Hash} {idx : Nat} {hx : HashX} {v : Nat}
    (h : lookupUtxo s txid idx = some (hx, v)) :
    ∀ c, chain.take (s.m.dbst.height + 1).toNat <+: c →
      ∃ (ht : Nat) (b : Block) (tx : Tx) (o : TxOut), c[ht]? = some b ∧ tx ∈ b.txs ∧ tx.id = txid ∧
        tx.outs[idx]? = some o ∧ o.hx = hx ∧ o.value = v ∧ unspendable cfg.act ht o.kind = false := by
  intro c hc
  rw [lookupUtxo_rows (rowsOf_committed inv)] at h
  obtain ⟨u, hu, rfl, rfl, h3⟩ := lookupIn_some_mem h
  obtain ⟨rfl, rfl⟩ := Prod.mk.inj h3
  obtain ⟨b, tx, o, g⟩ := (specChain_outputOf _ _ u hu).prefix hc
  exact ⟨u.height, b, tx, o, g⟩

/-- in particular an outpoint of a transaction id that occurs nowhere in the committed chain (not
    yet indexed, not yet flushed, or backed out) is answered `None` -/
theorem lookupUtxo_unknown_txid {cfg : Cfg} {chain : List Block} {K : List Nat} {s : Sys}
    (inv : FullInv' cfg chain K s) {txid : Hash}
    (h : ∀ b ∈ chain.take (s.m.dbst.height + 1).toNat, ∀ tx ∈ b.txs, tx.id ≠ txid) (idx : Nat) :
    lookupUtxo s txid idx = none := by
  cases hl : lookupUtxo s txid idx with
  | none => rfl
  | some r =>
    obtain ⟨hx, v⟩ := r
    obtain ⟨ht, b, tx, o, g1, g2, g3, -⟩ := lookupUtxo_truthful inv hl _ (List.prefix_refl _)
    exact absurd g3 (h b (List.mem_of_getElem? g1) tx g2)

/-! F22.  The real coroutine reads the `h` rows (and `fs_tx_hash`) in one `run_in_thread` job and
the `u` rows in a second one; between the two the block-processing task may do anything.  Before the
fix job 2 trusted the tx number handed over by job 1; tx numbers are reused after a back-out
(`lookupUtxoSplit_reorg_hazard`).  The fixed job 2 calls `fs_tx_hash(tx_num)` again and answers
`None` unless it still gives the prevout's tx hash (`EV/Model/IndexSplit.lean`, `recheck = true`). -/

/-- **The fixed split lookup is sound whatever happens between the two jobs.**  `s1` — the state job 1
was read in — is ANY state (no hypothesis); if job 2 is read in an invariant state `s2`, the answer
is `None` or the answer of the one-state lookup in `s2`, i.e. the specification's lookup on the
chain committed when job 2 ran. -/
theorem lookupUtxoSplit_fixed_sound {cfg : Cfg} {chain : List Block} {K : List Nat} (s1 : Sys)
    {s2 : Sys} (inv2 : FullInv' cfg chain K s2) (txid : Hash) (idx : Nat) :
    lookupUtxoSplit true s1 s2 txid idx = none ∨
      lookupUtxoSplit true s1 s2 txid idx = lookupUtxo s2 txid idx := by
  rw [lookupUtxo_rows (rowsOf_committed inv2)]
  exact lookupUtxoSplit_fixed_rows s1 (rowsOf_committed inv2) txid idx

/-- **…across ANY sequence of operations between the two jobs**: advances, flushes of either kind,
back-outs, restarts (`IOp2`), in any valid order and number.  Job 1 after `ops1`, job 2 after
`ops1 ++ ops2`: the answer is `None` or the specification's lookup on the chain committed after
`ops1 ++ ops2`. -/
theorem lookupUtxoSplit_any_ops (cfg : Cfg) (ops1 ops2 : List IOp2)
    (hv : ValidOps2 cfg {} (ops1 ++ ops2)) :
    ∃ s1 s2, runOps2 cfg {} ops1 = .ok s1 ∧ runOps2 cfg s1 ops2 = .ok s2 ∧
      ∀ txid idx, lookupUtxoSplit true s1 s2 txid idx = none ∨
        lookupUtxoSplit true s1 s2 txid idx = EV.Spec.lookup (specChain cfg.act
          ((Track.run cfg {} (ops1 ++ ops2)).chain.take (Track.run cfg {} (ops1 ++ ops2)).dbLen))
          txid idx := by
  obtain ⟨hv1, hv2⟩ := (validOps2_append cfg {} ops1 ops2).mp hv
  obtain ⟨s1, h1, ti1⟩ := trackInv_run ops1 (trackInv_init cfg) hv1
  obtain ⟨s2, h2, ti2⟩ := trackInv_run ops2 ti1 hv2
  rw [← Track.run_append] at ti2
  exact ⟨s1, s2, h1, h2, lookupUtxoSplit_fixed_rows s1 ti2.rowsOf⟩

/-- **…and truthful**: an answer of the fixed split lookup is an output of a transaction of the chain
committed when job 2 ran (hence of every chain extending it). -/
theorem lookupUtxoSplit_fixed_truthful {cfg : Cfg} {chain : List Block} {K : List Nat} (s1 : Sys)
    {s2 : Sys} (inv2 : FullInv' cfg chain K s2) {txid : Hash} {idx : Nat} {hx : HashX} {v : Nat}
    (h : lookupUtxoSplit true s1 s2 txid idx = some (hx, v)) :
    ∀ c, chain.take (s2.m.dbst.height + 1).toNat <+: c →
      ∃ (ht : Nat) (b : Block) (tx : Tx) (o : TxOut), c[ht]? = some b ∧ tx ∈ b.txs ∧ tx.id = txid ∧
        tx.outs[idx]? = some o ∧ o.hx = hx ∧ o.value = v ∧ unspendable cfg.act ht o.kind = false := by
  rcases lookupUtxoSplit_fixed_sound s1 inv2 txid idx with h0 | h0
  · rw [h0] at h; cases h
  · rw [h0] at h; exact lookupUtxo_truthful inv2 h

/-- **The fix loses nothing for outputs that stay.**  An output that is in the committed UTXO set
both when job 1 and when job 2 runs, as the same record (same tx number: not backed out and
re-created in between), is answered — blocks advanced and flushed in between do not matter. -/
theorem lookupUtxoSplit_fixed_stable {cfg : Cfg} {chain1 chain2 : List Block} {K1 K2 : List Nat}
    {s1 s2 : Sys} (inv1 : FullInv' cfg chain1 K1 s1) (inv2 : FullInv' cfg chain2 K2 s2) {u : Utxo}
    (h1 : u ∈ (specChain cfg.act (chain1.take (s1.m.dbst.height + 1).toNat)).utxos)
    (h2 : u ∈ (specChain cfg.act (chain2.take (s2.m.dbst.height + 1).toNat)).utxos) :
    lookupUtxoSplit true s1 s2 u.txid u.idx = some (u.hx, u.value) :=
  lookupUtxoSplit_stable true (rowsOf_committed inv1) (rowsOf_committed inv2) h1 h2

/-- both jobs in one state: the model's `lookupUtxo` (so every theorem above about `lookupUtxo`
    is about the fixed code read without interleaving) -/
theorem lookupUtxoSplit_one_state (b : Bool) (s : Sys) (txid : Hash) (idx : Nat) :
    lookupUtxoSplit b s s txid idx = lookupUtxo s txid idx :=
  lookupUtxoSplit_self b s txid idx

/-- the code before the fix (`recheck = false`): sound only when both committed chains are prefixes of
    ONE chain (blocks advanced and flushed in between, none backed out) -/
theorem lookupUtxoSplit_orig_sound {cfg : Cfg} {chain1 chain2 c : List Block} {K1 K2 : List Nat}
    {s1 s2 : Sys} (inv1 : FullInv' cfg chain1 K1 s1) (inv2 : FullInv' cfg chain2 K2 s2)
    (h1 : chain1.take (s1.m.dbst.height + 1).toNat <+: c)
    (h2 : chain2.take (s2.m.dbst.height + 1).toNat <+: c) (txid : Hash) (idx : Nat) :
    lookupUtxoSplit false s1 s2 txid idx = none ∨
      lookupUtxoSplit false s1 s2 txid idx = lookupUtxo s2 txid idx := by
  rw [lookupUtxo_rows (rowsOf_committed inv2)]
  exact lookupUtxoSplit_orig_rows (rowsOf_committed inv1) (rowsOf_committed inv2)
    (txnum_txid_of_prefixes cfg.act h1 h2) txid idx

/-- **Below the model's granularity** (one `run_in_thread` job = one state): if another thread
commits between the two statements of the fixed job 2 — the `u` row read in `sa`, the re-check in
`sb` — the answer is still `None` or the one-state answer in `sa`, for ANY hand-over from job 1,
provided no block was backed out between `sa` and `sb` (both committed chains prefixes of one
chain).  What remains is `lookupValue2_aba_hazard`. -/
theorem lookupValue2_sound {cfg : Cfg} {chaina chainb c : List Block} {Ka Kb : List Nat}
    {sa sb : Sys} (inva : FullInv' cfg chaina Ka sa) (invb : FullInv' cfg chainb Kb sb)
    (ha : chaina.take (sa.m.dbst.height + 1).toNat <+: c)
    (hb : chainb.take (sb.m.dbst.height + 1).toNat <+: c) (txid : Hash) (idx : Nat)
    (ph : Option (HashX × Nat)) :
    lookupValue2 sa sb txid idx ph = none ∨
      lookupValue2 sa sb txid idx ph = lookupUtxo sa txid idx := by
  rw [lookupUtxo_rows (rowsOf_committed inva)]
  apply lookupValue2_rows (rowsOf_committed inva)
  intro y hy t ht
  rw [resolve_of_prefix invb.base.files hb ht, spec_txid_of_prefix cfg.act ha y hy]

/-- **`EnvQuiet.lookup`** — "the index is at the daemon's height: `lookup_utxos` answers from `U`,
for every chunk" — holds of the index model on every fully flushed invariant state of chain `c`,
with `U` = the specification's UTXO set of `c`. -/
theorem envQuiet_lookup_of_index {cfg : Cfg} {chain : List Block} {s : Sys}
    (inv : FullInv cfg chain s) (hf : Flushed s) :
    ∀ k ps, mpLookup s k ps = ps.map (EV.Mempool.ulookup (utxoMap (specChain cfg.act chain))) :=
  mpLookup_rows (rowsOf_flushed inv hf)

/-- **`EnvQuiet`, index clauses discharged.**  If the daemon side of a quiet refresh holds
(`DaemonQuiet`: the listing is a set of deliverable, valid transactions, closed over `M ∪ U`,
acyclic, conflict-free) and the mempool's world knows the chain's transactions (`WorldHas`), then
`EnvQuiet` holds with `lookup` := the index model on a flushed invariant state and `U` := the
specification's UTXO set. -/
theorem envQuiet_of_index {cfg : Cfg} {chain : List Block} {s : Sys}
    (inv : FullInv cfg chain s) (hf : Flushed s)
    {W : EV.Mempool.Hash → Option EV.Mempool.RawTx} (hW : WorldHas W chain)
    {M : List EV.Mempool.Hash} {fetch : EV.Mempool.Hash → Option EV.Mempool.RawTx}
    (hd : DaemonQuiet W M (utxoMap (specChain cfg.act chain)) fetch) :
    EV.Mempool.EnvQuiet W M (utxoMap (specChain cfg.act chain)) fetch (mpLookup s) :=
  envQuiet_of_rows (rowsOf_flushed inv hf) (utxoTrue_of_world hW) hd

/-- **`EnvSound.lookup`** — "`lookup_utxos` answers `None` or the true `(hashX, value)` of that
output" — holds of the index model in EVERY invariant state (flushed or not, behind the daemon or
not), provided the mempool's world knows the chain's transactions. -/
theorem envSound_lookup_of_index {cfg : Cfg} {chain : List Block} {K : List Nat} {s : Sys}
    (inv : FullInv' cfg chain K s)
    {W : EV.Mempool.Hash → Option EV.Mempool.RawTx} (hW : WorldHas W chain) :
    ∀ k ps p pr, (p, some pr) ∈ List.zip ps (mpLookup s k ps) → EV.Mempool.truePair W p = some pr :=
  fun k ps _ _ hp => EV.Mempool.ulookup_sound (utxoTrue_of_world (hW.prefix (List.take_prefix _ _)))
    (mpLookup_rows (rowsOf_committed inv) k ps ▸ hp)

/-- **`EnvSound`, index clause discharged at the granularity of the real coroutine** (after the fix
of F22).  For the `i`-th prevout of chunk `k`, job 1 of `lookup_utxos` is read in `σ1 k i` — ANY
state, no hypothesis — and job 2 in `σ2 k i`; if every `σ2 k i` is a state of the extended invariant
for some chain whose transactions the world knows, `EnvSound` holds: whatever the block processor
does between the two jobs (advances, flushes, back-outs, re-advances, restarts), no false pair. -/
theorem envSound_of_index_split {W : EV.Mempool.Hash → Option EV.Mempool.RawTx}
    {fetch : EV.Mempool.Hash → Option EV.Mempool.RawTx} (σ1 σ2 : Nat → Nat → Sys)
    (hσ : ∀ k i, ∃ cfg chain K, FullInv' cfg chain K (σ2 k i) ∧ WorldHas W chain)
    (hfetch : ∀ h t, fetch h = some t → W h = some t) (valid : EV.Mempool.Valid W) :
    EV.Mempool.EnvSound W fetch (mpLookupSplitAt σ1 σ2) where
  fetch := hfetch
  valid := valid
  lookup := by
    intro k ps p pr hp
    obtain ⟨i, hi⟩ := mem_zip_zipIdx_map _ hp
    obtain ⟨cfg, chain, K, inv, hW⟩ := hσ k i
    rcases lookupUtxoSplit_fixed_rows (σ1 k i) (rowsOf_committed inv) p.1 p.2 with h0 | h0
    · rw [h0] at hi; cases hi
    · rw [h0, ← ulookup_utxoMap] at hi
      exact utxoTrue_of_world (hW.prefix (List.take_prefix _ _)) _
        (EV.Mempool.ulookup_some_mem hi.symm)

/-- **`EnvSound`, index clause discharged, racing index.**  The answer for the `i`-th prevout of
chunk `k` may be read in its own state `σ k i` (the block processor advances, flushes, backs out,
restarts between and during the chunk tasks): if each of these is a state of the extended invariant
for some chain whose transactions the world knows, `EnvSound` holds with `lookup` := the index
model read at those states (both jobs of `envSound_of_index_split` in the same state). -/
theorem envSound_of_index {W : EV.Mempool.Hash → Option EV.Mempool.RawTx}
    {fetch : EV.Mempool.Hash → Option EV.Mempool.RawTx} (σ : Nat → Nat → Sys)
    (hσ : ∀ k i, ∃ cfg chain K, FullInv' cfg chain K (σ k i) ∧ WorldHas W chain)
    (hfetch : ∀ h t, fetch h = some t → W h = some t) (valid : EV.Mempool.Valid W) :
    EV.Mempool.EnvSound W fetch (mpLookupAt σ) :=
  mpLookupSplitAt_self σ ▸ envSound_of_index_split σ σ hσ hfetch valid

/-- **C08 on the index model.**  `C08_exact` with the environment's `lookup` replaced by the index
model on a fully flushed invariant state of `chain` and `U` by the specification's UTXO set of
`chain`: the refresh returns, drops nothing and leaves exactly the specification pool.  No
assumption about `lookup_utxos` is left: only the daemon side (`DaemonQuiet`) and `WorldHas`. -/
theorem C08lookup_exact {cfg : Cfg} {chain : List Block} {s : Sys}
    (inv : FullInv cfg chain s) (hf : Flushed s)
    (W : EV.Mempool.Hash → Option EV.Mempool.RawTx) (hW : WorldHas W chain)
    (M : List EV.Mempool.Hash) (fetch : EV.Mempool.Hash → Option EV.Mempool.RawTx)
    (hd : DaemonQuiet W M (utxoMap (specChain cfg.act chain)) fetch)
    (st : EV.Mempool.St) (touched : List EV.Mempool.HashX) (h : Int) (order : List Nat)
    (hinv : EV.Mempool.MpInv W st)
    (hord : order.Perm (List.range (EV.Mempool.numChunks EV.Gen.mempoolChunk st M))) :
    ∃ r, EV.Mempool.processMempool st M touched h h fetch (mpLookup s) order = .ok r ∧
      r.dropped = [] ∧
      r.st.txs.Perm (EV.Mempool.specPool W M (utxoMap (specChain cfg.act chain))) ∧
      EV.Mempool.MpInv W r.st :=
  EV.Mempool.C08_exact W M _ fetch _ st touched h order hinv (envQuiet_of_index inv hf hW hd) hord

/-- **C09 on the index model, split jobs.**  `C09_inv` with the environment's `lookup` replaced by
the index model, every answer produced by the two jobs of the fixed `lookup_utxos` read in two
states, the first of them arbitrary, the second an invariant state: the refresh never raises and
keeps `MpInv` (only true input pairs and fees are recorded). -/
theorem C09lookup_inv_split (W : EV.Mempool.Hash → Option EV.Mempool.RawTx)
    (fetch : EV.Mempool.Hash → Option EV.Mempool.RawTx) (σ1 σ2 : Nat → Nat → Sys)
    (hσ : ∀ k i, ∃ cfg chain K, FullInv' cfg chain K (σ2 k i) ∧ WorldHas W chain)
    (hfetch : ∀ h t, fetch h = some t → W h = some t) (valid : EV.Mempool.Valid W)
    (st : EV.Mempool.St) (hinv : EV.Mempool.MpInv W st)
    (allHashes : List EV.Mempool.Hash) (order : List Nat) (touched : List EV.Mempool.HashX)
    (h : Int) :
    ∃ r, EV.Mempool.processMempool st allHashes touched h h fetch (mpLookupSplitAt σ1 σ2) order
        = .ok r ∧ EV.Mempool.MpInv W r.st := by
  obtain ⟨r, h1, h2, -⟩ := (EV.Mempool.C09_inv W fetch _ st hinv
    (envSound_of_index_split σ1 σ2 hσ hfetch valid) allHashes order touched h h).2 rfl
  exact ⟨r, h1, h2⟩

/-- **C09 on the index model.**  The case of both jobs read in one state: the index model read,
prevout by prevout, at arbitrary invariant states. -/
theorem C09lookup_inv (W : EV.Mempool.Hash → Option EV.Mempool.RawTx)
    (fetch : EV.Mempool.Hash → Option EV.Mempool.RawTx) (σ : Nat → Nat → Sys)
    (hσ : ∀ k i, ∃ cfg chain K, FullInv' cfg chain K (σ k i) ∧ WorldHas W chain)
    (hfetch : ∀ h t, fetch h = some t → W h = some t) (valid : EV.Mempool.Valid W)
    (st : EV.Mempool.St) (hinv : EV.Mempool.MpInv W st)
    (allHashes : List EV.Mempool.Hash) (order : List Nat) (touched : List EV.Mempool.HashX)
    (h : Int) :
    ∃ r, EV.Mempool.processMempool st allHashes touched h h fetch (mpLookupAt σ) order = .ok r ∧
      EV.Mempool.MpInv W r.st := by
  rw [← mpLookupSplitAt_self]
  exact C09lookup_inv_split W fetch σ σ hσ hfetch valid st hinv allHashes order touched h

/-- **After any run of advances and flushes, then a full flush**, `lookup_utxos` is the
specification's lookup of the chain advanced (composition with `C01run_end_to_end`). -/
theorem lookupUtxos_end_to_end (cfg : Cfg) (ops : List IOp) (hv : ValidOps cfg [] ops) :
    ∃ s, runOps cfg {} (ops ++ [.flush true]) = .ok s ∧
      ∀ ps, lookupUtxos s ps =
        ps.map (fun p => EV.Spec.lookup (specChain cfg.act (chainOf ops)) p.1 p.2) := by
  obtain ⟨s, h, inv, hf⟩ := fullInv_run_flushed cfg ops hv
  exact ⟨s, h, lookupUtxos_flushed inv hf⟩

/-- **After any run with back-outs and restarts, then a full flush**, `lookup_utxos` is the
specification's lookup of the SURVIVING chain: no answer from an orphaned block, although tx
numbers are reused after a back-out (composition with `C03run_observables`). -/
theorem lookupUtxos_after_reorgs (cfg : Cfg) (ops : List IOp2) (hv : ValidOps2 cfg {} ops) :
    ∃ s, runOps2 cfg {} (ops ++ [.flush true]) = .ok s ∧
      ∀ ps, lookupUtxos s ps =
        ps.map (fun p => EV.Spec.lookup (specChain cfg.act (chainOf2 [] 0 ops)) p.1 p.2) := by
  obtain ⟨s, h1, inv, hfl⟩ := fullInv'_run_flushed ops (trackInv_init cfg) hv
  exact ⟨s, h1, lookupUtxos_flushed inv.base (flushed_of_db inv.base hfl)⟩

/-- **After every step of any run with back-outs and restarts** (no final flush: cache, queued
deletes and unflushed blocks present), `lookup_utxos` is the specification's lookup of the committed
part of the surviving chain: its first `dbLen` blocks, where `dbLen` is the bookkeeping's count of
blocks committed by the last full flush / back-out. -/
theorem lookupUtxos_every_step (cfg : Cfg) (ops : List IOp2) (hv : ValidOps2 cfg {} ops) (k : Nat) :
    ∃ s, runOps2 cfg {} (ops.take k) = .ok s ∧
      ∀ ps, lookupUtxos s ps = ps.map (fun p => EV.Spec.lookup (specChain cfg.act
        ((Track.run cfg {} (ops.take k)).chain.take (Track.run cfg {} (ops.take k)).dbLen)) p.1 p.2) := by
  obtain ⟨s, h1, ti⟩ := trackInv_run_prefix ops (trackInv_init cfg) hv k
  exact ⟨s, h1, lookupUtxos_rows ti.rowsOf⟩

/-- **At every point clients are told a height** (`EV.SyncLoop`: any fetch batching, any flush
placement, any placement of `on_caught_up`), `lookup_utxos` is the specification's lookup of the
chain up to the told height (composition with `C01sync_told`) — so a mempool refresh that starts
from such a point with the daemon at that height has `EnvQuiet.lookup`. -/
theorem lookupUtxos_told (cfg : Cfg) (evs : List EV.SyncLoop.Ev)
    (hv : EV.SyncLoop.ValidEvs cfg [] evs) :
    ∃ l ts, EV.SyncLoop.run cfg {} evs = .ok (l, ts) ∧
      ∀ t ∈ ts, ∃ c, c <+: EV.SyncLoop.blocksOf evs ∧ t.1 = (c.length : Int) - 1 ∧
        ∀ ps, lookupUtxos t.2 ps =
          ps.map (fun p => EV.Spec.lookup (specChain cfg.act c) p.1 p.2) := by
  obtain ⟨l, ts, h1, -, h3⟩ := EV.SyncLoop.C01sync_told cfg evs hv
  refine ⟨l, ts, h1, ?_⟩
  intro t ht
  obtain ⟨c, hc, inv, hfl, hh⟩ := h3 t ht
  exact ⟨c, hc, hh, lookupUtxos_flushed inv hfl⟩

/-! Non-vacuity.  Closed facts about the example runs are evaluated by the kernel alone
(`decide +kernel`): the elaborator's own evaluation of a run is several times slower.

`lkT1`, `lkT2` share the 4-byte prefix (5), `lkT3` has another one (6).  Block 0: `lkT1` creates
outputs 0, 1 and an `OP_FALSE OP_RETURN` output 2; `lkT2` creates output 0 — so the rows of
`(lkT1, 0)` and `(lkT2, 0)` collide under the key prefix `h + pfx + idx`.  Block 1: `lkT3` spends
`(lkT1, 0)`. -/

def lkCfg : Cfg := { act := 1, reorgLimit := 2 }
def lkGen : TxIn := ⟨0, 4294967295⟩
def lkT1 : Hash := 5 * 2 ^ 224 + 1
def lkT2 : Hash := 5 * 2 ^ 224 + 2
def lkT3 : Hash := 6 * 2 ^ 224 + 1
def lkB0 : Block := ⟨7, 0, 100, 80,
  [⟨lkT1, [lkGen], [⟨50, 1, .normal⟩, ⟨60, 4, .normal⟩, ⟨0, 9, .opFalseReturn⟩]⟩,
   ⟨lkT2, [lkGen], [⟨70, 2, .normal⟩]⟩]⟩
def lkB1 : Block := ⟨8, 7, 101, 81, [⟨lkT3, [⟨lkT1, 0⟩], [⟨45, 3, .normal⟩]⟩]⟩

/-- block 0 fully flushed; block 1 advanced and history-flushed only (files ahead of `DB.state`,
    cache and delete queue non-empty) -/
def lkOps : List IOp2 := [.adv lkB0 0, .flush true, .adv lkB1 1, .flush false]

theorem lkRun (k : Nat) :
    ∃ s, runOps2 lkCfg {} ((lkOps ++ [IOp2.flush true]).take k) = .ok s ∧
      TrackInv lkCfg (Track.run lkCfg {} ((lkOps ++ [IOp2.flush true]).take k)) s :=
  trackInv_run_prefix _ (trackInv_init lkCfg) (by decide +kernel) k

example : pfx lkT1 = 5 ∧ pfx lkT2 = 5 ∧ pfx lkT3 = 6 := by decide +kernel

example : ValidOps2 lkCfg {} lkOps := by decide +kernel

/-- the hypotheses of `lookupUtxo_flushed` are satisfiable by a state with a prefix collision -/
example : ∃ s, runOps2 lkCfg {} (lkOps.take 2) = .ok s ∧ FullInv lkCfg [lkB0] s ∧ Flushed s := by
  obtain ⟨s, h, ti⟩ := lkRun 2
  exact ⟨s, h, ti.inv.base, flushed_of_db ti.inv.base (ti.flushed (by decide +kernel))⟩

/-- two candidate rows under the key prefix of `(lkT1, 0)` … -/
example : ((okSysD (runOps2 lkCfg {} (lkOps.take 2))).p.h.filter
    (fun e => e.1.1 == pfx lkT1 && e.1.2.1 == 0)).length = 2 := by decide +kernel

/-- … and each of the colliding outpoints gets ITS pair; the unspendable output, an index beyond the
    outputs and an unknown transaction get `None`; one answer per prevout, in order -/
example : lookupUtxos (okSysD (runOps2 lkCfg {} (lkOps.take 2)))
      [(lkT2, 0), (lkT1, 0), (lkT1, 1), (lkT1, 2), (lkT1, 3), (lkT3, 0), (lkT2, 0)] =
    [some (2, 70), some (1, 50), some (4, 60), none, none, none, some (2, 70)] := by decide +kernel

example : [(lkT2, 0), (lkT1, 0), (lkT1, 1), (lkT1, 2), (lkT1, 3), (lkT3, 0), (lkT2, 0)].map
      (fun p => EV.Spec.lookup (specChain lkCfg.act [lkB0]) p.1 p.2) =
    [some (2, 70), some (1, 50), some (4, 60), none, none, none, some (2, 70)] := by decide +kernel

/-- the hypothesis of `lookupUtxo_committed` in a state with unflushed work: two blocks indexed, one
    committed, delete queue and cache non-empty -/
example : ∃ s, runOps2 lkCfg {} lkOps = .ok s ∧ FullInv' lkCfg [lkB0, lkB1] [1, 0] s ∧
    s.m.dbst.height = 0 ∧ s.m.st.height = 1 := by
  obtain ⟨s, h, ti⟩ := lkRun 4
  exact ⟨s, h, ti.inv, ti.db, ti.inv.base.files.height⟩

example : (okSysD (runOps2 lkCfg {} lkOps)).m.deletes.length = 2 ∧
    (okSysD (runOps2 lkCfg {} lkOps)).m.cache.length = 1 := by decide +kernel

/-- there: `(lkT1, 0)`, spent by the unflushed block 1, is still answered; `(lkT3, 0)`, created by
    it, is not … -/
example : lookupUtxos (okSysD (runOps2 lkCfg {} lkOps)) [(lkT1, 0), (lkT3, 0), (lkT2, 0)] =
    [some (1, 50), none, some (2, 70)] := by decide +kernel

/-- … and after the full flush it is the other way round -/
example : lookupUtxos (okSysD (runOps2 lkCfg {} (lkOps ++ [.flush true])))
      [(lkT1, 0), (lkT3, 0), (lkT2, 0)] =
    [none, some (3, 45), some (2, 70)] := by decide +kernel

example : utxoMap (specChain lkCfg.act [lkB0]) =
    [((lkT1, 0), (1, 50)), ((lkT1, 1), (4, 60)), ((lkT2, 0), (2, 70))] := by decide +kernel

example : mpLookup (okSysD (runOps2 lkCfg {} (lkOps.take 2))) 0 [(lkT2, 0), (99, 0)] =
    [some (2, 70), none] := by decide +kernel

/-- a world as a table (so that the daemon-side clauses are decidable): the chain's transactions
    (all outputs, the unspendable one included) and a mempool transaction 99 spending `(lkT2, 0)` -/
def lkTb : EV.Mempool.Table :=
  [(lkT1, { inputs := [(0, 4294967295)], outs := [(1, 50), (4, 60), (9, 0)], size := 100 }),
   (lkT2, { inputs := [(0, 4294967295)], outs := [(2, 70)], size := 60 }),
   (lkT3, { inputs := [(lkT1, 0)], outs := [(3, 45)], size := 61 }),
   (99, { inputs := [(lkT2, 0)], outs := [(8, 65)], size := 62 })]

example : WorldHas (EV.Mempool.dget lkTb) [lkB0, lkB1] := by decide +kernel

theorem lkDaemon : DaemonQuiet (EV.Mempool.dget lkTb) [99] (utxoMap (specChain lkCfg.act [lkB0]))
    (EV.Mempool.dget lkTb) :=
  DaemonQuiet.of_envQuiet (EV.Mempool.envQuiet_of_table (rank := id) (by decide +kernel))

/-- all hypotheses of `C08lookup_exact` hold together, on the state with the prefix collision -/
example : ∃ s, runOps2 lkCfg {} (lkOps.take 2) = .ok s ∧
    ∃ r, EV.Mempool.processMempool {} [99] [] 0 0 (EV.Mempool.dget lkTb) (mpLookup s) [0] = .ok r ∧
      r.dropped = [] ∧
      r.st.txs.Perm (EV.Mempool.specPool (EV.Mempool.dget lkTb) [99]
        (utxoMap (specChain lkCfg.act [lkB0]))) ∧
      EV.Mempool.MpInv (EV.Mempool.dget lkTb) r.st := by
  obtain ⟨s, h, ti⟩ := lkRun 2
  refine ⟨s, h, C08lookup_exact ti.inv.base (flushed_of_db ti.inv.base (ti.flushed (by decide +kernel)))
    _ (by decide +kernel) _ _ lkDaemon _ _ _ _ (EV.Mempool.MpInv_empty _) ?_⟩
  have : EV.Mempool.numChunks EV.Gen.mempoolChunk {} [99] = 1 := by decide +kernel
  rw [this]
  exact List.Perm.refl _

/-- … and the run is the expected one: 99 is accepted with its input pair read from the index
    (`(lkT2, 0)` ↦ `(2, 70)`, the colliding outpoint), fee 70 − 65 -/
example : (EV.Mempool.resultOf (EV.Mempool.processMempool {} [99] [] 0 0 (EV.Mempool.dget lkTb)
      (mpLookup (okSysD (runOps2 lkCfg {} (lkOps.take 2)))) [0])).map
      (fun r => r.st.txs.map (fun e => (e.1, e.2.inPairs, e.2.fee))) =
    some [(99, [(2, 70)], 5)] := by decide +kernel

/-- the hypothesis `hσ` of `envSound_of_index` / `C09lookup_inv` with two DIFFERENT states: the first
    prevout of every chunk is answered by the flushed one-block index, the others by the index with
    the second block advanced and unflushed -/
example : ∃ σ : Nat → Nat → Sys,
    (∀ k i, ∃ cfg chain K, FullInv' cfg chain K (σ k i) ∧ WorldHas (EV.Mempool.dget lkTb) chain) ∧
    (σ 0 0).m.st.height = 0 ∧ (σ 0 1).m.st.height = 1 := by
  obtain ⟨s1, -, ti1⟩ := lkRun 2
  obtain ⟨s2, -, ti2⟩ := lkRun 4
  refine ⟨fun _ i => if i = 0 then s1 else s2, ?_, ti1.inv.base.files.height,
    ti2.inv.base.files.height⟩
  intro k i
  by_cases hi : i = 0
  · simp only [hi, if_true]
    exact ⟨lkCfg, _, _, ti1.inv, by decide +kernel⟩
  · simp only [hi, if_false]
    exact ⟨lkCfg, _, _, ti2.inv, by decide +kernel⟩

/-- split reading, no back-out: job 1 in the flushed one-block state, job 2 after block 1 was advanced
    and fully flushed.  `(lkT1, 0)` was spent in between: `None`; `(lkT2, 0)` stayed: answered
    (`lookupUtxoSplit_fixed_stable`) — by the fixed code and by the code before the fix alike -/
example : ∀ b, lookupUtxoSplit b (okSysD (runOps2 lkCfg {} (lkOps.take 2)))
      (okSysD (runOps2 lkCfg {} (lkOps ++ [.flush true]))) lkT1 0 = none ∧
    lookupUtxo (okSysD (runOps2 lkCfg {} (lkOps.take 2))) lkT1 0 = some (1, 50) ∧
    lookupUtxoSplit b (okSysD (runOps2 lkCfg {} (lkOps.take 2)))
      (okSysD (runOps2 lkCfg {} (lkOps ++ [.flush true]))) lkT2 0 = some (2, 70) := by decide +kernel

/-- the hypotheses of `lookupUtxoSplit_fixed_stable` (and of `lookupUtxoSplit_orig_sound`) hold there -/
example : ∃ s1 s2, runOps2 lkCfg {} (lkOps.take 2) = .ok s1 ∧
    runOps2 lkCfg {} (lkOps ++ [.flush true]) = .ok s2 ∧
    ∃ K1 K2, FullInv' lkCfg [lkB0] K1 s1 ∧ FullInv' lkCfg [lkB0, lkB1] K2 s2 ∧
      [lkB0].take (s1.m.dbst.height + 1).toNat <+: [lkB0, lkB1] ∧
      [lkB0, lkB1].take (s2.m.dbst.height + 1).toNat <+: [lkB0, lkB1] ∧
      (⟨lkT2, 0, 1, 0, 70, 2⟩ : Utxo) ∈ (specChain lkCfg.act [lkB0]).utxos ∧
      (⟨lkT2, 0, 1, 0, 70, 2⟩ : Utxo) ∈ (specChain lkCfg.act [lkB0, lkB1]).utxos := by
  obtain ⟨s1, h1, ti1⟩ := lkRun 2
  obtain ⟨s2, h2, ti2⟩ := lkRun 5
  refine ⟨s1, s2, h1, h2, _, _, ti1.inv, ti2.inv, ?_, List.take_prefix _ _, by decide +kernel, by decide +kernel⟩
  exact (List.take_prefix _ _).trans (List.prefix_append [lkB0] [lkB1])

/-! `lkB1a` and `lkB1b` are two alternatives for block 1; each holds one transaction (`lkTx` resp.
`lkTy`, tx number 2 in both chains) paying script hash 3 at output 0, with values 10 resp. 20. -/

def lkTx : Hash := 7 * 2 ^ 224 + 1
def lkTy : Hash := 8 * 2 ^ 224 + 1
def lkB1a : Block := ⟨8, 7, 101, 81, [⟨lkTx, [lkGen], [⟨10, 3, .normal⟩]⟩]⟩
def lkB1b : Block := ⟨9, 7, 102, 82, [⟨lkTy, [lkGen], [⟨20, 3, .normal⟩]⟩]⟩
def lkReorg : List IOp2 :=
  [.adv lkB0 0, .adv lkB1a 1, .flush true, .backup lkB1a, .adv lkB1b 1, .flush true]

/-- **F22: the code before the fix records a false pair** (`recheck = false`; why
`lookupUtxoSplit_orig_sound` needs "no back-out in between").  Tx numbers are reused after a
back-out.  Job 1 read before the reorganisation finds the row of `(lkTx, 0)`: script hash 3, tx
number 2.  Job 2 read after it finds the `u` row `(3, 0, 2)` — now the row of `(lkTy, 0)` — and
answers `(3, 20)` for `(lkTx, 0)`, whose value is 10: the mempool would record a wrong input value
and fee.  Read in one state, either state answers correctly.  Both states are reachable
(`ValidOps2`).  The fixed code (`recheck = true`) answers `None` on the same schedule.  Replayed on
the real coroutine by `integration/lookup-split-replay.py` and found by suite `index`
(`Q_LOOKUP2A` / `Q_LOOKUP2B`). -/
theorem lookupUtxoSplit_reorg_hazard :
    ValidOps2 lkCfg {} lkReorg ∧
    lookupUtxoSplit false (okSysD (runOps2 lkCfg {} (lkReorg.take 3)))
      (okSysD (runOps2 lkCfg {} lkReorg)) lkTx 0 = some (3, 20) ∧
    lookupUtxoSplit true (okSysD (runOps2 lkCfg {} (lkReorg.take 3)))
      (okSysD (runOps2 lkCfg {} lkReorg)) lkTx 0 = none ∧
    lookupUtxo (okSysD (runOps2 lkCfg {} (lkReorg.take 3))) lkTx 0 = some (3, 10) ∧
    lookupUtxo (okSysD (runOps2 lkCfg {} lkReorg)) lkTx 0 = none ∧
    lookupUtxo (okSysD (runOps2 lkCfg {} lkReorg)) lkTy 0 = some (3, 20) := by
  decide +kernel

/-- the hypotheses of `lookupUtxoSplit_any_ops` with a back-out, a re-advance and a flush between the
    two jobs -/
example : ValidOps2 lkCfg {} (lkReorg.take 3 ++ lkReorg.drop 3) := by decide +kernel

def lkAba : List IOp2 := lkReorg ++ [.backup lkB1b, .adv lkB1a 1, .flush true]

/-- **What remains below the model's granularity** (why `lookupValue2_sound` needs "no back-out
between the two statements"): job 1 on branch a; then a complete reorganisation to branch b; the
`u` row read of job 2 there (`sa`); then a second complete reorganisation back to branch a, landing
between two consecutive statements of job 2; the re-check there (`sb`) sees tx number 2 resolve to
`lkTx` again and passes the value 20 of `(lkTy, 0)`.  With job 2 read in one state — either of them
— the answer is right. -/
theorem lookupValue2_aba_hazard :
    ValidOps2 lkCfg {} lkAba ∧
    lookupHashX (okSysD (runOps2 lkCfg {} (lkAba.take 3))) lkTx 0 = some (3, 2) ∧
    lookupValue2 (okSysD (runOps2 lkCfg {} (lkAba.take 6))) (okSysD (runOps2 lkCfg {} lkAba)) lkTx 0
      (some (3, 2)) = some (3, 20) ∧
    lookupValue true (okSysD (runOps2 lkCfg {} (lkAba.take 6))) lkTx 0 (some (3, 2)) = none ∧
    lookupValue true (okSysD (runOps2 lkCfg {} lkAba)) lkTx 0 (some (3, 2)) = some (3, 10) := by
  decide +kernel

end EV.Index
