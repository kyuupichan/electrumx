import EV.Proofs.CrashRecover
import EV.Proofs.CrashObs
import EV.Proofs.IndexEval

/-!
# C04 — A crash at any point while indexing forward loses nothing that was committed

"If the process dies at any instant during block processing or a flush (between or in the middle of
metadata file writes, between the history commit and the UTXO commit, before or after the state
record), then on restart the database opens, reports a height it had fully committed, and every
observable of the index equals that of a clean index of the chain to that height; resuming sync then
reaches exactly the same final state as an uninterrupted run."

Model: `flushDbs s fu` gives the ordered effect list of `DB.flush_dbs` (three file writes, the
history batch, and for a full flush the UTXO batch and the trailing direct `put` of the state);
`cuts es` is every state a process crash can leave behind (every prefix of the list, the last file
write of the prefix possibly torn at any record); `recover cfg p = openDbs cfg p false none` is
`DB.open_for_sync()` in a fresh process.  Block processing between flushes changes memory only
(`advance` returns the same `p`), so a crash there is the cut `[]` of the next flush.

What is proved here (for all states, all blocks, all cuts — no bound): a crash anywhere before the
UTXO commit restarts to exactly the committed state the flush started from, a crash after it leaves
the store of the complete flush, so every answer of the read path after the restart is the answer a
restart on one of those two stores gives (C01/C02 say what those answers are); dying inside
recovery's own batches and restarting again gives the same system; the hypothesis `FlushPre.ufc`
(history flush count not below the UTXO one) cannot be dropped: finding F9.

Hypotheses: `FlushPre s` (defined in `EV/Proofs/CrashFlush.lean`, each field explained there; non-vacuity
example at the end).  Tie to the code: suite `crash` — every cut of every flush of generated runs is
injected into the real `flush_dbs` on LevelDB, the real `open_for_sync()` is run, and the reopened
store is compared with `openDbs (applyEffects before cut)` and with the specification of the chain.
Trusted, not proved: LevelDB batches are atomic and durable; a killed process loses no completed
`write()`.  Resuming the sync from the recovered state is the subject of `C04resume.lean`.
-/
namespace EV.Index

/-- **C04 (crash before the UTXO commit).**  For the effect list `es` of `flush_dbs` (history-only or
full) from a state satisfying `FlushPre`, and every cut `c` of it that does not contain the UTXO
batch — between or inside the three file writes, before or after the history batch — restarting on
the cut store gives the same committed index as restarting on the store the flush started from:
same `h`/`u`/undo tables and UTXO state record, the same history table row for row
(`clear_excess` removes exactly the rows the flush wrote), the same history flush count, the same
`DB.state`/history counters in memory, the same files up to the committed height / tx count, and
`_read_tx_counts` succeeds iff it did before, with the same result. -/
theorem C04_cut_before_utxo_batch (cfg : Cfg) {s : Sys} {fu : Bool} {es : List Effect} {m' : Mem}
    (hpre : FlushPre s) (hf : flushDbs s fu = some (es, m'))
    {c : List Effect} (hc : c ∈ cuts es) (hnu : ∀ e ∈ c, e.isUtxoBatch = false) :
    RecoversSame cfg s.p (applyEffects s.p c) := by
  rcases flush_cut_commit hf hc with ⟨h, -⟩ | ⟨⟨e, he, heu⟩, -⟩
  · exact recoversSame_of_cut_head cfg hpre h
  · cases (hnu e he).symm.trans heu

/-- in particular `History.get_txnums` is unchanged for every script hash and limit -/
theorem C04_cut_before_getTxnums (cfg : Cfg) {s : Sys} {fu : Bool} {es : List Effect} {m' : Mem}
    (hpre : FlushPre s) (hf : flushDbs s fu = some (es, m'))
    {c : List Effect} (hc : c ∈ cuts es) (hnu : ∀ e ∈ c, e.isUtxoBatch = false)
    (hx : HashX) (limit : Option Nat) :
    getTxnums (openStore cfg (applyEffects s.p c)) hx limit = getTxnums (openStore cfg s.p) hx limit := by
  unfold getTxnums
  rw [(C04_cut_before_utxo_batch cfg hpre hf hc hnu).hist]

/-- the restarted memory (BlockProcessor/DB/History fields) is the same, or the restart fails on both -/
theorem C04_cut_before_memory (cfg : Cfg) {s : Sys} {fu : Bool} {es : List Effect} {m' : Mem}
    (hpre : FlushPre s) (hf : flushDbs s fu = some (es, m'))
    {c : List Effect} (hc : c ∈ cuts es) (hnu : ∀ e ∈ c, e.isUtxoBatch = false) :
    (recover cfg (applyEffects s.p c)).map (·.2.m) = (recover cfg s.p).map (·.2.m) := by
  rw [(C04_cut_before_utxo_batch cfg hpre hf hc hnu).recover, Option.map_map]
  rfl

/-- **C04 (crash after the UTXO commit).**  Every cut that contains the UTXO batch leaves exactly
the store of the complete flush: the trailing direct `put` of the state record repeats what the
batch wrote (the model leaves out the wall-clock fields, which are all that differs in the code). -/
theorem C04_cut_after_utxo_batch {s : Sys} {fu : Bool} {es : List Effect} {m' : Mem}
    (hf : flushDbs s fu = some (es, m'))
    {c : List Effect} (hc : c ∈ cuts es) (hu : ∃ e ∈ c, e.isUtxoBatch = true) :
    applyEffects s.p c = applyEffects s.p es := by
  rcases flush_cut_commit hf hc with ⟨-, hnu⟩ | ⟨-, h⟩
  · obtain ⟨e, he, heu⟩ := hu
    cases (hnu e he).symm.trans heu
  · exact h

/-- **C04 (every crash point of every flush).**  Whatever the cut, the restart finds the committed
state from before the flush or the one after it — never a mixture. -/
theorem C04_crash (cfg : Cfg) {s : Sys} {fu : Bool} {es : List Effect} {m' : Mem}
    (hpre : FlushPre s) (hf : flushDbs s fu = some (es, m')) {c : List Effect} (hc : c ∈ cuts es) :
    RecoversSame cfg s.p (applyEffects s.p c) ∨ applyEffects s.p c = applyEffects s.p es := by
  exact (flush_cut_commit hf hc).imp (fun h => recoversSame_of_cut_head cfg hpre h.1) (·.2)

/-- **C04 (observables).**  Let `r0` be the system a restart gives on the store the flush started
from and `r1` the one on the store of the completed flush (C01/C02 describe their observables: those
of a clean index of the chain to `r0.m.dbst.height`, resp. to the flushed height).  Then for every
cut the restart succeeds and every read-path answer — `all_utxos`, `limited_history`,
`lookup_utxos`, `fs_tx_hashes_at_blockheight`, `read_headers`, `fs_tx_hash`, the state — equals
that of `r0` or that of `r1`.  `hmono`: the committed part of the tx-counts file is non-decreasing
(it is the cumulative tx count; part of C02's file invariant). -/
theorem C04_crash_observables (cfg : Cfg) {s : Sys} {fu : Bool} {es : List Effect} {m' : Mem}
    (hpre : FlushPre s) (hf : flushDbs s fu = some (es, m')) {c : List Effect} (hc : c ∈ cuts es)
    {e0 e1 : List Effect} {r0 r1 : Sys}
    (h0 : recover cfg s.p = some (e0, r0)) (h1 : recover cfg (applyEffects s.p es) = some (e1, r1))
    (hmono : r0.m.txCounts.Pairwise (· ≤ ·)) :
    ∃ e r, recover cfg (applyEffects s.p c) = some (e, r) ∧ (ObsEq r0 r ∨ r = r1) := by
  rcases C04_crash cfg hpre hf hc with h | h
  · obtain ⟨e, r, hr, hobs⟩ := obsEq_of_recoversSame h h0 hmono
    exact ⟨e, r, hr, Or.inl hobs⟩
  · exact ⟨e1, r1, by rw [h, h1], Or.inr rfl⟩

/-- **C04 (a second crash during recovery).**  `_open_dbs` itself writes two batches
(`clear_excess`, `clear_excess_undo_info`).  Dying at any cut of those and restarting again gives
the same system (store and memory) as the uninterrupted restart. -/
theorem C04_recovery_idempotent (cfg : Cfg) (p : Store) {es : List Effect} {r : Sys}
    (h : recover cfg p = some (es, r)) {c : List Effect} (hc : c ∈ cuts es) :
    (recover cfg (applyEffects p c)).map (·.2) = some r := by
  obtain ⟨rfl, _⟩ := recover_effects h
  have hr : (recover cfg p).map (·.2) = some r := by rw [h]; rfl
  rcases recover_cut_stores cfg p hc with e | e | e <;> rw [e]
  · exact hr
  · rw [recover_congr cfg (openStore_openStore1 cfg p) (openState_openStore1 p false)]; exact hr
  · rw [recover_congr cfg (openStore_idem cfg p) (openState_openStore cfg p false)]; exact hr

/-- a database on which a history compaction finished (history flush count reset to 2) but the
    final `set_flush_count` was lost (UTXO state still says 4); block 1 indexed, not yet flushed -/
def exF9 : Sys :=
  { p := { ustate := some { height := 0, txCount := 1, flushCount := 4, tip := 10, utxoCount := 1 },
           hstate := some { flushCount := 2 },
           hist := [((7, 2), [0])],
           headers := [100], txcounts := [1], hashes := [50] },
    m := { st := { height := 1, txCount := 2, tip := 11, utxoCount := 2 },
           dbst := { height := 0, txCount := 1, flushCount := 4, tip := 10, utxoCount := 1 },
           fsHeight := 0, fsTxCount := 1, txCounts := [1, 2], headersU := [101], txHashesU := [[51]],
           unflushed := [(7, [1])], histFlush := 2 } }

def exF9es : List Effect :=
  [.writeHeaders 1 [101], .writeTxCounts 1 [2], .writeHashes 1 [51],
   .histBatch [] [((7, 3), [1])] { flushCount := 3 }]

/-- **F9 (C14 × C04).**  After a compaction whose last step was lost, a crash between the history
commit and the UTXO commit of the next flush is *not* repaired: `clear_excess` does not fire
(history count 3 ≤ stale UTXO count 4), the uncommitted row `(7, 3) ↦ [1]` survives the restart,
and the history of script hash 7 names tx number 1 although the index is at height 0 with one
transaction.  Every other field of `FlushPre` holds of this state. -/
theorem C04_counterexample_after_compaction :
    (flushDbs exF9 false).map (·.1) = some exF9es ∧
    exF9es ∈ cuts exF9es ∧ (∀ e ∈ exF9es, e.isUtxoBatch = false) ∧
    -- all of `FlushPre` but `ufc`
    exF9.m.histFlush = (exF9.p.hstate.getD {}).flushCount ∧
    (∀ e ∈ exF9.p.hist, e.1.2 ≤ exF9.m.histFlush) ∧
    (exF9.p.ustate.getD {}).height ≤ exF9.m.fsHeight ∧
    (exF9.p.hstate.getD {}).flushCount < (exF9.p.ustate.getD {}).flushCount ∧
    -- the restart before the flush vs. after the cut (`⟨0, 200⟩`: activation height 0, `reorg_limit` 200)
    getTxnums (openStore ⟨0, 200⟩ exF9.p) 7 none = [0] ∧
    getTxnums (openStore ⟨0, 200⟩ (applyEffects exF9.p exF9es)) 7 none = [0, 1] ∧
    ((openStore ⟨0, 200⟩ (applyEffects exF9.p exF9es)).ustate.getD {}).txCount = 1 := by
  refine ⟨?_, self_mem_cuts _, by decide, by decide, by decide, by decide, by decide, by decide +kernel, ?_,
    by decide +kernel⟩
  · simp only [flushDbs, histFlushEffect, sortByKey_eval]
    rfl
  · -- the restart keeps both rows of script hash 7; sorted by flush id they give `[0, 1]`
    simp only [getTxnums_eval]
    decide +kernel

/-! ### non-vacuity: a state in the middle of a sync satisfies `FlushPre`, its flush has cuts of
every kind, and the restart after the cut "history batch committed, UTXO batch not" succeeds -/

/-- height 0 committed under flush count 1; a history-only flush (id 2) ran ahead for block 1;
    block 2 is indexed in memory -/
def exPre : Sys :=
  { p := { ustate := some { height := 0, txCount := 1, flushCount := 1, tip := 10, utxoCount := 1 },
           hstate := some { flushCount := 2 },
           hist := [((7, 2), [1]), ((7, 1), [0])],
           u := [((7, 0, 0), 50)], h := [((0, 0, 0), 7)],
           headers := [100, 101], txcounts := [1, 2], hashes := [50, 51] },
    m := { st := { height := 2, txCount := 3, tip := 12, utxoCount := 3 },
           dbst := { height := 0, txCount := 1, flushCount := 1, tip := 10, utxoCount := 1 },
           fsHeight := 1, fsTxCount := 2, txCounts := [1, 2, 3], headersU := [102], txHashesU := [[52]],
           cache := [((51, 0), ⟨7, 1, 60⟩), ((52, 0), ⟨7, 2, 70⟩)],
           unflushed := [(7, [2])], histFlush := 2 } }

example : FlushPre exPre :=
  ⟨by decide, by decide, by decide, by decide, by decide, by decide, by decide, by decide⟩

example : (flushDbs exPre true).map (fun r => (r.1.length, (cuts r.1).length)) = some (6, 10) := by
  decide +kernel

end EV.Index
