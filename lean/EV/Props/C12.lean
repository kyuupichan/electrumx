import EV.Proofs.MerkleCache

/-!
# C12 — Merkle branches, roots and the incremental cache agree with the definition

> For every non-empty list of hashes and every index, the branch returned folds back to the
> returned root, the root equals the Bitcoin merkle root of the list, the branch has exactly
> ceil(log2(n)) elements, the TSC form differs only by marking duplicated nodes, and a cache that
> has been initialised, extended and truncated in any order returns the same branch and root as a
> from-scratch computation for every (length, index).

Model: `EV/Model/Merkle.lean` (literal model of `lib/merkle.py :: Merkle, MerkleCache`), tied to the
classes in /repo by the `merkle` correspondence suite on every run.

Everything is generic in the node type and in `H : Node → Node → Node` (the code's
`hash_func(a + b)`); **no property of `H` is assumed** — the theorems are equalities of terms.
All theorems are unbounded: every list, every index, every `length` padding, every depth, every
operation sequence.  `merkleRoot` (duplicate the last node of an odd level, hash the pairs,
recurse), `lvl`, `isDup`, `dupN` are the specification (`EV/Model/Merkle.lean`, last section).

Finding F2: at the pinned commit `Merkle.branch_length` was `ceil(log(n, 2))` in floating point:
30 at n = 2^29 (also wrong at 2^31, 2^39, 2^47, 2^51, …; too *small* at 2^49+1, 2^50+1, …), which
makes `branch_and_root` hash a list of exactly 2^29 nodes one level too far (root `H r r`).  IEEE
`log` has no Lean model, so there is no Lean counterexample theorem; the failing inputs are in the
suite's corpus and are replayed on the real function on every run (`branch_length(2**29) == 29`).
The model is the fixed integer function `(hash_count - 1).bit_length()`, and `branchLength_spec`
below holds for *every* n (the property's bound 2^62 is not needed).
-/
namespace EV.Merkle

variable {Node : Type} (H : Node → Node → Node)

/-- **C12 (branch length function).**  For every `n ≥ 1`, `branch_length(n) = ⌈log₂ n⌉`. -/
theorem branchLength_spec (n : Nat) (hn : 1 ≤ n) : branchLength (.int n) = .ok (Nat.clog 2 n) :=
  branchLength_natCast hn

/-- the error branches of `branch_length` -/
theorem branchLength_errors :
    branchLength .notInt = .error .typeError ∧
    ∀ v : Int, v < 1 → branchLength (.int v) = .error .valueError := by
  refine ⟨rfl, fun v hv => ?_⟩
  simp only [branchLength, hv, if_true]

/-- the F2 witnesses, pinned on the model (the real function is compared with these on every run) -/
example : branchLength (.int (2 ^ 29)) = .ok 29 ∧ branchLength (.int (2 ^ 49 + 1)) = .ok 50 ∧
    branchLength (.int (2 ^ 62)) = .ok 62 := by decide +kernel

/-- **C12 (root).**  For every non-empty list and every index in range — in either format —
`branch_and_root` returns (it raises nothing, in particular no `IndexError` inside the loop) and
the returned root is the merkle root of the list. -/
theorem bar_root (hs : List Node) (idx : Nat) (tsc : Bool) (h : idx < hs.length) :
    ∃ br, branchAndRoot H hs (.int idx) none tsc =
      .ok (br, merkleRoot H hs (List.ne_nil_of_length_pos (by omega))) :=
  ⟨_, branchAndRoot_none H tsc hs idx h⟩

/-- `Merkle.root(hashes)` is the merkle root -/
theorem root_spec (hs : List Node) (hne : hs ≠ []) : root H hs none = .ok (merkleRoot H hs hne) := by
  rw [root, show IntArg.int 0 = .int ((0 : Nat) : Int) from rfl,
    branchAndRoot_none H false hs 0 (List.length_pos_iff.mpr hne)]

/-- **C12 (fold).**  The classic branch contains only nodes, and the real verification procedure
`root_from_proof(hashes[idx], branch, idx)` returns exactly the returned root. -/
theorem bar_fold (hs : List Node) (idx : Nat) (h : idx < hs.length) :
    ∃ (nodes : List Node) (r : Node),
      branchAndRoot H hs (.int idx) none false = .ok (nodes.map .node, r) ∧
      rootFromProof H hs[idx] nodes idx = .ok r := by
  refine ⟨nodesOf (specBranch H false (Nat.clog 2 hs.length) hs idx),
    merkleRoot H hs (List.ne_nil_of_length_pos (by omega)), ?_, ?_⟩
  · rw [← specBranch_false H _ hs idx h]; exact branchAndRoot_none H false hs idx h
  · rw [fold_root H hs idx _ h (Nat.le_refl _), Nat.sub_self]; rfl

/-- **C12 (length).**  Whatever `branch_and_root(hashes, index)` returns, the branch has exactly
`⌈log₂ len(hashes)⌉` elements (either format). -/
theorem bar_length (hs : List Node) (i : Int) (tsc : Bool) (br : List (Elt Node)) (r : Node)
    (hres : branchAndRoot H hs (.int i) none tsc = .ok (br, r)) :
    br.length = Nat.clog 2 hs.length := by
  obtain ⟨h0, h1⟩ := branchAndRoot_ok_range H hres
  obtain ⟨idx, rfl⟩ : ∃ n : Nat, i = n := ⟨i.toNat, by omega⟩
  rw [branchAndRoot_none H tsc hs idx (by omega)] at hres
  cases hres
  exact specBranch_length H tsc _ hs idx

/-- **C12 (`length` padding).**  With an explicit `length = l ≥ ⌈log₂ n⌉` the branch has `l`
elements, starts with the natural branch, the root is the merkle root hashed with itself
`l − ⌈log₂ n⌉` times, and the (TSC-aware) fold of the branch still gives that root. -/
theorem bar_padding (hs : List Node) (idx l : Nat) (tsc : Bool) (h : idx < hs.length)
    (hl : Nat.clog 2 hs.length ≤ l) :
    ∃ br brNat r, branchAndRoot H hs (.int idx) (some (.int l)) tsc = .ok (br, r) ∧
      branchAndRoot H hs (.int idx) none tsc = .ok (brNat, merkleRoot H hs (List.ne_nil_of_length_pos (by omega))) ∧
      r = dupN H (l - Nat.clog 2 hs.length) (merkleRoot H hs (List.ne_nil_of_length_pos (by omega))) ∧
      br.length = l ∧ br.take (Nat.clog 2 hs.length) = brNat ∧
      rootFromProofTsc H hs[idx] br idx = .ok r := by
  refine ⟨_, _, _, branchAndRoot_some H tsc hs idx l h hl, branchAndRoot_none H tsc hs idx h, rfl,
    specBranch_length H tsc _ hs idx, ?_, fold_root_tsc H tsc hs idx l h hl⟩
  obtain ⟨k, rfl⟩ : ∃ k, l = Nat.clog 2 hs.length + k := ⟨l - Nat.clog 2 hs.length, by omega⟩
  rw [specBranch_add, List.take_left' (specBranch_length H tsc _ hs idx)]

/-- the error branches of `branch_and_root`, in the code's order -/
theorem bar_errors (hs : List Node) (tsc : Bool) :
    (∀ len, branchAndRoot H hs .notInt len tsc = .error .typeError) ∧
    (∀ (i : Int) len, ¬ (0 ≤ i ∧ i < hs.length) →
      branchAndRoot H hs (.int i) len tsc = .error .valueError) ∧
    (∀ i : Int, 0 ≤ i → i < hs.length →
      branchAndRoot H hs (.int i) (some .notInt) tsc = .error .typeError) ∧
    (∀ i l : Int, 0 ≤ i → i < hs.length → l < Nat.clog 2 hs.length →
      branchAndRoot H hs (.int i) (some (.int l)) tsc = .error .valueError) := by
  refine ⟨fun _ => rfl, fun i len hc => branchAndRoot_out_of_range H len tsc hc,
    fun i h0 h1 => ?_, fun i l h0 h1 hl => ?_⟩
  · obtain ⟨idx, rfl⟩ := Int.eq_ofNat_of_zero_le h0
    exact branchAndRoot_in_range H tsc (by omega) _
  · obtain ⟨idx, rfl⟩ := Int.eq_ofNat_of_zero_le h0
    rw [branchAndRoot_in_range H tsc (by omega)]
    exact if_pos hl

/-- **C12 (TSC).**  The TSC branch has the same root and length as the classic one, equals it
position by position except that it carries `*` at exactly the positions where the sibling is the
node's own duplicate (`isDup`: the node on the path is the last one of an odd-length level), the
classic branch carries no marker at all, and folding the TSC branch with the running hash
substituted for `*` gives the same root. -/
theorem tsc_spec (hs : List Node) (idx : Nat) (h : idx < hs.length) :
    ∃ (nodes : List Node) (brT : List (Elt Node)) (r : Node),
      branchAndRoot H hs (.int idx) none false = .ok (nodes.map .node, r) ∧
      branchAndRoot H hs (.int idx) none true = .ok (brT, r) ∧
      brT.length = nodes.length ∧
      (∀ k, k < nodes.length →
        brT[k]? = if isDup H hs idx k then some .star else (nodes[k]?).map .node) ∧
      rootFromProofTsc H hs[idx] brT idx = .ok r := by
  have hcl := specBranch_false H (Nat.clog 2 hs.length) hs idx h
  have hlen := nodesOf_specBranch_length H (Nat.clog 2 hs.length) h
  refine ⟨nodesOf (specBranch H false (Nat.clog 2 hs.length) hs idx),
    specBranch H true (Nat.clog 2 hs.length) hs idx,
    merkleRoot H hs (List.ne_nil_of_length_pos (by omega)), ?_,
    branchAndRoot_none H true hs idx h, ?_, ?_, ?_⟩
  · rw [← hcl]; exact branchAndRoot_none H false hs idx h
  · rw [specBranch_length, hlen]
  · intro k hk
    rw [specBranch_tsc H _ hs idx h k (hlen ▸ hk), ← List.getElem?_map, ← hcl]
  · rw [fold_root_tsc H true hs idx _ h (Nat.le_refl _), Nat.sub_self]; rfl

/-- `Merkle.level(hashes, d)` never raises and is level `d` of the tree (for every list, also the
empty one, and every `d`; the final chunk may be partial: its root is padded up to depth `d`). -/
theorem level_spec (hs : List Node) (d : Nat) : level H hs d = .ok (lvl H d hs) := level_eq H hs d

/-- **C12 (from_level).**  Whenever `d ≤ ⌈log₂ n⌉` — in particular whenever `2^d ≤ n`, the path
`MerkleCache` takes — the branch assembled from the cached level and the `2^d`-aligned segment of
leaves around `idx` (the final segment may be partial) is exactly `branch_and_root` of the whole
list, in both formats; the consistency check passes. -/
theorem from_level [DecidableEq Node] (hs : List Node) (d idx : Nat) (tsc : Bool)
    (hidx : idx < hs.length) (hd : d ≤ Nat.clog 2 hs.length) :
    ∃ lv, level H hs d = .ok lv ∧
      branchAndRootFromLevel H (.list lv)
        (.list ((hs.drop (idx / 2 ^ d * 2 ^ d)).take (2 ^ d))) (.int idx) d tsc =
      branchAndRoot H hs (.int idx) none tsc :=
  ⟨_, level_eq H hs d, from_level_eq H tsc hs d idx hidx hd⟩

theorem from_level_of_pow_le [DecidableEq Node] (hs : List Node) (d idx : Nat) (tsc : Bool)
    (hidx : idx < hs.length) (hd : 2 ^ d ≤ hs.length) :
    ∃ lv, level H hs d = .ok lv ∧
      branchAndRootFromLevel H (.list lv)
        (.list ((hs.drop (idx / 2 ^ d * 2 ^ d)).take (2 ^ d))) (.int idx) d tsc =
      branchAndRoot H hs (.int idx) none tsc :=
  from_level H hs d idx tsc hidx (pow_le_clog hd)

/-- the type checks of `branch_and_root_from_level` -/
theorem from_level_errors [DecidableEq Node] (lv lf : ListArg Node) (i : IntArg) (d : Nat) (tsc : Bool) :
    (lv = .notList → branchAndRootFromLevel H lv lf i d tsc = .error .typeError) ∧
    (lf = .notList → branchAndRootFromLevel H lv lf i d tsc = .error .typeError) := by
  constructor
  · rintro rfl; rfl
  · rintro rfl; cases lv <;> rfl

/-! ## `MerkleCache`

`CacheInv H c src`: `c.level` is level `c.depthHigher` of the tree of the first `c.length` source
hashes (the last entry being the padded root of the final, possibly partial, segment — the "tail
segment rule" of `_extend_to`).
`depthHigher` is *not* constrained: it keeps the value chosen by `initialize` however far the
cache is later extended or truncated, and the theorems hold for every value. -/

/-- `initialize(n)` with `1 ≤ n ≤ len(src)` establishes the invariant (from any prior state) -/
theorem cache_init (c : Cache Node) (src : List Node) (n : Nat) (h1 : 1 ≤ n) (hn : n ≤ src.length) :
    (c.init H src n).2 = none ∧ CacheInv H (c.init H src n).1 src := by
  rw [init_eq H c src n h1]
  exact ⟨rfl, rfl, hn, rfl⟩

/-- `_extend_to(n)` with `n ≤ len(src)` preserves the invariant and raises nothing -/
theorem cache_extend (c : Cache Node) (src : List Node) (n : Nat) (hinv : CacheInv H c src)
    (hn : n ≤ src.length) :
    (c.extendTo H src n).2 = none ∧ CacheInv H (c.extendTo H src n).1 src ∧
      (c.extendTo H src n).1.length = max c.length n :=
  extendTo_inv H c src n hinv hn

/-- `truncate(a)` preserves the invariant for **every** argument (wrong type, non-positive,
larger than the cache, unaligned …); when it acts the cache covers at most `a` hashes -/
theorem cache_truncate (c : Cache Node) (src : List Node) (a : IntArg) (hinv : CacheInv H c src) :
    CacheInv H (c.truncate a).1 src ∧
    (∀ l : Int, a = .int l → 0 < l →
      (c.truncate a).1.length ≤ c.length ∧ (c.truncate a).1.length ≤ l.toNat) := by
  refine ⟨truncate_inv H c src a hinv, ?_⟩
  rintro l rfl hl
  exact ⟨(truncate_length c l hl).1, (truncate_length c l hl).2.1⟩

/-- the source may change above the cached length (growth, or a re-organisation after
`truncate`) without breaking the invariant -/
theorem cache_source_change (c : Cache Node) (src src' : List Node) (hinv : CacheInv H c src)
    (hlen : c.length ≤ src'.length) (hsame : src'.take c.length = src.take c.length) :
    CacheInv H c src' :=
  hinv.congr H hlen hsame

/-- **C12 (cache).**  Under the invariant, `branch_and_root(length, index)` with
`0 < length ≤ len(src)` and `index < length` returns exactly what a from-scratch
`Merkle.branch_and_root(src[:length], index)` returns — the same branch and the same root, in
either format (and the same `ValueError` for a negative index) — whichever of the two paths
(direct / cached level) the code takes, and the invariant holds afterwards. -/
theorem cache_correct [DecidableEq Node] (c : Cache Node) (src : List Node) (l i : Int) (tsc : Bool)
    (hinv : CacheInv H c src) (hl0 : 0 < l) (hl : l.toNat ≤ src.length) (hi : i < l) :
    (c.query H src (.int l) (.int i) tsc).2 =
        Outcome.ofExcept (branchAndRoot H (src.take l.toNat) (.int i) none tsc) ∧
      CacheInv H (c.query H src (.int l) (.int i) tsc).1 src := by
  rw [query_eq H c src l i tsc hinv hl0 hl hi]
  exact ⟨rfl, (extendTo_inv H c src l.toNat hinv hl).2.1⟩

/-- `cache_correct` on natural numbers, the form its users have the arguments in -/
theorem cache_correct_nat [DecidableEq Node] {c : Cache Node} {src : List Node} (hinv : CacheInv H c src)
    {l i : Nat} (hl : l ≤ src.length) (hi : i < l) (tsc : Bool) :
    (c.query H src (.int l) (.int i) tsc).2 =
        Outcome.ofExcept (branchAndRoot H (src.take l) (.int i) none tsc) ∧
      CacheInv H (c.query H src (.int l) (.int i) tsc).1 src :=
  cache_correct H c src l i tsc hinv (Int.natCast_pos.mpr (Nat.zero_lt_of_lt hi)) hl (Int.ofNat_lt.mpr hi)

/-- requests the cache rejects (wrong types, `length ≤ 0`, `index ≥ length`) or that wait on an
uninitialised cache leave it untouched -/
theorem cache_rejects [DecidableEq Node] (c : Cache Node) (src : List Node) (l i : IntArg) (tsc : Bool) :
    (l = .notInt → c.query H src l i tsc = (c, .raised .typeError)) ∧
    (∀ lv, l = .int lv → i = .notInt → c.query H src l i tsc = (c, .raised .typeError)) ∧
    (∀ lv iv, l = .int lv → i = .int iv → lv ≤ 0 ∨ iv ≥ lv →
      c.query H src l i tsc = (c, .raised .valueError)) ∧
    (∀ lv iv, l = .int lv → i = .int iv → 0 < lv → iv < lv → c.initialized = false →
      c.query H src l i tsc = (c, .blocked)) := by
  refine ⟨?_, ?_, ?_, ?_⟩
  · rintro rfl; rfl
  · rintro lv rfl rfl; rfl
  -- on two ints `query` is, by definition, the code's chain of `if`s
  · rintro lv iv rfl rfl h
    by_cases h1 : lv ≤ 0
    · exact if_pos h1
    · exact (if_neg h1).trans (if_pos (by omega))
  · rintro lv iv rfl rfl h1 h2 h3
    refine (if_neg (by omega)).trans ((if_neg (by omega)).trans ?_)
    rw [h3]
    rfl

theorem step_inv [DecidableEq Node] (c : Cache Node) (src : List Node) (op : CacheOp)
    (hinv : CacheInv H c src) (hok : op.OK src.length) : CacheInv H (c.step H src op) src := by
  cases op with
  | init n => exact (cache_init H c src n hok.1 hok.2).2
  | truncate a => exact truncate_inv H c src a hinv
  | query l i tsc =>
    -- a query either leaves the cache as it is or is one `cache_correct` speaks of
    obtain ⟨r1, r2, r3, _⟩ := cache_rejects H c src l i tsc
    show CacheInv H (c.query H src l i tsc).1 src
    cases l with
    | notInt => rw [r1 rfl]; exact hinv
    | int lv =>
      cases i with
      | notInt => rw [r2 lv rfl rfl]; exact hinv
      | int iv =>
        by_cases h : lv ≤ 0 ∨ iv ≥ lv
        · rw [r3 lv iv rfl rfl h]; exact hinv
        · exact (cache_correct H c src lv iv tsc hinv (by omega) hok (by omega)).2

theorem run_inv [DecidableEq Node] (src : List Node) : ∀ (ops : List CacheOp) (c : Cache Node),
    CacheInv H c src → (∀ op ∈ ops, op.OK src.length) → CacheInv H (c.run H src ops) src
  | [], _, h, _ => h
  | op :: ops, c, h, hok =>
    run_inv src ops _ (step_inv H c src op h (hok op List.mem_cons_self)) (fun o ho => hok o (List.mem_cons_of_mem _ ho))

/-- **C12 (any order).**  Start from a fresh cache, initialise it, then run *any* sequence of
initialise / truncate / query operations (`CacheOp.OK`: lengths within the source; arguments of
the wrong type, non-positive lengths, out-of-range indices are all allowed).  A query made
afterwards for any `(length, index)` with `0 ≤ index < length ≤ len(src)`, in either format,
returns the branch and the merkle root of the first `length` source hashes, exactly as
`Merkle.branch_and_root` computes them from scratch. -/
theorem cache_any_sequence [DecidableEq Node] (src : List Node) (n : Nat) (ops : List CacheOp)
    (l idx : Nat) (tsc : Bool)
    (hn : 1 ≤ n ∧ n ≤ src.length) (hops : ∀ op ∈ ops, op.OK src.length)
    (hl : l ≤ src.length) (hi : idx < l) :
    ∃ br,
      ((({} : Cache Node).run H src (.init n :: ops)).query H src (.int l) (.int idx) tsc).2 =
        .ret (br, merkleRoot H (src.take l) (List.ne_nil_of_length_pos (by rw [List.length_take]; omega))) ∧
      branchAndRoot H (src.take l) (.int idx) none tsc =
        .ok (br, merkleRoot H (src.take l) (List.ne_nil_of_length_pos (by rw [List.length_take]; omega))) := by
  have hinv : CacheInv H (({} : Cache Node).run H src (.init n :: ops)) src :=
    run_inv H src ops _ (cache_init H {} src n hn.1 hn.2).2 hops
  have hq := (cache_correct_nat H hinv hl hi tsc).1
  have hlt : idx < (src.take l).length := by rw [List.length_take]; omega
  have hb := branchAndRoot_none H tsc (src.take l) idx hlt
  rw [hb] at hq
  exact ⟨_, hq, hb⟩

/-! ## non-vacuity: concrete instances (free term hash, so the structure is visible) -/

section Examples

inductive T where
  | l (n : Nat)
  | n (a b : T)
deriving DecidableEq, Repr

open T

/-- 3 leaves, index 2: the node is the last of an odd level; TSC marks it, classic repeats it -/
example :
    branchAndRoot T.n [l 0, l 1, l 2] (.int 2) none false
      = .ok ([.node (l 2), .node (n (l 0) (l 1))], n (n (l 0) (l 1)) (n (l 2) (l 2))) ∧
    branchAndRoot T.n [l 0, l 1, l 2] (.int 2) none true
      = .ok ([.star, .node (n (l 0) (l 1))], n (n (l 0) (l 1)) (n (l 2) (l 2))) ∧
    isDup T.n [l 0, l 1, l 2] 2 0 ∧ ¬ isDup T.n [l 0, l 1, l 2] 2 1 ∧
    rootFromProof T.n (l 2) [l 2, n (l 0) (l 1)] 2 = .ok (n (n (l 0) (l 1)) (n (l 2) (l 2))) ∧
    rootFromProof T.n (l 2) [l 2, n (l 0) (l 1)] 6 = .error .valueError := by decide +kernel

example : merkleRoot T.n [l 0, l 1, l 2] (by simp) = n (n (l 0) (l 1)) (n (l 2) (l 2)) := by
  simp [merkleRoot, pairs]

/-- `length` padding one above the natural length: root hashed with itself once -/
example :
    branchAndRoot T.n [l 0, l 1] (.int 1) (some (.int 2)) true
      = .ok ([.node (l 0), .star], n (n (l 0) (l 1)) (n (l 0) (l 1))) ∧
    branchAndRoot T.n [l 0, l 1] (.int 1) (some (.int 0)) true = .error .valueError ∧
    branchAndRoot T.n [l 0, l 1] (.int 2) none true = .error .valueError ∧
    branchAndRoot T.n ([] : List T) (.int 0) none true = .error .valueError := by decide +kernel

/-- the first query extends the cache through the cached-level path; `truncate(3)` is unaligned:
the cache keeps 2 -/
example :
    let src := [l 0, l 1, l 2, l 3, l 4]
    let c1 := (({} : Cache T).init T.n src 3).1
    let q1 := c1.query T.n src (.int 5) (.int 4) false
    let c2 := (q1.1.truncate (.int 3)).1
    let q2 := c2.query T.n src (.int 4) (.int 3) true
    c1.depthHigher = 1 ∧ c1.level = [n (l 0) (l 1), n (l 2) (l 2)] ∧
    q1.1.length = 5 ∧ q1.1.level = [n (l 0) (l 1), n (l 2) (l 3), n (l 4) (l 4)] ∧
    q1.2 = Outcome.ofExcept (branchAndRoot T.n src (.int 4) none false) ∧
    c2.length = 2 ∧ c2.level = [n (l 0) (l 1)] ∧
    q2.2 = Outcome.ofExcept (branchAndRoot T.n (src.take 4) (.int 3) none true) ∧
    q2.1.length = 4 := by decide +kernel

/-- the hypotheses of `cache_any_sequence` are satisfiable by a sequence that mixes everything -/
example : ∀ op ∈ [CacheOp.query (.int 5) (.int 4) false, .truncate (.int 3), .truncate .notInt,
      .query (.int 0) (.int 0) true, .init 2, .query (.int 4) (.int (-1)) false, .query .notInt (.int 1) false],
    op.OK 5 := by
  simp only [List.forall_mem_cons, List.not_mem_nil, false_imp_iff, implies_true, CacheOp.OK]
  decide

end Examples

end EV.Merkle
