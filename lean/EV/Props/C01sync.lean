import EV.Proofs.SyncLoop
import EV.Props.C01run

/-!
# C01 / C02 at server level — what a client can read when it is told a height

"After the server has indexed any valid chain up to height h, the unspent outputs it reports …, the
confirmed balance …, its UTXO count (C01) and the confirmed history of every script hash (C02) are
exactly those implied by the chain's transactions up to h.  This holds for every fetch batching and
for every placement of intermediate cache flushes (history-only or full)."

`EV.SyncLoop` models *when* the block-processing task
advances, flushes and tells a height (`advance_blocks` with the flushes requested by the cache-size loop,
`on_caught_up`); composed here with `EV/Props/C01run.lean`.  Tie to the code: suite `sync` replays the event
trace of the real `fetch_and_process_blocks` task on this model and judges every told point on the real DB.
-/
namespace EV.SyncLoop
open EV.Index EV.Spec

/-- **Told-then-visible (invariant form).**  For every valid chain, every batching of its blocks and
every placement of history-only / full flushes requested between them, and every placement of
`on_caught_up` calls: the task never fails, and at every moment clients are told a height `h`
(`Notifications.on_block`) the index is fully flushed, `h` is the height of the chain indexed so far,
and the state satisfies the refinement invariant for exactly that chain. -/
theorem C01sync_told (cfg : Cfg) (evs : List Ev) (hv : ValidEvs cfg [] evs) :
    ∃ l ts, run cfg {} evs = .ok (l, ts) ∧ FullInv cfg (blocksOf evs) l.s ∧
      ∀ t ∈ ts, ∃ c, c <+: blocksOf evs ∧ FullInv cfg c t.2 ∧ Flushed t.2 ∧ t.1 = (c.length : Int) - 1 :=
  run_inv (cfg := cfg) (l := {}) evs (fullInv_init cfg) hv

/-- **Told-then-visible (observables).**  At every told point, what the read path answers from the
index — `all_utxos` of every script hash (up to order), `limited_history` with every limit, the
UTXO count and the tx count — is the specification of the chain up to the told height. -/
theorem C01sync_observables (cfg : Cfg) (evs : List Ev) (hv : ValidEvs cfg [] evs) :
    ∃ l ts, run cfg {} evs = .ok (l, ts) ∧
      ∀ t ∈ ts, ∃ c, c <+: blocksOf evs ∧ t.1 = (c.length : Int) - 1 ∧
        (∀ hx, ∃ rows, allUtxos t.2 hx = some rows ∧
          rows.Perm (((specChain cfg.act c).utxos.filter (·.hx == hx)).map
            (fun u => ⟨u.txnum, u.idx, u.txid, u.height, u.value⟩))) ∧
        (∀ hx limit, limitedHistory t.2 hx limit = some (historyPairs (specChain cfg.act c) hx limit)) ∧
        t.2.m.st.utxoCount = ((specChain cfg.act c).utxos.length : Int) ∧
        t.2.m.st.txCount = (specChain cfg.act c).txs.length := by
  obtain ⟨l, ts, h1, -, h3⟩ := C01sync_told cfg evs hv
  refine ⟨l, ts, h1, ?_⟩
  intro t ht
  obtain ⟨c, hc, inv, hfl, hh⟩ := h3 t ht
  exact ⟨c, hc, hh, C01_observables inv hfl⟩

/-- The first `on_caught_up` tells nothing (it only marks the server as caught up); every later one
tells the current height. -/
theorem C01sync_first_catchup_silent (cfg : Cfg) (l : Loop) (l' : Loop) (t : Option Int)
    (h : step cfg l .caughtUp = .ok (l', t)) : l'.caughtUp = true ∧ (t.isSome ↔ l.caughtUp = true) := by
  simp only [step] at h
  split at h
  · exact absurd h (by simp)
  · split at h <;> simp only [Except.ok.injEq, Prod.mk.injEq] at h <;> obtain ⟨rfl, rfl⟩ := h <;> simp_all

/-! non-vacuity: the two linked blocks of `C01run.lean`, a history-only flush requested after the first and
a full one after the second, caught up three times: the second and third `on_caught_up` tell heights 0, 1 -/
def exEvs : List Ev := [.block exB0 0 (some false), .caughtUp, .caughtUp, .block exB1 1 (some true), .caughtUp]

example : ValidEvs exCfg [] exEvs := ⟨exB0_valid, exB1_valid, trivial⟩

example : (match run exCfg {} exEvs with
           | .ok (_, ts) => ts.map (·.1)
           | .error _ => []) = [0, 1] := by decide +kernel

end EV.SyncLoop
