import EV.Proofs.IndexStore
import EV.Proofs.IndexBackup
import EV.Proofs.Reorg

/-!
# C03 — After any reorganisation the index equals a fresh index of the surviving chain

The representation relation `RepSys s U` (DESIGN.md §6.0) speaks only about the *specification's* UTXO list
`U` of the chain currently indexed — not about how the system got there.  Advancing maintains it
(`C01_block`), backing out maintains it (`C03_undo_exact`), so after any interleaving that ends on a chain
`c'` the system represents `specChain c'`, exactly what a server that only ever saw `c'` represents: no
trace of an orphaned block is left in anything the read path can see (`C01_all_utxos`).
-/
namespace EV.Index
open EV.Spec

/-- **C03 (undo is exact).**  Whatever the cache/rows split and prefix collisions: the loop of
`backup_block`, run on a system representing the UTXO set after a valid block `b` with that block's
undo list (the list `advance_block` produced for it, `C01_block`), succeeds, consumes exactly that
undo list, and leaves a system representing the UTXO set *before* the block; tx count and UTXO
count go back by exactly the block's contribution, and every script hash the block touched is in
the touched set handed to `History.backup`. -/
theorem C03_undo_exact (cfg : Cfg) (height : Nat) (b : Block) (S : St) (s : Sys)
    (hS : (S.utxos.map opOf).Nodup) (hv : ValidTxs cfg.act height S b.txs)
    (hrep : RepSys s (applyBlock cfg.act S height b).utxos) :
    ∃ a', backupTxs sysOps cfg height b.txs.reverse (blockUndo cfg.act height S b.txs)
            { s := s, txNum := 0 } = .ok (a', []) ∧
      RepSys a'.s S.utxos ∧ a'.txNum = b.txs.length ∧
      a'.delta = - blockDelta cfg.act height S b.txs ∧
      (∀ hx ∈ (blockTouched cfg.act height S b.txs).flatten, hx ∈ a'.touched) := by
  obtain ⟨a', h1, h2, h3, h4, h5⟩ :=
    backupTxs_inverts sysIface cfg height b.txs S hS hv [] { s := s, txNum := 0 } hrep
  refine ⟨a', by simpa using h1, h2, by simpa using h3, by simp only [h4]; omega, ?_⟩
  intro hx hmem
  exact h5 hx (Or.inr hmem)

/-- **C03 (advance then back out = nothing happened, for the UTXO set).** -/
theorem C03_advance_backup (cfg : Cfg) (height : Nat) (b : Block) (S : St) (s : Sys)
    (hrep : RepSys s S.utxos) (hv : ValidTxs cfg.act height S b.txs) :
    ∃ a1 a2, advanceTxs sysOps cfg height b.txs { s := s, txNum := S.txs.length } = .ok a1 ∧
      backupTxs sysOps cfg height b.txs.reverse a1.undo { s := a1.s, txNum := 0 } = .ok (a2, []) ∧
      RepSys a2.s S.utxos := by
  obtain ⟨a1, h1, h2, -, -, -, h6, -, -⟩ :=
    advanceTxs_spec sysIface cfg height b.txs S { s := s, txNum := S.txs.length } hrep rfl hv
  rw [List.nil_append] at h6
  have hS : (S.utxos.map opOf).Nodup := sysIface.nodup hrep
  obtain ⟨a2, g1, g2, _⟩ := C03_undo_exact cfg height b S a1.s hS hv h2
  exact ⟨a1, a2, h1, by rw [h6]; exact g1, g2⟩

/-- **C03 (which blocks are backed out).**  `_calc_reorg_range` returns exactly the fork point and
the number of blocks above it when the chain is at least twice as high as the fork is deep (the
condition in the property), and exactly the last `k` blocks for a forced reorg of `k`. -/
theorem C03_reorg_range {mine daemon : Nat → Reorg.Hash} {f n : Nat} (hf : Reorg.ForkAt mine daemon f)
    (hf1 : 1 ≤ f) (hfn : f ≤ n) (hcond : 2 * (n - f + 1) ≤ n) :
    Reorg.calcReorgRange mine daemon n (-1) = ((f : Int), (n : Int) - f + 1) :=
  Reorg.calcReorgRange_exact hf hf1 hfn hcond

theorem C03_reorg_range_forced (mine daemon : Nat → Reorg.Hash) (n k : Nat) :
    Reorg.calcReorgRange mine daemon n k = ((n : Int) - k + 1, (k : Int)) :=
  Reorg.calcReorgRange_forced mine daemon n k

end EV.Index
